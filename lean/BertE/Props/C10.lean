import BertE.Gen.Messages
import BertE.Gen.Reactor
import BertE.Gen.Commands
import BertE.Lemmas.Comments
import BertE.Lemmas.C10
import BertE.Drv.C10
import BertE.Drv.C01
import BertE.Lemmas.Conv
import BertE.Drv.Conv
/-
C10 — re-evaluation converges, never spams, commands run once, and the outcome of an evaluation depends only
on the state.

Property text: "If nothing changes outside Bert-E, re-evaluating the same pull request or commit at most two more
times reaches a state in which further evaluations move no branch, create no pull request and post no comment.
Bert-E never posts the same message twice in a row on a pull request, executes a command comment (help, reset, ...)
at most once, and the outcome of an evaluation depends only on the current state of the repository and of the
pull request, not on which jobs the same server instance processed before."

Model: the comment thread (`Model/Comments.lean`: `find_comment`, `_send_comment`, `notify_user`), the command pass of
`handle_comments` (`Reactor.commandPass`); for convergence the ref-level model (`Model/Flow.lean`) and the closed loop
(`Model/Conv.lean`).

How the text is read:
* "the same message": same class and same rendered text. The code compares texts (`comment.text.startswith(msg)`), so a
  latest comment that merely BEGINS with the new text also suppresses it.
* `dont_repeat_if_in_history` 0 and None both mean "always post" (the code tests truthiness). Those classes are of three
  deliberate kinds (`C10_repeatable_table`): a user who asks `help` twice gets the same answer twice in a row, by design.
* commands: outside the property are `no_comment` (a muted robot cannot answer, the command stays pending) and a handler
  that dies with another exception.
* purity holds by construction in the model; the content of that clause is the differential run of the tie (long-lived
  instance against a server restarted before every job).
-/
namespace BertE.C10
open BertE.Reactor BertE.Comments
open BertE.Gen.Messages (Msg messages)

def msgOf (msgs : List Gen.Messages.Msg) (cls : String) : Option Gen.Messages.Msg := msgs.find? (·.name == cls)

/-- `dont_repeat_if_in_history` of a class, from the message table -/
def nrOf (msgs : List Gen.Messages.Msg) : Norepeat := fun cls => (msgOf msgs cls).bind (·.norepeat)

/-- a template class whose messages are posted whatever the thread holds (`0` or `None`) -/
def alwaysPosted (m : Gen.Messages.Msg) : Bool :=
  m.kind == "template" && (m.norepeat == none || m.norepeat == some 0)

/-- What `C10_command_once` needs of the source: every registered command has a handler that can only raise
    template messages that are always posted. -/
def CommandsAnswered (msgs : List Gen.Messages.Msg) (cmds : List CmdSpec) (raises : List (String × List String)) : Bool :=
  cmds.all (fun c =>
    match raises.lookup c.name with
    | some cls => cls.all (fun n => match msgOf msgs n with | some m => alwaysPosted m | none => false)
    | none => false)

/-- no class asks for a negative window other than `-1` (`itertools.islice` would raise) -/
def NorepeatSane (msgs : List Gen.Messages.Msg) : Bool :=
  msgs.all (fun m => match m.norepeat with | some n => decide (-1 ≤ n) | none => true)

/-- On the source as it is: every command is answered by an always-posted message.
    (Before the commit "fix: always answer reset/force_reset commands so that they are executed only once"
    `ResetComplete` and `LossyResetWarning` had `-1` and this `decide` fails.) -/
theorem C10_table :
    CommandsAnswered messages Gen.Reactor.commands Gen.Commands.raises = true ∧ NorepeatSane messages = true := by
  decide +kernel

/-- classes that are always posted although they answer no command and are not information messages -/
def occurrenceMessages : List String := ["PartialMerge"]

def commandAnswers (raises : List (String × List String)) : List String := raises.flatMap (·.2)

/-- Every template class that is not protected against repetition is a command answer, an
    information message, or `PartialMerge`; every other template class is protected. -/
theorem C10_repeatable_table :
    ∀ m ∈ messages, alwaysPosted m = true →
      m.name ∈ commandAnswers Gen.Commands.raises ∨ m.name ∈ Gen.Commands.information ∨ m.name ∈ occurrenceMessages := by
  decide +kernel

/-- `Conv.Protected`, decidably -/
def protectedB (nr : Comments.Norepeat) (cls : String) : Bool :=
  match nr cls with
  | some n => decide (1 ≤ n ∨ n = -1)
  | none => false

/-- one walk through the message table for `C10_protected_table` and for the form of it that the closed loop uses
    (`C10_gate_messages_protected`: the same, read through the lookup by class name) -/
private theorem protected_tables :
    ∀ m ∈ messages, m.kind = "template" →
      m.name ∉ commandAnswers Gen.Commands.raises → m.name ∉ Gen.Commands.information → m.name ∉ occurrenceMessages →
      (∃ n, m.norepeat = some n ∧ (n = -1 ∨ 1 ≤ n)) ∧ protectedB BertE.Drv.Conv.nrGen m.name = true := by
  decide +kernel

/-- ...and conversely the messages the gates raise (approvals, build, Jira, conflicts, queueing, unknown commands, ...)
    are all protected: a template class outside the three kinds has `-1` or a positive window. -/
theorem C10_protected_table :
    ∀ m ∈ messages, m.kind = "template" →
      m.name ∉ commandAnswers Gen.Commands.raises → m.name ∉ Gen.Commands.information → m.name ∉ occurrenceMessages →
      ∃ n, m.norepeat = some n ∧ (n = -1 ∨ 1 ≤ n) :=
  fun m hm h1 h2 h3 h4 => (protected_tables m hm h1 h2 h3 h4).1

/-! ### Never the same message twice in a row -/

/-- what happens on a pull request's thread -/
inductive Ev where
  | user (c : Comment)                       -- somebody writes a comment
  | notify (m : Comments.Msg) (muted : Bool) -- a job calls `notify_user` for message `m` (`muted`: the `no_comment` setting)
  deriving Repr

/-- a comment of the thread with, for the robot's postings, the message it was posted for -/
structure Entry where
  comment : Comment
  via : Option Comments.Msg
  deriving Repr

def thread (log : List Entry) : List Comment := log.map (·.comment)

def stepLog (render : Comments.Msg → List Char) (nr : Norepeat) (robot : String) (log : List Entry) : Ev → List Entry
  | .user c => log ++ [⟨c, none⟩]
  | .notify m muted =>
    match notify render nr muted robot (thread log) m with
    | .posted _ => log ++ [⟨⟨robot, render m⟩, some m⟩]
    | _ => log

def runLog (render : Comments.Msg → List Char) (nr : Norepeat) (robot : String) (evs : List Ev) : List Entry :=
  evs.foldl (stepLog render nr robot) []

/-- the robot's comments, oldest first -/
def robotLog (robot : String) (log : List Entry) : List Entry := log.filter (fun e => e.comment.author == robot)

/-- only the robot writes under the robot's name -/
def UsersAreNotRobot (robot : String) (evs : List Ev) : Prop := ∀ c, Ev.user c ∈ evs → c.author ≠ robot

private structure Inv (render : Comments.Msg → List Char) (nr : Norepeat) (robot : String) (log : List Entry) : Prop where
  via : ∀ e ∈ log, ∀ m, e.via = some m → e.comment = ⟨robot, render m⟩
  adj : ∀ a b, [a, b] <:+: robotLog robot log → ∀ m, b.via = some m → nr m.cls = some (-1) →
    (render m).isPrefixOf a.comment.text = false

private theorem thread_filter (robot : String) (log : List Entry) :
    (thread log).filter (fun c => c.author == robot) = (robotLog robot log).map (·.comment) := by
  simp only [thread, robotLog, List.filter_map]
  rfl

private theorem pair_suffix_concat {α : Type} {a b p : α} {l : List α} (h : [a, b] <:+ l ++ [p]) :
    b = p ∧ l.getLast? = some a := by
  obtain ⟨t, ht⟩ := h
  have h1 : t ++ [a, b] = (t ++ [a]) ++ [b] := by simp
  rw [h1] at ht
  have h2 := List.append_inj' ht rfl
  obtain ⟨h3, h4⟩ := h2
  refine ⟨by simpa using h4, ?_⟩
  rw [← h3]; simp

private theorem inv_step (render : Comments.Msg → List Char) (nr : Norepeat) (robot : String) (log : List Entry)
    (ev : Ev) (hu : ∀ c, ev = .user c → c.author ≠ robot) (h : Inv render nr robot log) :
    Inv render nr robot (stepLog render nr robot log ev) := by
  cases ev with
  | user c =>
    have hc := hu c rfl
    have hrl : robotLog robot (log ++ [⟨c, none⟩]) = robotLog robot log := by
      simp [robotLog, List.filter_append, hc]
    refine ⟨List.forall_mem_append.mpr ⟨h.via, List.forall_mem_singleton.mpr (fun _ hm => nomatch hm)⟩, ?_⟩
    simp only [stepLog, hrl]
    exact h.adj
  | notify m muted =>
    simp only [stepLog]
    split
    · rename_i cs' hp
      have hrl : robotLog robot (log ++ [⟨⟨robot, render m⟩, some m⟩]) =
          robotLog robot log ++ [⟨⟨robot, render m⟩, some m⟩] := by
        simp [robotLog, List.filter_append]
      refine ⟨List.forall_mem_append.mpr
        ⟨h.via, List.forall_mem_singleton.mpr (fun m' hm' => by cases hm'; rfl)⟩, ?_⟩
      · intro a b hab m' hb hm'
        rw [hrl, List.infix_concat_iff] at hab
        rcases hab with hab | hab
        · obtain ⟨hbp, hlast⟩ := pair_suffix_concat hab
          subst hbp
          cases hb
          -- the posting happened in regime -1 with `a` the robot's latest comment
          cases muted with
          | true => simp [notify, sendComment] at hp
          | false =>
            simp only [notify, hm', send_latest, latestOf_eq_getLast, thread_filter, List.getLast?_map, hlast,
              Option.map_some] at hp
            by_cases hpre : (render m).isPrefixOf a.comment.text = true
            · rw [List.isPrefixOf_iff_prefix] at hpre
              simp [hpre] at hp
            · exact Bool.eq_false_iff.mpr hpre
        · exact h.adj a b hab m' hb hm'
    · exact h

private theorem inv_nil (render : Comments.Msg → List Char) (nr : Norepeat) (robot : String) :
    Inv render nr robot [] :=
  ⟨fun _ he => (nomatch he), fun a b hab => by
    simp only [robotLog, List.filter_nil, List.infix_nil] at hab
    cases hab⟩

private theorem inv_run (render : Comments.Msg → List Char) (nr : Norepeat) (robot : String) :
    ∀ (evs : List Ev) (log : List Entry), (∀ c, Ev.user c ∈ evs → c.author ≠ robot) → Inv render nr robot log →
      Inv render nr robot (evs.foldl (stepLog render nr robot) log)
  | [], _, _, h => h
  | ev :: evs, log, hu, h => by
    simp only [List.foldl_cons]
    apply inv_run render nr robot evs
    · intro c hc; exact hu c (List.mem_cons_of_mem _ hc)
    · exact inv_step render nr robot log ev (fun c hc => hu c (by subst hc; exact List.mem_cons_self)) h

/-- For every sequence of comments and notifications on a pull request, whatever the rendering of
    messages and whatever the other classes do: if `b` is a posting of a message `m` whose class has
    `dont_repeat_if_in_history = -1`, and `a` is the robot comment just before it (no robot comment in between; any number
    of comments of other people in between), then `a` does not start with the text of `m`. -/
theorem C10_no_twice_in_a_row (render : Comments.Msg → List Char) (nr : Norepeat) (robot : String) (evs : List Ev)
    (hu : UsersAreNotRobot robot evs) (a b : Entry)
    (hadj : [a, b] <:+: robotLog robot (runLog render nr robot evs))
    (m : Comments.Msg) (hb : b.via = some m) (hm : nr m.cls = some (-1)) :
    (render m).isPrefixOf a.comment.text = false :=
  (inv_run render nr robot evs [] hu (inv_nil render nr robot)).adj a b hadj m hb hm

/-- Two consecutive robot comments are never two postings of the same protected message (same class, same rendered
    arguments). -/
theorem C10_never_same_twice (render : Comments.Msg → List Char) (nr : Norepeat) (robot : String) (evs : List Ev)
    (hu : UsersAreNotRobot robot evs) (a b : Entry)
    (hadj : [a, b] <:+: robotLog robot (runLog render nr robot evs))
    (m : Comments.Msg) (ha : a.via = some m) (hb : b.via = some m) : nr m.cls ≠ some (-1) := by
  intro hm
  have h := C10_no_twice_in_a_row render nr robot evs hu a b hadj m hb hm
  have hinv := inv_run render nr robot evs [] hu (inv_nil render nr robot)
  have hamem : a ∈ runLog render nr robot evs := by
    have : a ∈ robotLog robot (runLog render nr robot evs) := hadj.subset (by simp)
    exact (List.mem_filter.mp this).1
  have hat : a.comment.text = render m := by rw [hinv.via a hamem m ha]
  have hself : (render m).isPrefixOf (render m) = true := List.isPrefixOf_iff_prefix.mpr (List.prefix_refl _)
  rw [hat, hself] at h
  cases h

/-- The protection is exact: in regime `-1` a notification is posted if and only if the robot never spoke on the pull
    request or its latest comment does not start with the message. -/
theorem C10_posted_iff (render : Comments.Msg → List Char) (nr : Norepeat) (robot : String) (cs : List Comment)
    (m : Comments.Msg) (hm : nr m.cls = some (-1)) :
    (∃ cs', notify render nr false robot cs m = .posted cs') ↔
      ∀ c, latestOf robot cs = some c → (render m).isPrefixOf c.text = false := by
  simp only [notify, hm, send_latest]
  cases latestOf robot cs with
  | none => simp
  | some c => cases hp : (render m).isPrefixOf c.text <;> simp [hp]

/-! ### A command comment is executed once -/

private theorem dispatch_cmd {reg : Registry} {key : String} {cm : CmdSpec} (h : reg.dispatch key = .cmd cm) :
    cm ∈ reg.commands ∧ cm.name = key := by
  have hf := (Registry.dispatch_cmd.mp h).2
  rw [Registry.findCmd] at hf
  exact ⟨List.mem_of_find?_eq_some hf, by simpa using List.find?_some hf⟩

private theorem commandPass_registered (ctok : CmdTok) (reg : Registry) (env : Env) (st st' : State) (name : String)
    (args : List String) : ∀ (rev : List Comment), commandPass ctok reg env st rev = .command st' name args →
      ∃ cm ∈ reg.commands, cm.name = name
  | [], h => by simp [commandPass] at h
  | c :: rest, h => by
    simp only [commandPass] at h
    split at h
    · cases h
    · split at h
      · exact commandPass_registered ctok reg env st st' name args rest h
      · rename_i key as _
        split at h
        · cases h
        · exact commandPass_registered ctok reg env st st' name args rest h
        · rename_i cm hd
          split at h
          · cases h
          · split at h
            · cases h
            · simp only [Outcome.command.injEq] at h
              obtain ⟨_, hk, _⟩ := h
              subst hk
              exact ⟨cm, dispatch_cmd hd⟩

/-- Parametric in the tables: if every registered command is answered by an always-posted
    template message (`CommandsAnswered`, discharged on the source by `C10_table`), then for EVERY thread `cs`: when the
    command pass of an evaluation executes a command (`commandPass … = .command …`) and the job notifies any message `m`
    that the handler of that command can raise, the answer is posted as the newest comment, after which no command is
    pending and the command pass of any later evaluation executes nothing — until somebody writes again. -/
theorem C10_command_once (msgs : List Gen.Messages.Msg) (raises : List (String × List String))
    (ctok : CmdTok) (reg : Registry) (htab : CommandsAnswered msgs reg.commands raises = true)
    (render : Comments.Msg → List Char) (env : Env) (st st' : State) (cs : List Comment)
    (name : String) (args : List String)
    (hexec : commandPass ctok reg env st cs.reverse = .command st' name args)
    (m : Comments.Msg) (hm : ∃ cls, raises.lookup name = some cls ∧ m.cls ∈ cls) :
    notify render (nrOf msgs) false env.robot cs m = .posted (cs ++ [⟨env.robot, render m⟩]) ∧
    pendingCommands ctok reg env.robot (cs ++ [⟨env.robot, render m⟩]) = [] ∧
    ∀ st2, commandPass ctok reg env st2 (cs ++ [(⟨env.robot, render m⟩ : Comment)]).reverse = .ok st2 := by
  obtain ⟨cm, hcm, hname⟩ := commandPass_registered ctok reg env st st' name args _ hexec
  obtain ⟨cls, hl, hmem⟩ := hm
  have h1 := List.all_eq_true.mp htab cm hcm
  rw [hname, hl] at h1
  have h2 := List.all_eq_true.mp h1 m.cls hmem
  refine ⟨?_, pendingCommands_append_robot _ _ _ _ _, ?_⟩
  · apply send_always
    simp only [nrOf]
    cases hmo : msgOf msgs m.cls with
    | none => rfl
    | some mm =>
      rw [hmo] at h2
      simp only [alwaysPosted, Bool.and_eq_true, Bool.or_eq_true, beq_iff_eq] at h2
      rcases h2.2 with h3 | h3 <;> simp [h3, norepeatActive]
  · intro st2
    simp only [List.reverse_append, List.reverse_cons, List.reverse_nil, List.nil_append, List.cons_append,
      commandPass, beq_self_eq_true, ↓reduceIte]

/-- `C10_command_once` on the source as it is. -/
theorem C10_command_once_gen (render : Comments.Msg → List Char) (env : Env) (st st' : State) (cs : List Comment)
    (name : String) (args : List String)
    (hexec : commandPass (commandOf env.pfx) Gen.Reactor.registry env st cs.reverse = .command st' name args)
    (m : Comments.Msg) (hm : ∃ cls, Gen.Commands.raises.lookup name = some cls ∧ m.cls ∈ cls) :
    notify render (nrOf messages) false env.robot cs m = .posted (cs ++ [⟨env.robot, render m⟩]) ∧
    pendingCommands (commandOf env.pfx) Gen.Reactor.registry env.robot (cs ++ [⟨env.robot, render m⟩]) = [] :=
  let h := C10_command_once messages Gen.Commands.raises (commandOf env.pfx) Gen.Reactor.registry C10_table.1
    render env st st' cs name args hexec m hm
  ⟨h.1, h.2.1⟩

/-- Why the table hypothesis is needed (the code before the fix): with a de-duplicated answer (`-1`), a second `reset`
    whose answer equals the robot's latest comment is executed, its answer is suppressed, and the command is still
    pending: the next evaluation executes it again. -/
theorem C10_command_once_needs_table :
    let env : Env := ⟨["admin"], "contrib", "robot", []⟩
    let reset : Comment := ⟨"contrib", "@robot reset".toList⟩
    let answer : List Char := "Reset complete".toList
    let cs : List Comment := [reset, ⟨"robot", answer⟩, reset]
    commandPass (commandOf env.pfx) Gen.Reactor.registry env [] cs.reverse = .command [] "reset" [] ∧
    sendComment false "robot" cs answer (some (-1)) = .exists ∧
    pendingCommands (commandOf env.pfx) Gen.Reactor.registry "robot" cs = [reset] := by
  decide +kernel

/-- Non-vacuity of `C10_command_once_gen`: a `reset` written after the robot's greeting is executed, and
    `ResetComplete` is one of the messages its handler raises. -/
example :
    let env : Env := ⟨["admin"], "contrib", "robot", []⟩
    let cs : List Comment := [⟨"robot", "Hello".toList⟩, ⟨"contrib", "@robot reset".toList⟩]
    commandPass (commandOf env.pfx) Gen.Reactor.registry env [] cs.reverse = .command [] "reset" [] ∧
    (∃ cls, Gen.Commands.raises.lookup "reset" = some cls ∧ "ResetComplete" ∈ cls) ∧
    pendingCommands (commandOf env.pfx) Gen.Reactor.registry "robot" cs = [⟨"contrib", "@robot reset".toList⟩] := by
  intro env cs
  have h : commandPass (commandOf env.pfx) Gen.Reactor.registry env [] cs.reverse = .command [] "reset" [] ∧
      pendingCommands (commandOf env.pfx) Gen.Reactor.registry "robot" cs = [⟨"contrib", "@robot reset".toList⟩] := by
    decide +kernel
  exact ⟨h.1, ⟨_, rfl, by decide +kernel⟩, h.2⟩

/-! ### The outcome depends on the state only -/

/-- what a server instance did before; the model has nowhere to use it -/
structure Instance where
  processed : List Flow.Event

/-- an evaluation by an instance: by construction the instance's past is not an argument of `Flow.step`,
    `Comments.notify` or `Reactor.handleComments` -/
def evaluate (_i : Instance) (s : Flow.Sys) (ev : Flow.Event) : Flow.Sys × String := Flow.step s ev

/-- Trivial in the model (stated so that the clause is visible); the real content is the tie:
    every history is executed with a long-lived instance and with a server restarted before every job, and the two
    executions are compared event by event. -/
theorem C10_pure (i j : Instance) (s : Flow.Sys) (ev : Flow.Event) : evaluate i s ev = evaluate j s ev := rfl

/-! ### Convergence over the ref-level model

The full statement of the clause, kept visible (not proved in this generality):

    theorem C10_converges (s : Sys) (hs : s.WF) (ev ev' ev'' : Event)  -- ev', ev'' : the re-evaluations of `ev`, with the
        : (step (step (step s ev).1 ev').1 ev'').1.remote ≈ (step (step s ev).1 ev').1.remote   -- inputs the gates give them

Not covered by a theorem (covered by the tie only): how queue mode reaches its steady state (a branch created in the
middle of an existing chain needs the second evaluation), conflicts (the oracle list of content merges is consumed
differently by a re-evaluation), the final stage (queueing, merging), commit events on queue tips.
-/
section converges
open BertE.Git BertE.Flow

/-- the exits that plan no operation (stopped by a gate before the clone; source branch gone; destination gone; already
    merged; conflict found by the trial merge; nothing selected in the queue) move nothing at all -/
theorem C10_converges_noop (s : Sys) (pr : PrInfo) (stage : Stage) (orc : List Bool) (sel : List Nat)
    (h : (planPr s pr stage orc sel).ops = []) :
    (step s (.evalPr pr stage orc sel)).1.remote = s.remote := by
  rw [step_evalPr, h]; rfl

/-- the gates stop the evaluation before the clone: no operation -/
theorem C10_converges_early (s : Sys) (pr : PrInfo) (orc : List Bool) (sel : List Nat) :
    (planPr s pr .early orc sel).ops = [] := by
  simp [planPr]

/-- declined pull request, `reset`/`force_reset`, rebuild/delete queues: after ONE evaluation the next one plans no
    operation -/
theorem C10_converges_cleanup (s : Sys) (ev : Event)
    (hev : (∃ pr, ev = .evalDeclined pr false) ∨ (∃ pr, ev = .reset pr) ∨ ev = .dropQueues) :
    (plan (step s ev).1 ev).ops = [] := by
  rcases hev with ⟨pr, rfl⟩ | ⟨pr, rfl⟩ | rfl
  · exact planDeclined_nil (wsOf_after (s := s) pr rfl (declined_remote s pr))
  · exact planReset_nil (wsOf_after (s := s) pr rfl (reset_remote s pr))
  · have hr : (step s .dropQueues).1.remote = delRefs s.remote (allQRefs s.remote) := dropQueues_remote s
    exact planDropQueues_nil (hr ▸ allQRefs_delRefs s.remote)

/-- re-evaluations of a pull request stopped after the integration branches, with any queue selections -/
def reevaluate (pr : PrInfo) : Sys → List (List Nat) → Sys
  | s, [] => s
  | s, sel :: sels => reevaluate pr (step s (.evalPr pr .integration [] sel)).1 sels

private theorem reevaluate_fix {pr : PrInfo} (P : Sys → Prop)
    (hstep : ∀ s sel, P s → P (step s (.evalPr pr .integration [] sel)).1 ∧
      ∀ x, (step s (.evalPr pr .integration [] sel)).1.remote.get x = s.remote.get x) :
    ∀ (sels : List (List Nat)) (s : Sys), P s → ∀ x, (reevaluate pr s sels).remote.get x = s.remote.get x
  | [], _, _, _ => rfl
  | sel :: sels, s, h, x =>
    (reevaluate_fix P hstep sels _ (hstep s sel h).1 x).trans ((hstep s sel h).2 x)

/-- **C10, convergence at the integration stage** (partial: queues off, every content merge succeeds, every target
    branch exists — beyond the property text). After ONE evaluation every further evaluation, however many, leaves every
    ref where it is. -/
theorem C10_converges_integration_partial (s : Sys) (hs : s.WF) (pr : PrInfo) (sel : List Nat)
    (hnq : s.useQueue = false)
    (hd : ∀ d ∈ s.targets pr.dst, (s.remote.get (.dest d)).isSome = true) (sels : List (List Nat)) :
    ∀ x, (reevaluate pr (step s (.evalPr pr .integration [] sel)).1 sels).remote.get x =
      (step s (.evalPr pr .integration [] sel)).1.remote.get x :=
  reevaluate_fix (QuietState · pr) (fun _ sel h => quietState_step h sel) sels _ (evalPr_first hs hnq pr sel hd)

/-- **C10, convergence at the integration stage in queue mode** (partial: every content merge succeeds — beyond the
    property text). In the steady state of a pull request that waits at a gate — not queued, every target branch and
    every integration branch present, the chain in sync — every evaluation, however many, merges in the clone only and
    moves no ref (the integration branches are reset to their remote state before the push). -/
theorem C10_converges_insync_partial (s : Sys) (pr : PrInfo) (h : InSyncState s pr) (sels : List (List Nat)) :
    ∀ x, (reevaluate pr s sels).remote.get x = s.remote.get x :=
  reevaluate_fix (InSyncState · pr) (fun _ sel h => inSyncState_step h sel) sels s h

/-- Non-vacuity: two destination branches, queues off. The first evaluation creates and pushes `w/5.1/feature/x`
    (a new merge commit, 4); the second and third find everything up to date. -/
example :
    let s := BertE.Drv.C01.initSys false false [.dev 4 (some 3), .dev 5 (some 1)]
    let s0 := (step s (.extSet "feature/x" [1] false)).1
    let pr : PrInfo := ⟨1, "feature/x", .dev 4 (some 3), false⟩
    let s1 := (step s0 (.evalPr pr .integration [] [])).1
    let s2 := (step s1 (.evalPr pr .integration [] [])).1
    let s3 := (step s2 (.evalPr pr .integration [] [])).1
    s0.remote.get (.w (.dev 5 (some 1)) "feature/x") = none ∧
    s1.remote.get (.w (.dev 5 (some 1)) "feature/x") = some 4 ∧
    s2.remote.get (.w (.dev 5 (some 1)) "feature/x") = some 4 ∧
    s3.remote.get (.w (.dev 5 (some 1)) "feature/x") = some 4 ∧ s3.g.size = s1.g.size := by decide +kernel

/-- The same in queue mode: the second and third evaluations only add commits to the clone (5, 6): no ref moves. -/
example :
    let s := BertE.Drv.C01.initSys true false [.dev 4 (some 3), .dev 5 (some 1)]
    let s0 := (step s (.extSet "feature/x" [1] false)).1
    let pr : PrInfo := ⟨1, "feature/x", .dev 4 (some 3), false⟩
    let s1 := (step s0 (.evalPr pr .integration [] [])).1
    let s3 := reevaluate pr s1 [[], []]
    s1.remote.get (.w (.dev 5 (some 1)) "feature/x") = some 4 ∧
    s3.remote.get (.w (.dev 5 (some 1)) "feature/x") = some 4 ∧
    inSync s1.g s1.remote 3 ((s1.targets pr.dst).map (wRef pr pr.dst)) = true := by decide +kernel

/-- Non-vacuity of `C10_converges_cleanup`: the first `reset` deletes the integration branch, the second plans nothing. -/
example :
    let s := BertE.Drv.C01.initSys false false [.dev 4 (some 3), .dev 5 (some 1)]
    let s0 := (step s (.extSet "feature/x" [1] false)).1
    let pr : PrInfo := ⟨1, "feature/x", .dev 4 (some 3), false⟩
    let s1 := (step s0 (.evalPr pr .integration [] [])).1
    (plan s1 (.reset pr)).ops.length = 1 ∧ (plan (step s1 (.reset pr)).1 (.reset pr)).ops = [] ∧
    (step s1 (.reset pr)).1.remote.get (.w (.dev 5 (some 1)) "feature/x") = none := by decide +kernel

end converges

/-! ### Non-vacuity -/

/-- `help` asked twice: both answers are posted, identical and consecutive (exempt by design); an `ApprovalRequired`
    raised twice is posted once. -/
example :
    let render : Comments.Msg → List Char := fun m => (m.cls ++ ":" ++ m.args).toList
    let nr := nrOf messages
    let ask : Comment := ⟨"contrib", "@robot help".toList⟩
    let log := runLog render nr "robot"
      [.notify ⟨"ApprovalRequired", "1 peer"⟩ false, .notify ⟨"ApprovalRequired", "1 peer"⟩ false,
       .user ask, .notify ⟨"HelpMessage", ""⟩ false, .user ask, .notify ⟨"HelpMessage", ""⟩ false]
    (thread log).map (·.author) = ["robot", "contrib", "robot", "contrib", "robot"] ∧
    nr "ApprovalRequired" = some (-1) ∧ nr "HelpMessage" = some 0 := by decide +kernel

end BertE.C10

/-! ### Convergence of the CLOSED LOOP of one pull request's evaluation

`Conv.evalOnce` (`Model/Conv.lean`) is ONE `handle_pull_request` job as a function of the state it finds; `Effects` = refs
whose value changed, pull requests created / declined, comments posted.

The first sentence of C10 as ONE statement (NOT proved in this generality; FALSE as it stands, see the counterexample):

    theorem C10_converges (c : Conv.Cfg) (h0 : Host) (s0 : Sys) (hs : Close.InvV s0) (id : Nat) (o1 o2 o3 : List Bool) :
        let (h1, s1, _) := evalOnce c h0 s0 id o1; let (h2, s2, _) := evalOnce c h1 s1 id o2
        let (h3, s3, _) := evalOnce c h2 s2 id o3
        ∀ n o, (evalMany c id h3 s3 (List.replicate n o)).2.2 = List.replicate n Effects.none

"Nothing changes outside Bert-E" excludes, between two of these evaluations: pushes to any branch, build reports,
comments, approvals, change requests, declines, Jira edits, admin jobs - and it includes that git gives the same
answer to the same content merge (the positional answers `o1 o2 o3 o` cannot be arbitrary: an evaluation that ended
in a Conflict and is repeated on the unchanged repository asks the same questions in the same order).

Which exits need how many ACTING evaluations before the quiet one (from the model, each confirmed on the real system
by the closed-loop phase of the tie, harness/convsys.py, which predicts 4 consecutive real evaluations):
  0  silent exits on a greeted pull request: NothingToDo (merged, source gone, `wait`), NotMyJob, a gate message that is
     already the robot's latest comment (ApprovalRequired, Build*, AfterPullRequest, Jira failures, UnknownCommand, ...)
  1  every exit with a fresh message (posted once, then de-duplicated); the first evaluation of a pull request (greeting,
     `w/` branches created and pushed, IntegrationDataCreated, then the gate's message); Conflict; a direct merge
     (SuccessMessage, then NothingToDo); a declined pull request (PullRequestDeclined, then NothingToDo); Queued when
     the queue builds are not green yet
  2  Queued, then the queue evaluation merges (queue commit = an already green commit), then NothingToDo; a command that
     only answers (`help`, `status`) on a pull request waiting at a gate: the answer, then the gate's message AGAIN
     (the robot's latest comment is now the answer), then quiet
  3  a queued pull request whose source got new (green) commits: Merged + PartialMerge (integration and queue branches
     removed), Queued again, Merged, then quiet - `C10_converges_tight`: the bound of the property is reached
  4  the same with a pending `help` / `status` command in front: `C10_converges_counterexample` - the FOURTH evaluation
     still moves the destination branch. The real system does exactly this (known finding
     `no-convergence-after-command-and-partial-merge`; witness in every C10 check).

`C10_converges_partial` (A) covers every exit before the integration branches (early_checks, option and command errors,
dependencies, NothingToDo, SourceBranchTooOld, cascade errors, branch compatibility, the ticket gate,
RequestIntegrationBranches, BranchHistoryMismatch) and every evaluation whose COMPUTED plan holds no operation (also:
trial-merge Conflict, nothing selected in the queue, a DECLINED pull request without integration data).
MISSING for the full statement (covered by the tie and by the `decide` chains only): that Bert-E's own comments do
not change what the next evaluation computes except for the greeting (host-invariance of `evalPr`, needs "no command
pending"), the re-computation of the gates on the re-read integration tips (integration stage, composed), the
idempotence of `Select.selectOf` after a queue merge, conflicts with position-dependent oracle answers. The
exit-by-exit theorems above (`C10_converges_integration_partial`, `_insync_partial`, `_cleanup`) apply to the
repository component of `evalOnce` through `Conv.conv_evalOut_sys` (it IS `Flow.step` at the computed stage). -/
namespace BertE.C10
open BertE.Conv BertE.Flow BertE.Eval BertE.Git
open BertE.Reactor (Comment)

/-- **C10, convergence of the closed loop (partial: the exits listed above).** For every configuration, host, repository,
    pull request and answers of git: (A1) an evaluation stopped at the early stage returns the repository unchanged and
    moves no ref; (A2) an evaluation whose computed plan holds no operation moves no ref; (B) a protected message is
    posted at most once by consecutive notifications; (C) an unchanged state stays unchanged for ever. No hypothesis on
    the state. -/
theorem C10_converges_partial (c : Conv.Cfg) (h : Host) (s : Sys) (id : Nat) (orc : List Bool) :
    ((evalPr c.eval h s id orc (selOf h s)).stage = .early → (evalPr c.eval h s id orc (selOf h s)).declined = false →
      (evalOnce c h s id orc).2.1 = s ∧ (evalOnce c h s id orc).2.2.refs = []) ∧
    ((evalPr c.eval h s id orc (selOf h s)).plan.ops = [] →
      (evalOnce c h s id orc).2.1.remote = s.remote ∧ (evalOnce c h s id orc).2.2.refs = []) ∧
    (∀ cls p, Conv.Protected c cls → postPr c cls (postPr c cls p) = postPr c cls p) ∧
    (∀ e, evalOnce c h s id orc = (h, s, e) → ∀ n, evalMany c id h s (List.replicate n orc) = (h, s, List.replicate n e)) := by
  refine ⟨fun hst hd => ?_, fun hops => ?_, fun cls p hp => conv_postPr_idem c cls p hp,
    fun e he => conv_fixpoint c h s id orc e he⟩
  · have h1 := conv_early_sys c h s id orc hst hd
    exact ⟨h1, conv_refs_nil (congrArg Sys.remote h1)⟩
  · have h1 := conv_noop_get c h s id orc hops
    exact ⟨h1, conv_refs_nil h1⟩

private theorem protected_of_protectedB {c : Conv.Cfg} {cls : String} (h : protectedB c.nr cls = true) :
    Conv.Protected c cls := by
  unfold protectedB at h
  cases hn : c.nr cls with
  | none => rw [hn] at h; cases h
  | some n => rw [hn] at h; exact ⟨n, hn, of_decide_eq_true h⟩

/-- every message class the gates raise is protected in the regenerated table: `C10_protected_table` in the form
    `C10_converges_partial` (B) uses -/
theorem C10_gate_messages_protected (c : Conv.Cfg) (hnr : c.nr = BertE.Drv.Conv.nrGen) :
    ∀ m ∈ Gen.Messages.messages, m.kind = "template" →
      m.name ∉ commandAnswers Gen.Commands.raises → m.name ∉ Gen.Commands.information → m.name ∉ occurrenceMessages →
      Conv.Protected c m.name := by
  intro m hm h1 h2 h3 h4
  exact protected_of_protectedB (hnr ▸ (protected_tables m hm h1 h2 h3 h4).2)

/-! #### the chains, on a concrete system -/

def convEval : BertE.Eval.Cfg :=
  { reg := BertE.Drv.C07.genRegistry.withCmdLine ["bypass_jira_check"]
    env := ⟨["admin"], "", "robot", []⟩
    authorOptions := []
    early := BertE.Drv.C12.genTbl
    build := BertE.Drv.C06.genTbl
    buildKey := "pre-merge"
    approvals := { requiredPeers := 0, requiredLeaders := 0, needAuthor := false, projectLeaders := ["admin"], robot := "robot", bypassAuthorS := false, bypassAuthorA := false, bypassPeerS := false, bypassPeerA := false, bypassLeaderS := false, bypassLeaderA := false, approve := false, unanimity := false }
    jira := ⟨false, false, [], [], "", "", [], false⟩
    ticketless := BertE.Drv.Eval.ticketlessOf
    maxCommitDiff := 0
    createBranches := true
    createPrs := false }

/-- the regenerated tables: `dont_repeat_if_in_history` per class, the answers of the commands -/
def convCfg : Conv.Cfg := ⟨convEval, BertE.Drv.Conv.nrGen, fun cls => cls.toList, true, Gen.Commands.raises⟩

def convPr (status : String) (cs : List Comment) : Eval.Pr :=
  { id := 1, author := "contrib", src := "feature/TEST-1", dst := "development/4.3", status := status,
    comments := cs, approvals := [], changeRequests := [], participants := [] }

/-- one destination branch, queues on; the pull request was queued on the green source tip 2 (an evaluation of the
    model itself); then somebody pushed commit 3 to the source branch and it was built green. Nothing else happens. -/
def convSys : Sys :=
  let s0 := (step (BertE.Drv.C01.initSys true false [.dev 4 (some 3)]) (.extSet "feature/TEST-1" [1] false)).1
  let s1 := (evalOut convCfg ⟨[convPr "OPEN" []], [(2, .successful)], []⟩ s0 1 []).sys
  (step s1 (.extSet "feature/TEST-1" [] true)).1

def convHost (extra : List Comment) : Host :=
  ⟨[convPr "OPEN" ([⟨"robot", "InitMessage".toList⟩, ⟨"robot", "Queued".toList⟩] ++ extra)],
   [(2, .successful), (3, .successful)], []⟩

/-- **the bound is tight.** Three consecutive evaluations act - the queue merge lands the queued part and posts
    PartialMerge, the pull request is queued again, the queue merges it - and the fourth and fifth do nothing: the
    maximum the property allows is reached (on the real system too: harness/convsys.py `partial-merge-chain`). -/
theorem C10_converges_tight :
    let r := evalMany convCfg 1 (convHost []) convSys [[], [], [], [], []]
    r.2.2.map (·.posted) = [[(1, "PartialMerge")], [(1, "Queued")], [(1, "SuccessMessage")], [], []] ∧
    r.2.2.map Effects.isNone = [false, false, false, true, true] := by decide +kernel

/-- **the full statement is false** (and the real system does the same: known finding
    `no-convergence-after-command-and-partial-merge`). The same state with a pending `@robot help`: the FOURTH
    consecutive evaluation still acts (it moves `development/4.3` and posts SuccessMessage); only the fifth is quiet. -/
theorem C10_converges_counterexample :
    let r := evalMany convCfg 1 (convHost [⟨"contrib", "@robot help".toList⟩]) convSys [[], [], [], [], [], []]
    r.2.2.map (·.posted) =
      [[(1, "HelpMessage")], [(1, "PartialMerge")], [(1, "Queued")], [(1, "SuccessMessage")], [], []] ∧
    (r.2.2.map (·.refs))[3]? = some [Ref.qw 1 (.dev 4 (some 3)) "feature/TEST-1", Ref.dest (.dev 4 (some 3))] ∧
    r.2.2.map Effects.isNone = [false, false, false, false, true, true] := by decide +kernel

set_option maxRecDepth 100000 in
/-- Non-vacuity of `C10_converges_partial` (A): a pull request the host reports as MERGED is stopped at the early stage
    (silently: NothingToDo); (B): `Queued` is a protected class of the regenerated table; and the two-evaluation exit:
    two destination branches, a first evaluation creates and pushes `w/5.1/...`, greets, posts IntegrationDataCreated
    (the build gate's BuildNotStarted is a silent status), the second and third do nothing. -/
example :
    (evalPr convCfg.eval ⟨[convPr "MERGED" []], [], []⟩ convSys 1 [] []).stage = .early ∧
    (evalPr convCfg.eval ⟨[convPr "MERGED" []], [], []⟩ convSys 1 [] []).declined = false ∧
    convCfg.nr "Queued" = some (-1) ∧
    (let s := (step (BertE.Drv.C01.initSys true false [.dev 4 (some 3), .dev 5 (some 1)]) (.extSet "feature/TEST-1" [1] false)).1
     let r := evalMany convCfg 1 ⟨[convPr "OPEN" []], [(3, .successful)], []⟩ s [[], [], []]
     r.2.2.map (·.posted) = [[(1, "InitMessage"), (1, "IntegrationDataCreated")], [], []] ∧
     r.2.2.map Effects.isNone = [false, true, true]) := by decide +kernel

end BertE.C10
