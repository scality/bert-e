import BertE.Gen.CI
import BertE.Model.CI
import BertE.Model.Lru
import BertE.Lemmas.Lru
import BertE.Lemmas.CI
import BertE.Drv.C17
/-
C17 — CI aggregation is sound; green is never downgraded.

Part 1 (aggregation). The theorems are parametric in the data of `AggregatedWorkflowRuns` (`Tbl`: the
`conclusion_ranking` dict, the ignored event, the `if 'X' in status: return 'Y'` chain); `TblOK` is the
decidable predicate stating what the property needs of them and `C17_table` discharges it on the tables
regenerated from the source.  Run lists have any length, any number of workflow ids and branches, any
strings as event / status / conclusion.

Part 2 (status cache). `step` is one webhook event (GitHub status, GitHub check-suite, Bitbucket
commit_status) or one poll (`get_build_status` of the GitHub / Bitbucket repository class; the host's
current report is an argument of the poll). The theorems hold for every sequence of operations, any
number of commits and build keys, every cache size ≥ 1 (`storeAt cap st ops n` is the cache after the
first `n` operations, `run` lists the cache and the answer after each operation).
-/
namespace BertE.C17
open BertE.Build (Status)
open BertE.CI

/-- What the property needs of the source's data:
    the only event ignored is `workflow_dispatch`; `success` is in the ranking dict and ranks strictly above
    every other entry ("the best run"); the chain answers SUCCESSFUL only on its test for SUCCESSFUL, and not
    by default. (The relative order of the other conclusions and of the other states is free.) -/
structure TblOK (t : Tbl) : Prop where
  ignoredOnly : ∀ e ∈ t.ignored, e = "workflow_dispatch"
  ignoredHas : t.ignored.contains "workflow_dispatch" = true
  successTop : ∃ x, t.rank (some "success") = some x ∧ ∀ e ∈ t.ranking, e.1 ≠ some "success" → e.2 < x
  chainSound : ∀ e ∈ t.chain, e.2 = "SUCCESSFUL" → e.1 = "SUCCESSFUL"
  elseNot : t.chainElse ≠ "SUCCESSFUL"

instance (t : Tbl) : Decidable (TblOK t) :=
  decidable_of_iff
    ((∀ e ∈ t.ignored, e = "workflow_dispatch") ∧ t.ignored.contains "workflow_dispatch" = true ∧
     (∃ x ∈ (t.rank (some "success")).toList, ∀ e ∈ t.ranking, e.1 ≠ some "success" → e.2 < x) ∧
     (∀ e ∈ t.chain, e.2 = "SUCCESSFUL" → e.1 = "SUCCESSFUL") ∧ t.chainElse ≠ "SUCCESSFUL")
    ⟨fun ⟨a, b, c, d, e⟩ => ⟨a, b, (by obtain ⟨x, hx, h⟩ := c; exact ⟨x, by simpa using hx, h⟩), d, e⟩,
     fun h => ⟨h.ignoredOnly, h.ignoredHas,
       (by obtain ⟨x, hx, h'⟩ := h.successTop; exact ⟨x, by simp [hx], h'⟩), h.chainSound, h.elseNot⟩⟩

/-- Table obligation: the data found in the current source is well-formed. -/
theorem C17_table : TblOK BertE.Drv.C17.genTbl := by decide +kernel

/-- Table obligation for the cache: the LRU holds at least one entry (`set` on a cache of size 0 raises);
    the raw GitHub state `success` — and no other — is the one translated to SUCCESSFUL. -/
theorem C17_table_cache :
    1 ≤ BertE.Gen.CI.lruSize ∧
    BertE.Drv.C17.ghState (some "success") = some .successful ∧
    ∀ e ∈ BertE.Gen.CI.githubStateMap, e.2 = "SUCCESSFUL" → e.1 = some "success" := by decide +kernel

/-! ## Part 1: the aggregated state -/

section
variable {t : Tbl}

/-- Soundness. SUCCESSFUL only if, on at least one branch, the considered runs are not empty and every one
    of them concluded with success. (`considered` = drop `workflow_dispatch`, keep the best run per workflow:
    `C17_considered`.) -/
theorem C17_sound (h : TblOK t) (runs : List Run) (hs : t.aggState runs = .state "SUCCESSFUL") :
    ∃ cons, t.considered runs = some cons ∧
      ∃ b, cons.filter (fun r => r.branch == b) ≠ [] ∧
           ∀ r ∈ cons.filter (fun r => r.branch == b), r.conclusion = some "success" := by
  unfold Tbl.aggState at hs
  cases hc : t.considered runs with
  | none => simp [hc] at hs
  | some cons =>
    simp only [hc, Agg.state.injEq] at hs
    refine ⟨cons, rfl, ?_⟩
    have hmem := decide_successful h.chainSound h.elseNot hs
    obtain ⟨g, hg, hgs⟩ := List.mem_map.mp hmem
    obtain ⟨b, rfl⟩ := mem_groupByBranch hg
    obtain ⟨hne, hall⟩ := branchState_successful hgs
    exact ⟨b, hne, hall⟩

/-- No run, no green. Never SUCCESSFUL on an empty list, nor when every run is a `workflow_dispatch` run. -/
theorem C17_empty (h : TblOK t) (runs : List Run) (hd : ∀ r ∈ runs, r.event = "workflow_dispatch") :
    t.aggState runs ≠ .state "SUCCESSFUL" := by
  have hw : t.wanted runs = [] := wanted_all_ignored (fun r hr => by rw [hd r hr]; exact h.ignoredHas)
  unfold Tbl.aggState
  rw [considered_of_wanted_nil hw]
  simp only [groupByBranch_nil, List.map_nil, decide_nil, ne_eq, Agg.state.injEq]
  exact h.elseNot

/-- What is considered. When `remove_unwanted_workflows` does not raise: every considered run is a run of
    the list that is not a `workflow_dispatch` run; there is exactly one per workflow id that has such a run;
    no such run of the same workflow outranks it; and if one of them concluded with success, so did the one
    considered. -/
theorem C17_considered (h : TblOK t) (runs cons : List Run) (hc : t.considered runs = some cons) :
    (∀ r ∈ cons, r ∈ runs ∧ r.event ≠ "workflow_dispatch") ∧
    (cons.map (·.workflowId)).Nodup ∧
    (∀ r ∈ runs, r.event ≠ "workflow_dispatch" →
      ∃ b ∈ cons, b.workflowId = r.workflowId ∧ (b = r ∨ t.rankLe r b) ∧
        (r.conclusion = some "success" → b.conclusion = some "success")) := by
  have inv := considered_inv hc
  have hwanted : ∀ r, r ∈ t.wanted runs ↔ r ∈ runs ∧ r.event ≠ "workflow_dispatch" := fun r => by
    have hig : r.event ∈ t.ignored ↔ r.event = "workflow_dispatch" :=
      ⟨h.ignoredOnly _, fun e => e ▸ by simpa using h.ignoredHas⟩
    simp [Tbl.wanted, hig]
  refine ⟨fun r hr => (hwanted r).mp (inv.sub r hr), inv.nodup, ?_⟩
  intro r hr hev
  obtain ⟨b, hb, hw, hrank⟩ := inv.covers r ((hwanted r).mpr ⟨hr, hev⟩)
  refine ⟨b, hb, hw, hrank, ?_⟩
  intro hsucc
  rcases hrank with rfl | ⟨x, y, hx, hy, hxy⟩
  · exact hsucc
  · obtain ⟨top, htop, hlt⟩ := h.successTop
    rw [hsucc, htop] at hx
    simp only [Option.some.injEq] at hx
    subst hx
    -- the entry of the ranking dict that gives `y` is the one of `success`
    obtain ⟨e, hf, rfl⟩ := Option.map_eq_some_iff.mp hy
    have he : e.1 = b.conclusion := by simpa using List.find?_some hf
    refine Decidable.byContradiction fun hne => ?_
    have := hlt e (List.mem_of_find?_eq_some hf) (he ▸ hne)
    omega
end

/-- The statements on the tables of the current source. -/
theorem C17_sound_gen (runs : List Run) (hs : BertE.Drv.C17.genTbl.aggState runs = .state "SUCCESSFUL") :
    ∃ cons, BertE.Drv.C17.genTbl.considered runs = some cons ∧
      ∃ b, cons.filter (fun r => r.branch == b) ≠ [] ∧
           ∀ r ∈ cons.filter (fun r => r.branch == b), r.conclusion = some "success" :=
  C17_sound C17_table runs hs

/-! ## Part 2: the status cache -/

/-- Seen. After a webhook event reporting SUCCESSFUL for `(c, k)` — GitHub status, GitHub check-suite or
    Bitbucket commit_status — `(c, k)` is cached SUCCESSFUL. -/
theorem C17_seen_event (cap : Nat) (st : Store) (c : Commit) (k : Key) :
    green (step cap st (.ghStatus c k .successful)).1 c k ∧
    green (step cap st (.ghCheckSuite c k .successful)).1 c k ∧
    green (step cap st (.bbStatus c k .successful)).1 c k :=
  ⟨webhook_seen cap st c k, webhook_seen cap st c k, webhook_seen cap st c k⟩

/-- Seen. After a poll of `(c, k)` that answered SUCCESSFUL, `(c, k)` is cached SUCCESSFUL; and a GitHub
    poll that asked the host leaves every key the host reported SUCCESSFUL for the commit cached SUCCESSFUL. -/
theorem C17_seen_poll (cap : Nat) (st : Store) (op : Op) (c : Commit) (k : Key) (hpoll : op.pollOf c k) :
    ((step cap st op).2 = .state .successful → green (step cap st op).1 c k) ∧
    (∀ report k', op = .ghPoll c k (some report) → ¬ green st c k → report k' = some .successful →
       green (step cap st op).1 c k') :=
  ⟨poll_seen hpoll, fun _ _ e hg hr => by subst e; exact ghPoll_seen_all hg hr⟩

/-- Stickiness of the cache. Along any sequence of operations: if `(c, k)` is cached SUCCESSFUL after `i`
    operations and `c` remains in the cache of `k` up to `n` operations, it is still cached SUCCESSFUL then,
    whatever was reported in between. -/
theorem C17_sticky_cache (cap : Nat) (st0 : Store) (ops : List Op) (c : Commit) (k : Key) (i : Nat)
    (hseen : green (storeAt cap st0 ops i) c k) :
    ∀ n, i ≤ n → (∀ m, i ≤ m → m ≤ n → present (storeAt cap st0 ops m) c k) →
      green (storeAt cap st0 ops n) c k := by
  intro n hin hret
  obtain ⟨d, rfl⟩ := Nat.exists_eq_add_of_le hin
  induction d with
  | zero => exact hseen
  | succ d ih =>
    have hg := ih (by omega) (fun m h1 h2 => hret m h1 (by omega))
    have hp := hret (i + d + 1) (by omega) (Nat.le_refl _)
    show green (storeAt cap st0 ops (i + d + 1)) c k
    cases hop : ops[i + d]? with
    | none => rw [storeAt_succ_none hop]; exact hg
    | some op =>
      rw [storeAt_succ hop] at hp ⊢
      exact step_sticky hg hp

/-- Stickiness. For any sequence of events and polls: once `(c, k)` has been seen SUCCESSFUL (cached
    SUCCESSFUL after `i` operations) and for as long as `c` remains in the bounded cache of `k`, every later
    poll of `(c, k)` is answered SUCCESSFUL, whatever the host reports. -/
theorem C17_sticky (cap : Nat) (st0 : Store) (ops : List Op) (c : Commit) (k : Key) (i n : Nat) (hin : i ≤ n)
    (hseen : green (storeAt cap st0 ops i) c k)
    (hret : ∀ m, i ≤ m → m ≤ n → present (storeAt cap st0 ops m) c k)
    (op : Op) (hop : ops[n]? = some op) (hpoll : op.pollOf c k) :
    ∃ st', (run cap st0 ops)[n]? = some (st', .state .successful) := by
  have hg := C17_sticky_cache cap st0 ops c k i hseen n hin hret
  exact ⟨_, by rw [run_getElem?, hop, ← poll_green (cap := cap) hpoll hg]; rfl⟩

/-- Freshness. A poll of a `(c, k)` that is not cached SUCCESSFUL is answered with what the host currently
    reports for it (NOTSTARTED when the host knows nothing: 404 or no status under that key). -/
theorem C17_fresh (cap : Nat) (st0 : Store) (ops : List Op) (c : Commit) (k : Key) (n : Nat)
    (op : Op) (hop : ops[n]? = some op) (hpoll : op.pollOf c k)
    (hng : ¬ green (storeAt cap st0 ops n) c k) :
    ∃ st', (run cap st0 ops)[n]? = some (st', .state op.hostSays) := by
  exact ⟨_, by rw [run_getElem?, hop, ← poll_fresh (cap := cap) hpoll hng]; rfl⟩

/-- Green has an origin. If `(c, k)` is not cached SUCCESSFUL at the start (the empty cache, say) and is
    after `n` operations, then some earlier operation carried a report of SUCCESSFUL for `(c, k)` (a webhook
    event, or the host's answer to a poll) and `(c, k)` has been cached SUCCESSFUL — in particular retained —
    ever since. So "not cached SUCCESSFUL" in `C17_fresh` is exactly "not (seen SUCCESSFUL and retained since)". -/
theorem C17_green_origin (cap : Nat) (st0 : Store) (ops : List Op) (c : Commit) (k : Key)
    (h0 : ¬ green st0 c k) :
    ∀ n, green (storeAt cap st0 ops n) c k →
      ∃ i op, i < n ∧ ops[i]? = some op ∧ op.reportsGreen c k ∧
        ∀ m, i + 1 ≤ m → m ≤ n → green (storeAt cap st0 ops m) c k := by
  intro n
  induction n with
  | zero => intro hg; rw [storeAt_zero] at hg; exact absurd hg h0
  | succ n ih =>
    intro hg
    by_cases hgn : green (storeAt cap st0 ops n) c k
    · obtain ⟨i, op, hi, hop, hrep, hall⟩ := ih hgn
      refine ⟨i, op, by omega, hop, hrep, ?_⟩
      intro m h1 h2
      by_cases hm : m = n + 1
      · subst hm; exact hg
      · exact hall m h1 (by omega)
    · cases hop : ops[n]? with
      | none => rw [storeAt_succ_none hop] at hg; exact absurd hg hgn
      | some op =>
        have hg' := hg
        rw [storeAt_succ hop] at hg'
        refine ⟨n, op, by omega, hop, green_origin hgn hg', ?_⟩
        intro m h1 h2
        have : m = n + 1 := by omega
        subst this; exact hg

/-- Retention. Starting from a cache without duplicates (the empty one, say): after an operation about
    `(c, k)` that left `c` in the cache of `k`, `c` stays there as long as the operations that follow involve
    fewer than `cap` distinct other commits (`T` lists them). -/
theorem C17_retained (cap : Nat) (st0 : Store) (hnd : ∀ k, (Lru.keys (st0 k)).Nodup) (ops : List Op)
    (c : Commit) (k : Key) (i : Nat) (op0 : Op) (hop0 : ops[i]? = some op0) (hab : op0.about c k)
    (hp : present (storeAt cap st0 ops (i + 1)) c k)
    (T : List Commit) (hlt : T.length < cap) :
    ∀ n, i + 1 ≤ n → (∀ m op, i + 1 ≤ m → m < n → ops[m]? = some op → op.commit ≠ c → op.commit ∈ T) →
      present (storeAt cap st0 ops n) c k ∧ ∀ c' ∈ Lru.front (storeAt cap st0 ops n k) c, c' ∈ T := by
  intro n
  induction n with
  | zero => intro h; omega
  | succ n ih =>
    intro hi hops
    by_cases hin : i = n
    · subst hin
      refine ⟨hp, ?_⟩
      rw [storeAt_succ hop0] at hp ⊢
      rw [front_nil_of_about hab hp]
      simp
    · obtain ⟨hpn, hfn⟩ := ih (by omega) (fun m op h1 h2 => hops m op h1 (by omega))
      cases hop : ops[n]? with
      | none => rw [storeAt_succ_none hop]; exact ⟨hpn, hfn⟩
      | some op =>
        rw [storeAt_succ hop]
        exact step_retains (storeAt_nodup hnd ops n k) hpn hfn
          (hops n op (by omega) (Nat.lt_succ_self n) hop) hlt

/-- Stickiness, with the bound spelled out. From the empty cache: if the `i`-th operation is about `(c, k)`
    and leaves it cached SUCCESSFUL, and the operations after it up to the `n`-th involve fewer than `cap`
    distinct other commits, then a poll of `(c, k)` as `n`-th operation is answered SUCCESSFUL. -/
theorem C17_sticky_bounded (cap : Nat) (ops : List Op) (c : Commit) (k : Key) (i n : Nat) (hin : i < n)
    (op0 : Op) (hop0 : ops[i]? = some op0) (hab : op0.about c k)
    (hseen : green (storeAt cap emptyStore ops (i + 1)) c k)
    (T : List Commit) (hlt : T.length < cap)
    (hops : ∀ m op, i + 1 ≤ m → m < n → ops[m]? = some op → op.commit ≠ c → op.commit ∈ T)
    (op : Op) (hop : ops[n]? = some op) (hpoll : op.pollOf c k) :
    ∃ st', (run cap emptyStore ops)[n]? = some (st', .state .successful) := by
  have hnd : ∀ k, (Lru.keys (emptyStore k)).Nodup := by intro k; simp [emptyStore, Lru.keys]
  have hp : present (storeAt cap emptyStore ops (i + 1)) c k := Lru.mem_keys_of_lookup hseen
  refine C17_sticky cap emptyStore ops c k (i + 1) n (by omega) hseen ?_ op hop hpoll
  intro m h1 h2
  exact (C17_retained cap emptyStore hnd ops c k i op0 hop0 hab hp T hlt m h1
    (fun m' op' h1' h2' => hops m' op' h1' (by omega))).1

/-- Bound. From the empty cache, no LRU ever holds more than `cap` commits (`cap ≥ 1`), each at most once. -/
theorem C17_bounded (cap : Nat) (hcap : 1 ≤ cap) (ops : List Op) (n : Nat) (k : Key) :
    (storeAt cap emptyStore ops n k).length ≤ cap ∧ (Lru.keys (storeAt cap emptyStore ops n k)).Nodup := by
  refine ⟨?_, storeAt_nodup (by intro k; simp [emptyStore, Lru.keys]) ops n k⟩
  exact storeAt_inv (P := fun st => ∀ k, (st k).length ≤ cap) (by simp [emptyStore])
    (fun _ op h => step_len hcap h op) ops n k

/-! ## The LRU cache (`bert_e/lib/lru_cache.py`) -/

section
variable {κ ν : Type} [DecidableEq κ]

/-- for a size ≥ 1, `set` does not raise and is the modelled function -/
theorem C17_lru_set_total (cap : Nat) (h : 1 ≤ cap) (l : Lru.Cache κ ν) (k : κ) (v : ν) :
    Lru.set? cap l k v = some (Lru.set cap l k v) := Lru.set?_eq h l k v

/-- the cache never holds more than `cap` entries -/
theorem C17_lru_len (cap : Nat) (hcap : 1 ≤ cap) (l : Lru.Cache κ ν) (h : l.length ≤ cap) (a : Lru.Access κ ν) :
    (Lru.access cap l a).length ≤ cap := Lru.lru_len hcap h a

/-- every key occurs at most once -/
theorem C17_lru_nodup (cap : Nat) (l : Lru.Cache κ ν) (h : (Lru.keys l).Nodup) (a : Lru.Access κ ν) :
    (Lru.keys (Lru.access cap l a)).Nodup := Lru.lru_nodup h a

/-- what was just stored is what the next `get` returns -/
theorem C17_lru_get_set (cap : Nat) (l : Lru.Cache κ ν) (k : κ) (v : ν) :
    (Lru.get (Lru.set cap l k v) k).1 = some v := Lru.lru_get_set cap l k v

/-- a key that was just read or written survives any sequence of accesses that involve fewer than `cap` distinct
    other keys (`T` lists them) -/
theorem C17_lru_retains (cap : Nat) (l : Lru.Cache κ ν) (hnd : (Lru.keys l).Nodup) (k0 : κ)
    (a0 : Lru.Access κ ν) (h0 : a0.key = k0) (hin : k0 ∈ Lru.keys (Lru.access cap l a0))
    (T : List κ) (hlt : T.length < cap)
    (as : List (Lru.Access κ ν)) (has : ∀ a ∈ as, a.key ≠ k0 → a.key ∈ T) :
    k0 ∈ Lru.keys (Lru.accesses cap (Lru.access cap l a0) as) :=
  Lru.lru_retains hnd a0 hin h0 hlt as has
end

/-! ## Non-vacuity: the hypotheses are satisfiable on concrete inputs -/

open BertE.Drv.C17 in
/-- two branches, three workflows, a re-run and a manual run: green through branch `x` -/
example : genTbl.aggState
    [⟨0, "push", "completed", some "failure", 1, "x"⟩, ⟨1, "push", "completed", some "success", 1, "x"⟩,
     ⟨2, "pull_request", "completed", some "failure", 2, "y"⟩,
     ⟨3, "workflow_dispatch", "completed", some "failure", 3, "x"⟩] = .state "SUCCESSFUL" := by decide +kernel

open BertE.Drv.C17 in
/-- the witness of the repaired grouping defect is FAILED, in this order too -/
example : genTbl.aggState
    [⟨0, "push", "completed", some "success", 1, "x"⟩, ⟨1, "push", "completed", some "failure", 2, "y"⟩,
     ⟨2, "push", "completed", some "failure", 3, "x"⟩] = .state "FAILED" := by decide +kernel

open BertE.Drv.C17 in
example : genTbl.aggState [⟨0, "workflow_dispatch", "completed", some "success", 1, "x"⟩] = .state "NOTSTARTED" := by
  decide +kernel

open BertE.Drv.C17 in
example : genTbl.considered
    [⟨0, "push", "completed", some "failure", 1, "x"⟩, ⟨1, "push", "completed", some "success", 1, "y"⟩]
    = some [⟨1, "push", "completed", some "success", 1, "y"⟩] := by decide +kernel

/-- the witness of the repaired cache defect: `k1` seen green, then a poll of `k0` while the host reports both
    failed, then a poll of `k1`: still SUCCESSFUL; and the hypotheses of `C17_sticky` hold on it -/
def witnessOps : List Op :=
  [.ghStatus "c0" "k1" .successful,
   .ghPoll "c0" "k0" (some (fun k => if k = "k0" ∨ k = "k1" then some .failed else none)),
   .ghPoll "c0" "k1" (some (fun k => if k = "k0" ∨ k = "k1" then some .failed else none))]

example : ((run 2 emptyStore witnessOps).map (·.2)) = [.job "c0", .state .failed, .state .successful] := by decide +kernel
example : green (storeAt 2 emptyStore witnessOps 1) "c0" "k1" := by decide +kernel
example : ∀ m, 1 ≤ m → m ≤ 2 → present (storeAt 2 emptyStore witnessOps m) "c0" "k1" := by
  intro m h1 h2
  have : m = 1 ∨ m = 2 := by omega
  rcases this with rfl | rfl <;> decide
/-- eviction: with one entry per key, another commit pushes the green one out and the host is asked again -/
example : ((run 1 emptyStore
    [.bbStatus "c0" "k0" .successful, .bbStatus "c1" "k0" .failed, .bbPoll "c0" "k0" (some .failed)]).map (·.2))
    = [.job "c0", .job "c1", .state .failed] := by decide +kernel
example : ¬ green (storeAt 1 emptyStore
    [.bbStatus "c0" "k0" .successful, .bbStatus "c1" "k0" .failed, .bbPoll "c0" "k0" (some .failed)] 2) "c0" "k0" := by
  decide +kernel
/-- the hypotheses of `C17_sticky_bounded` on a sequence with another commit in between (size 2) -/
example : ∃ st', (run 2 emptyStore
    [.bbStatus "c0" "k0" .successful, .bbStatus "c1" "k0" .failed, .bbPoll "c0" "k0" (some .failed)])[2]?
      = some (st', .state .successful) := by
  refine C17_sticky_bounded 2 _ "c0" "k0" 0 2 (by omega) _ rfl ⟨rfl, rfl⟩ (by decide +kernel) ["c1"] (by decide +kernel) ?_
    _ rfl ⟨rfl, rfl⟩
  intro m op h1 h2 hop _
  have : m = 1 := by omega
  subst this
  simp only [List.getElem?_cons_succ, List.getElem?_cons_zero, Option.some.injEq] at hop
  subst hop
  simp [Op.commit]
/-- `C17_sound_gen` applied: the green verdict of the first example is justified by branch `x` -/
example : ∃ cons, BertE.Drv.C17.genTbl.considered
    [⟨0, "push", "completed", some "failure", 1, "x"⟩, ⟨1, "push", "completed", some "success", 1, "x"⟩,
     ⟨2, "pull_request", "completed", some "failure", 2, "y"⟩,
     ⟨3, "workflow_dispatch", "completed", some "failure", 3, "x"⟩] = some cons ∧
      ∃ b, cons.filter (fun r => r.branch == b) ≠ [] ∧
           ∀ r ∈ cons.filter (fun r => r.branch == b), r.conclusion = some "success" :=
  C17_sound_gen _ (by decide +kernel)
example : Lru.accesses 2 ([] : Lru.Cache String Nat) [.set "a" 1, .set "b" 2, .get "a", .set "c" 3]
    = [("c", 3), ("a", 1)] := by decide +kernel

end BertE.C17
