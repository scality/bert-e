import BertE.Lemmas.Early
import BertE.Drv.C12
import BertE.Drv.C01
import BertE.Props.C07
import BertE.Lemmas.EvalGates
import BertE.Drv.Eval
/-
C12 — held-back, finished and foreign pull requests are left alone.

"A pull request that carries a `wait` comment, or an `after_pull_request` dependency that is not merged yet,
or that is already merged or closed, or whose source or destination is not a branch Bert-E handles
(destination not development/stabilization/hotfix, source user/*, hotfix/* or unrecognised) never gets
integration branches, queue entries or merges, whatever its approvals and builds; pull requests Bert-E does
not handle get no comment at all. As soon as the hold is lifted (comment deleted, dependency merged) the next
evaluation proceeds normally."

The model (`Model/Early.lean`) is the part of `handle_pull_request` that precedes `clone_git_repo`, as a
function `handlePr` of an explicit input (status, names, comments outcome, host). Composition with the
ref-level workflow model (`Model/Flow.lean`): `event`. Everything is parametric in the table `t`
(statuses, class flags, exception kinds: regenerated from the source); `C12_table` / `C12_source` /
`C12_flags` are the obligations on the current source, closed by `decide`.

FULL STATEMENT, which the unchanged code does NOT satisfy (D6, known finding `hold-after-queued`):
    for every run of the system and every pull request `p`: no event that happens while `p` is held moves a
    destination branch onto a commit that contains `p`'s changes.
It fails for a pull request that entered the queue BEFORE the hold was placed: `handle_merge_queues` never
reads pull-request options or status (`C12_hold_after_queued_counterexample`; upstream's own test
`test_decline_queued_pull_request` says "and yet it will merge"). What is proved instead:
`C12_held_no_effect` / `C12_held_refs` (an evaluation of a held pull request does nothing to the remote, at
most deletes its integration branches when a `reset` command is pending) and `C12_queue_partial` (a pull
request that was never queued while held is not in the queue, hence never among the pull requests a queue
evaluation merges: `C12_queue_moves`).

About COMMAND comments on a held pull request: `handle_comments` runs before `check_dependencies`, so a
pending `reset` / `force_reset` is executed although the pull request is held. It deletes the integration
branches of the pull request and creates nothing; the property text forbids that the pull request GETS
integration branches, queue entries or merges — a deletion is none of these, so this is not counted as a
violation (`C12_held_refs` states exactly what can happen: refs only disappear, and only `w/*/<source>`).
-/
namespace BertE.C12
open BertE.Early BertE.Reactor BertE.Flow
open BertE.Names (classify Kind)

/-- the pull request is held back, finished or foreign -/
def Held (t : Tbl) (i : Input) : Prop :=
  waitSet i = true ∨ depUnmet i = true ∨ finished i = true ∨ srcForeign t i = true ∨ dstForeign t i = true

/-- finished or foreign: a pull request Bert-E does not handle -/
def NotHandled (t : Tbl) (i : Input) : Prop :=
  finished i = true ∨ srcForeign t i = true ∨ dstForeign t i = true

instance (t i) : Decidable (Held t i) := by unfold Held; infer_instance
instance (t i) : Decidable (NotHandled t i) := by unfold NotHandled; infer_instance

variable {t : Tbl}

/-- **A held pull request never reaches `clone_git_repo`**: whatever its approvals and builds (they are read
    after the clone), the evaluation ends as a redirect, a silent stop, a posted message, a crash or a
    command. -/
theorem C12_held_stops (hT : TblOK t) (i : Input) (h : Held t i) : (handlePr t i).decision.isProceed = false := by
  cases hd : (handlePr t i).decision with
  | proceed st =>
    -- reaching the clone means that every check passed, hence that no hold is in force
    obtain ⟨_, hec, hc, hcd⟩ := handlePr_proceed_iff.mp hd
    obtain ⟨hf, hs, hdf, _⟩ := (earlyChecks_none hT i).mp hec
    obtain ⟨hw, hu⟩ := checkDependencies_none_holds hT hc hcd
    exact absurd h (by simp [Held, hw, hu, hf, hs, hdf])
  | _ => rfl

/-- **No effect.** The job that evaluates a held pull request (no command comment pending) is, at the level of
    refs, the event "stopped before the clone": it plans no remote operation and leaves remote, commit graph
    and queue unchanged — for every stage the gates would have allowed, every merge outcome, every queue
    selection. -/
theorem C12_held_no_effect (hT : TblOK t) (i : Input) (h : Held t i)
    (hnc : ∀ st n a, i.comments ≠ .command st n a)
    (s : Sys) (pr : PrInfo) (stage : Stage) (orc : List Bool) (sel : List Nat) (cd rr : Bool) (ev : Event)
    (hev : event (handlePr t i) i.status pr stage orc sel cd rr = some ev) :
    ev = .evalPr pr .early orc sel ∧ (plan s ev).ops = [] ∧ (step s ev).1 = s := by
  rcases event_stopped (C12_held_stops hT i h) hev with rfl | ⟨_, n, a, hd⟩
  · exact ⟨rfl, (planPr_early_nil s pr orc sel).1, step_early s pr orc sel⟩
  · obtain ⟨st, hc⟩ := handlePr_command hd
    exact absurd hc (hnc st n a)

/-- **Refs, commands included.** Whatever the comments hold (a pending `reset` / `force_reset` runs before the
    hold is looked at), the job that evaluates a held pull request creates no ref and moves none: every ref of
    the remote after the job was there before with the same commit; everything except the integration branches
    `w/*/<source>` of this very pull request is exactly as before; the queue bookkeeping is unchanged. -/
theorem C12_held_refs (hT : TblOK t) (i : Input) (h : Held t i)
    (s : Sys) (pr : PrInfo) (stage : Stage) (orc : List Bool) (sel : List Nat) (cd rr : Bool) (ev : Event)
    (hev : event (handlePr t i) i.status pr stage orc sel cd rr = some ev) :
    (∀ r c, (step s ev).1.remote.get r = some c → s.remote.get r = some c) ∧
    (∀ r, (∀ d, r ≠ .w d pr.src) → (step s ev).1.remote.get r = s.remote.get r) ∧
    (step s ev).1.queue = s.queue := by
  rcases event_stopped (C12_held_stops hT i h) hev with rfl | ⟨rfl, _⟩
  · rw [step_early]
    exact ⟨fun _ _ h => h, fun _ _ => rfl, rfl⟩
  · -- the reset is one pruning push of the remote minus those integration branches of the pull request that exist
    have hq : (step s (.reset pr)).1.queue = s.queue := by
      simp only [step, plan, planReset]
      split <;> rfl
    have hrem : (step s (.reset pr)).1.remote = delRefs s.remote
        ((List.map (fun d => Ref.w d pr.src) (s.targets pr.dst)).filter (fun r => s.remote.has r)) := by
      simp only [step, plan, planReset]
      split
      · next he => rw [List.isEmpty_iff.mp he]; rfl
      · exact applyOp_pushAll_delRefs_noRej ..
    refine ⟨fun r c hc => ?_, fun r hne => ?_, hq⟩
    · rw [hrem] at hc
      exact (get_delRefs_eq_some.mp hc).2
    · rw [hrem, get_delRefs, if_neg]
      intro hm
      obtain ⟨d, _, hd⟩ := List.mem_map.mp (List.mem_filter.mp hm).1
      exact hne d hd.symm

/-- **A pull request Bert-E does not handle gets no comment at all**: finished (neither OPEN nor DECLINED),
    source not a producer, destination not a consumer — `notify_user` is never called (these exits precede
    `send_greetings`, and NothingToDo / NotMyJob are silent). -/
theorem C12_foreign_silent (hT : TblOK t) (i : Input) (h : NotHandled t i) : (handlePr t i).notified = [] := by
  unfold handlePr
  split
  · rfl
  · have hne : ¬ (t.handled.contains i.status = true ∧ isProducer t i.src = .ok true ∧ isConsumer t i.dst = .ok true) := by
      rintro ⟨h1, h2, h3⟩
      rcases h with h | h | h
      · rw [(handled_iff hT i).mp h1] at h; cases h
      · unfold srcForeign at h; rw [h2] at h; cases h
      · unfold dstForeign at h; rw [h3] at h; cases h
    obtain ⟨d, hd, hk⟩ := earlyChecks_stop hne
    rw [handleInner_stopped hd]
    apply notified_of_not_message rfl
    intro c hc
    simp only at hc
    rcases hk with rfl | rfl | ⟨e, rfl⟩
    · rw [raise_silent hT.nothing_silent] at hc; cases hc
    · rw [raise_silent hT.notmine_silent] at hc; cases hc
    · cases hc

/-- **A held but handled pull request gets at most the greeting and one explanatory message**: with well-formed
    comments (no error, no command) and an existing destination, everything `notify_user` is called with before
    the clone is the greeting, AfterPullRequest or IncorrectPullRequestNumber — at most two calls (held or not:
    a pull request that is not held gets the greeting only and goes on). -/
theorem C12_held_comments (hT : TblOK t) (i : Input) (st : State) (hc : i.comments = .ok st)
    (hd : i.dstExists = true) :
    (∀ c ∈ (handlePr t i).notified, c = "InitMessage" ∨ c = "AfterPullRequest" ∨ c = "IncorrectPullRequestNumber") ∧
    (handlePr t i).notified.length ≤ 2 := by
  refine ⟨?_, notified_length _⟩
  by_cases hnh : NotHandled t i
  · rw [C12_foreign_silent hT i hnh]; simp
  · simp only [NotHandled, not_or, Bool.not_eq_true] at hnh
    have hec := (earlyChecks_none hT i).mpr ⟨hnh.1, hnh.2.1, hnh.2.2, hd⟩
    intro c hcm
    rcases mem_notified hcm with h1 | h1
    · exact Or.inl h1
    · right
      rcases handlePr_message h1 with he | ⟨e, hc', _⟩ | ⟨st', _, hcd⟩
      · rw [hec] at he; cases he
      · rw [hc] at hc'; cases hc'
      · rcases checkDependencies_some hcd with h2 | h2 | h2 | ⟨e, h2⟩
        · rw [raise_silent hT.nothing_silent] at h2; cases h2
        · exact Or.inr (raise_message h2.symm).1
        · exact Or.inl (raise_message h2.symm).1
        · cases h2

/-- **The `wait` hold gets only the greeting.** -/
theorem C12_wait_greeting_only (hT : TblOK t) (i : Input) (hw : waitSet i = true) (st : State)
    (hc : i.comments = .ok st) : ∀ c ∈ (handlePr t i).notified, c = "InitMessage" ∨ c = "WrongDestination" := by
  intro c hcm
  rcases mem_notified hcm with h1 | h1
  · exact Or.inl h1
  · right
    rcases handlePr_message h1 with he | ⟨e, hc', _⟩ | ⟨st', hc', hcd⟩
    · rcases earlyChecks_stop_or he with h2 | h2 | h2 | ⟨e, h2⟩
      · rw [raise_silent hT.nothing_silent] at h2; cases h2
      · rw [raise_silent hT.notmine_silent] at h2; cases h2
      · exact (raise_message h2.symm).1
      · cases h2
    · rw [hc] at hc'; cases hc'
    · -- `check_dependencies` sees the `wait` first: NothingToDo, which is silent
      rw [hc] at hc'; cases hc'
      rw [waitSet_ok hc] at hw
      have : checkDependencies t i.prs st = some (raise_ t "NothingToDo") := by
        cases hg : st.get "wait" <;> simp_all [checkDependencies]
      rw [this, raise_silent hT.nothing_silent] at hcd
      cases hcd

/-- **As soon as the hold is lifted the evaluation proceeds**: no hold, an existing destination, comments without
    error or command (settings of the registered shape) — the decision is `proceed` with these settings. The
    decision is a function of the current input only: nothing of an earlier hold is remembered. -/
theorem C12_lifted (hT : TblOK t) (i : Input) (h : ¬ Held t i) (hrob : i.authorIsRobot = false)
    (hd : i.dstExists = true) (st : State) (hc : i.comments = .ok st)
    (w : Val) (ids : List String) (hw : st.get "wait" = some w) (ha : st.get "after_pull_request" = some (.set ids)) :
    (handlePr t i).decision = .proceed st := by
  simp only [Held, not_or, Bool.not_eq_true] at h
  obtain ⟨h1, h2, h3, h4, h5⟩ := h
  refine handlePr_proceed_iff.mpr ⟨hrob, (earlyChecks_none hT i).mpr ⟨h3, h4, h5, hd⟩, hc, ?_⟩
  refine (checkDependencies_none hT i.prs st w ids hw ha).mpr ⟨?_, ?_⟩
  · rw [waitSet_ok hc, hw] at h1
    exact h1
  · intro id hid
    unfold depUnmet depIds settingsOf at h2
    simp only [hc, Outcome.state?, ha] at h2
    simpa using List.any_eq_false.mp h2 id hid

/-- **The queue merge only moves destination branches onto queue commits of queued pull requests.** -/
theorem C12_queue_moves (s : Sys) (sel : List Nat) (d : Dest) :
    (step s (.evalQueues sel)).1.remote.get (.dest d) = s.remote.get (.dest d) ∨
    ∃ e ∈ s.queue, sel.contains e.pr = true ∧ d ∈ e.targets ∧
      (step s (.evalQueues sel)).1.remote.get (.dest d) = s.remote.get (.qw e.pr d e.src) := by
  simp only [step, plan]
  exact planQueues_dest s sel d

/-- **C12 for the queue, partial (D6).** A pull request `p` that is not in the queue and whose evaluations, as
    long as the run lasts, are all stopped before the clone (which `C12_held_stops` says of a held pull request)
    is never in the queue — whatever else happens: evaluations of other pull requests, queue evaluations, admin
    jobs, third-party pushes. Together with `C12_queue_moves`: no queue evaluation of the run moves a branch
    onto a queue commit of `p`, i.e. `p` is not merged by a queue evaluation.
    PARTIAL: the hypothesis `h0` (not queued when the hold is placed) is beyond the property text; without it
    the statement is false for the unchanged code, see `C12_hold_after_queued_counterexample`. -/
theorem C12_queue_partial (p : Nat) : ∀ (tr : List Event) (s : Sys),
    (∀ e ∈ s.queue, e.pr ≠ p) →
    (∀ ev ∈ tr, ∀ pr st orc sel, ev = .evalPr pr st orc sel → pr.id = p → st = .early) →
    (∀ e ∈ (run s tr).queue, e.pr ≠ p) ∧
    ∀ k sel, tr[k]? = some (.evalQueues sel) → ∀ e ∈ (run s (tr.take k)).queue, sel.contains e.pr = true → e.pr ≠ p
  | [], s, h0, _ => ⟨h0, fun k sel hk => by simp at hk⟩
  | ev :: tr, s, h0, hheld => by
    have hstep : ∀ e ∈ (step s ev).1.queue, e.pr ≠ p := by
      apply step_keeps_out s p ev h0
      intro pr st orc sel hev hid hfin
      have := hheld ev List.mem_cons_self pr st orc sel hev hid
      rw [this] at hfin; cases hfin
    obtain ⟨ih1, ih2⟩ := C12_queue_partial p tr (step s ev).1 hstep
      (fun ev' hev' => hheld ev' (List.mem_cons_of_mem _ hev'))
    refine ⟨ih1, ?_⟩
    intro k sel hk e he _
    cases k with
    | zero => exact h0 e (by simpa [run] using he)
    | succ k =>
      simp only [List.getElem?_cons_succ] at hk
      simp only [List.take_succ_cons, run] at he
      exact ih2 k sel hk e he ‹_›

/-- **D6, the witness.** Two development branches, queues on. Pull request 1 passes every gate and is queued;
    then it is held: its evaluation is stopped before the clone and changes nothing; then the queue build turns
    green and a queue evaluation selects it: `development/4.3` moves onto the queue commit of the held pull
    request. -/
theorem C12_hold_after_queued_counterexample :
    let s0 := BertE.Drv.C01.initSys true false [.dev 4 (some 3), .dev 5 (some 1)]
    let pr : PrInfo := ⟨1, "feature/x", .dev 4 (some 3), false⟩
    let s1 := (step s0 (.extSet "feature/x" [1] false)).1
    let s2 := (step s1 (.evalPr pr .final [] [])).1          -- queued
    let s3 := (step s2 (.evalPr pr .early [] [])).1          -- evaluation while held
    let s4 := (step s3 (.evalQueues [1])).1                  -- commit event on the green queue
    s2.queue.map (·.pr) = [1] ∧ s3.remote = s2.remote ∧
    s4.remote.get (.dest (.dev 4 (some 3))) = s2.remote.get (.qw 1 (.dev 4 (some 3)) "feature/x") ∧
    s4.remote.get (.dest (.dev 4 (some 3))) ≠ s2.remote.get (.dest (.dev 4 (some 3))) := by
  decide +kernel

/-- what the property needs of the class flags: only development, stabilization and hotfix branches are
    consumers; user, hotfix and legacy-hotfix branches are not producers -/
def FlagsNeed (t : Tbl) : Prop :=
  (∀ k ∈ Kind.all, t.consumer k = some true → k ∈ [Kind.development, .stabilization, .hotfix]) ∧
  (∀ k ∈ [Kind.user, .hotfix, .legacyHotfix], t.producer k ≠ some true)

instance (t : Tbl) : Decidable (FlagsNeed t) := by unfold FlagsNeed; infer_instance

/-- **The foreign names of the property text are foreign for the model**: a destination that is not recognised
    as a development, stabilization or hotfix branch, a source that no class recognises or that is a user/* or
    hotfix/* branch (classification: the C18 parser, `C18_classify` relates it to the grammar). -/
theorem C12_foreign_names (hF : FlagsNeed t) (i : Input) :
    ((∀ p, classify t.names i.dst = some p → p.kind ∉ [Kind.development, .stabilization, .hotfix]) →
      dstForeign t i = true) ∧
    ((classify t.names i.src = none ∨
      ∃ p, classify t.names i.src = some p ∧ p.kind ∈ [Kind.user, .hotfix, .legacyHotfix]) →
      srcForeign t i = true) := by
  constructor
  · intro h
    unfold dstForeign isConsumer flagOf
    cases hc : classify t.names i.dst with
    | none => rfl
    | some p =>
      simp only
      cases hk : t.consumer p.kind with
      | none => rfl
      | some b =>
        cases b
        · rfl
        · exact absurd (hF.1 p.kind (by cases p.kind <;> simp [Kind.all]) hk) (h p hc)
  · intro h
    unfold srcForeign isProducer flagOf
    rcases h with h | ⟨p, hp, hk⟩
    · rw [h]
    · rw [hp]
      simp only
      cases hf : t.producer p.kind with
      | none => rfl
      | some b =>
        cases b
        · rfl
        · exact absurd hf (hF.2 p.kind hk)

/-- What is checked of the regenerated call table: the calls of `_handle_pull_request` up to the clone are the
    ones `handleInner` implements, in that order; none of them can touch refs or create pull requests
    (hand-written classification of the extractor); the tests and raised classes of `early_checks`,
    `send_greetings`, `check_dependencies` and of the wrapper are the modelled ones; every command handler ends
    by raising; the classes the model posts are templates. -/
structure SourceOK : Prop where
  order : BertE.Gen.Early.calls.takeWhile (fun f => f != "clone_git_repo") ++ ["clone_git_repo"] = modelOrder
  clone : "clone_git_repo" ∈ BertE.Gen.Early.calls
  effects : ∀ f ∈ BertE.Gen.Early.calls.takeWhile (fun f => f != "clone_git_repo"),
      ∃ e ∈ (BertE.Gen.Early.effects.lookup f).toList, e ∈ ["none", "comment", "command"]
  early : BertE.Gen.Early.earlyChecks = modelEarlyChecks
  deps : BertE.Gen.Early.depChecks = modelDepChecks
  lookup : BertE.Gen.Early.depLookup = "job.project_repo.get_pull_request(int(pr_id))"
  greeting : BertE.Gen.Early.greetingTest = "find_comment(job.pull_request, username=username)" ∧
      BertE.Gen.Early.greetingClass = "InitMessage"
  redirect : BertE.Gen.Early.redirectTest = "job.pull_request.author == job.settings.robot" ∧
      BertE.Gen.Early.redirectCall = "handle_parent_pull_request"
  notify : BertE.Gen.Early.notifiedBase = "TemplateException" ∧ BertE.Gen.Early.notifyCalls = ["notify_user"] ∧
      BertE.Gen.Early.notifyReraises = true
  commands : (∀ r ∈ BertE.Gen.Early.commandHandlers, r.2.2 = true) ∧
      BertE.Gen.Early.commandHandlers.map (·.1) = BertE.Gen.Reactor.commands.map (·.name)
  templates : ∀ c ∈ ["InitMessage", "WrongDestination", "AfterPullRequest", "IncorrectPullRequestNumber",
      "UnknownCommand", "NotEnoughCredentials", "NotAuthor", "IncorrectCommandSyntax"],
      BertE.Drv.C12.msgKind c = some "template"
  crash : BertE.Drv.C12.msgKind "UnrecognizedBranchPattern" = some "internal"

instance : Decidable SourceOK :=
  decidable_of_iff
    ((BertE.Gen.Early.calls.takeWhile (fun f => f != "clone_git_repo") ++ ["clone_git_repo"] = modelOrder) ∧
     ("clone_git_repo" ∈ BertE.Gen.Early.calls) ∧
     (∀ f ∈ BertE.Gen.Early.calls.takeWhile (fun f => f != "clone_git_repo"),
        ∃ e ∈ (BertE.Gen.Early.effects.lookup f).toList, e ∈ ["none", "comment", "command"]) ∧
     (BertE.Gen.Early.earlyChecks = modelEarlyChecks) ∧
     (BertE.Gen.Early.depChecks = modelDepChecks) ∧
     (BertE.Gen.Early.depLookup = "job.project_repo.get_pull_request(int(pr_id))") ∧
     (BertE.Gen.Early.greetingTest = "find_comment(job.pull_request, username=username)" ∧
        BertE.Gen.Early.greetingClass = "InitMessage") ∧
     (BertE.Gen.Early.redirectTest = "job.pull_request.author == job.settings.robot" ∧
        BertE.Gen.Early.redirectCall = "handle_parent_pull_request") ∧
     (BertE.Gen.Early.notifiedBase = "TemplateException" ∧ BertE.Gen.Early.notifyCalls = ["notify_user"] ∧
        BertE.Gen.Early.notifyReraises = true) ∧
     ((∀ r ∈ BertE.Gen.Early.commandHandlers, r.2.2 = true) ∧
        BertE.Gen.Early.commandHandlers.map (·.1) = BertE.Gen.Reactor.commands.map (·.name)) ∧
     (∀ c ∈ ["InitMessage", "WrongDestination", "AfterPullRequest", "IncorrectPullRequestNumber",
        "UnknownCommand", "NotEnoughCredentials", "NotAuthor", "IncorrectCommandSyntax"],
        BertE.Drv.C12.msgKind c = some "template") ∧
     (BertE.Drv.C12.msgKind "UnrecognizedBranchPattern" = some "internal"))
    ⟨fun ⟨a, b, c, d, e, f, g, h, i, j, k, l⟩ => ⟨a, b, c, d, e, f, g, h, i, j, k, l⟩,
     fun h => ⟨h.order, h.clone, h.effects, h.early, h.deps, h.lookup, h.greeting, h.redirect, h.notify,
               h.commands, h.templates, h.crash⟩⟩

open BertE.Drv.C12 in
/-- the three obligations below, in one evaluation (they read the same generated tables) -/
private theorem tables : TblOK genTbl ∧ FlagsNeed genTbl ∧ SourceOK := by decide +kernel

open BertE.Drv.C12 in
/-- **Table obligation**: statuses, merged statuses and message kinds of the current source -/
theorem C12_table : TblOK genTbl := tables.1

open BertE.Drv.C12 in
/-- **Flag obligation**: `cascade_producer` / `cascade_consumer` of the classes of the current source -/
theorem C12_flags : FlagsNeed genTbl := tables.2.1

/-- **Source obligation**: the call order and the tests of the current source are the modelled ones -/
theorem C12_source : SourceOK := tables.2.2

open BertE.Drv.C12 in
theorem C12_held_stops_gen (i : Input) (h : Held genTbl i) : (handlePr genTbl i).decision.isProceed = false :=
  C12_held_stops C12_table i h

open BertE.Drv.C12 in
theorem C12_foreign_silent_gen (i : Input) (h : NotHandled genTbl i) : (handlePr genTbl i).notified = [] :=
  C12_foreign_silent C12_table i h

/-- **Registry obligation**: with any command-line switches, the registry of the current source registers `wait`
    and `after_pull_request` (own handler, a set as default): the settings `check_dependencies` reads always
    exist with the expected shape (`handleComments_settingsOK`). -/
theorem C12_registry (keys : List String) : RegOK (BertE.Drv.C07.genRegistry.withCmdLine keys) := by
  have hreg : (BertE.Drv.C07.genRegistry.findOpt "wait").isSome = true ∧
      (BertE.Drv.C07.genRegistry.findOpt "after_pull_request").isSome = true := by decide +kernel
  refine ⟨BertE.C07.C07_cmdline_handlers keys BertE.C07.C07_table_handlers BertE.C07.C07_table_apr_not_cmdline, ?_, ?_⟩
  · rw [findOpt_withCmdLine, Option.isSome_map]
    exact hreg.1
  · rw [findOpt_withCmdLine, Option.isSome_map]
    exact hreg.2

open BertE.Drv.C12 in
/-- **Lifted, on the current source**: for the real comment reactor (any comment list, any command-line
    switches, any admins): if the comments raise no error and hold no command, and no hold is left, the
    evaluation proceeds — no side condition on the settings. -/
theorem C12_lifted_gen (keys : List String) (env : Env) (cs : List Comment) (i : Input)
    (hcom : i.comments = handleComments (BertE.Drv.C07.genRegistry.withCmdLine keys) env cs)
    (h : ¬ Held genTbl i) (hrob : i.authorIsRobot = false) (hd : i.dstExists = true)
    (st : State) (hc : i.comments = .ok st) : (handlePr genTbl i).decision = .proceed st := by
  have hs : SettingsOK st := by
    apply handleComments_settingsOK (C12_registry keys) (env := env) (cs := cs)
      (tok := keywordsOf env.pfx) (ctok := commandOf env.pfx)
    exact handleComments_state (by rw [← hcom, hc])
  obtain ⟨⟨w, hw⟩, ⟨ids, ha⟩⟩ := hs
  exact C12_lifted C12_table i h hrob hd st hc w ids hw ha

section Examples
open BertE.Drv.C12

def exReg : Registry := BertE.Gen.Reactor.registry
def exEnv : Env := ⟨["admin"], "contrib", "robot", []⟩

/-- an open, approved pull request feature/TEST-1 -> development/4.3 with the given comments; pull request 2 is
    OPEN, 3 is MERGED -/
def exInput (cs : List Comment) (status : String := "OPEN") (src : String := "feature/TEST-1")
    (dst : String := "development/4.3") : Input :=
  ⟨false, status, src.toList, dst.toList, true, false, handleComments exReg exEnv cs, [(2, "OPEN"), (3, "MERGED")]⟩

def exWait : Input := exInput [⟨"contrib", "@robot wait".toList⟩]
def exAfter : Input := exInput [⟨"contrib", "@robot after_pull_request=2".toList⟩]
def exAfterMerged : Input := exInput [⟨"contrib", "@robot after_pull_request=3".toList⟩]
def exReset : Input := exInput [⟨"contrib", "@robot after_pull_request=2".toList⟩, ⟨"contrib", "@robot reset".toList⟩]

-- C12_held_stops / C12_held_no_effect: held by `wait`; the decision is a silent NothingToDo after the greeting
example : Held genTbl exWait ∧ handlePr genTbl exWait = ⟨.silent "NothingToDo", true⟩ := by decide +kernel
-- held by an open dependency: AfterPullRequest is posted after the greeting
example : Held genTbl exAfter ∧ (handlePr genTbl exAfter).notified = ["InitMessage", "AfterPullRequest"] := by decide +kernel
-- C12_held_refs: a reset command on a held pull request runs
example : Held genTbl exReset ∧ (handlePr genTbl exReset).decision = .command "reset" [] := by decide +kernel
-- C12_held_no_effect / C12_held_refs: the events of the jobs above, whatever the gates would have allowed
example :
    let pr : PrInfo := ⟨1, "feature/TEST-1", .dev 4 (some 3), false⟩
    (match event (handlePr genTbl exWait) "OPEN" pr .final [] [] false true with
     | some (.evalPr p .early [] []) => p.id == 1
     | _ => false) = true ∧
    (match event (handlePr genTbl exReset) "OPEN" pr .final [] [] false true with
     | some (.reset p) => p.id == 1
     | _ => false) = true := by decide +kernel
-- C12_foreign_silent / C12_foreign_names: user/* source, release/* destination, finished
example : NotHandled genTbl (exInput [] "OPEN" "user/jo/x") ∧ NotHandled genTbl (exInput [] "OPEN" "feature/x" "release/4.3")
    ∧ NotHandled genTbl (exInput [] "MERGED") ∧ (handlePr genTbl (exInput [] "MERGED")).notified = [] := by decide +kernel
-- C12_held_comments / C12_wait_greeting_only: hypotheses hold on exWait
example : (match exWait.comments with | .ok _ => true | _ => false) = true ∧ exWait.dstExists = true ∧
    waitSet exWait = true := by decide +kernel
-- C12_lifted: the dependency is merged (or the comment deleted): the evaluation proceeds
example : ¬ Held genTbl exAfterMerged ∧ (handlePr genTbl exAfterMerged).decision.isProceed = true ∧
    ¬ Held genTbl (exInput []) ∧ (handlePr genTbl (exInput [])).decision.isProceed = true := by decide +kernel
example : (match exAfterMerged.comments with
    | .ok st => st.get "wait" == some (.bool false) && st.get "after_pull_request" == some (.set ["3"])
    | _ => false) = true := by decide +kernel
-- C12_queue_partial / C12_queue_moves: a run in which pull request 2 is queued and merged while pull request 1,
-- held, is evaluated: 1 never enters the queue
example :
    let s0 := BertE.Drv.C01.initSys true false [.dev 4 (some 3)]
    let s1 := (step s0 (.extSet "feature/x" [1] false)).1
    let s2 := (step s1 (.extSet "feature/y" [1] false)).1
    let tr : List Event := [.evalPr ⟨1, "feature/x", .dev 4 (some 3), false⟩ .early [] [],
                            .evalPr ⟨2, "feature/y", .dev 4 (some 3), false⟩ .final [] [], .evalQueues [2]]
    s2.queue = [] ∧ ((run s2 (tr.take 2)).queue.map (·.pr)) = [2] ∧ (run s2 tr).queue = [] := by decide +kernel

end Examples

end BertE.C12

/-! ### End to end: holds inside the composed evaluation (`Model/Eval.lean`)

The input of the pre-clone model is read off the host and the repository (`Eval.earlyInput`): status, names and
comments of THE pull request on the host, statuses of the pull requests its `after_pull_request` options name,
existence of its destination in the repository. -/
namespace BertE.C12
open BertE.Early BertE.Reactor BertE.Flow BertE.Eval

/-- **C12, end to end.** A held, finished or foreign pull request: the composed evaluation ends at the early
    stage with the EMPTY plan — no integration branch, no queue entry, no merge — whatever its approvals, its
    build statuses, its Jira issue. -/
theorem C12_e2e_held {c : Eval.Cfg} (hT : TblOK c.early) {h : Host} {s : Sys} {id : Nat} {p : Eval.Pr}
    (orc : List Bool) (sel : List Nat) (hp : h.pr id = some p) (hh : Held c.early (earlyInput c h s p)) :
    (evalPr c h s id orc sel).stage = .early ∧ (evalPr c h s id orc sel).plan.ops = [] ∧
    applyOps (evalPr c h s id orc sel).plan.g noRej s.remote (evalPr c h s id orc sel).plan.ops = s.remote := by
  obtain ⟨h1, h2, _, _⟩ := evalPr_stopped orc sel hp (C12_held_stops hT _ hh)
  rw [h2]
  exact ⟨h1, rfl, rfl⟩

/-- **C12, end to end: no comment at all** on a pull request Bert-E does not handle (finished, or foreign source
    or destination): `notify_user` is not called once during the evaluation. -/
theorem C12_e2e_foreign_silent {c : Eval.Cfg} (hT : TblOK c.early) {h : Host} {s : Sys} {id : Nat} {p : Eval.Pr}
    (orc : List Bool) (sel : List Nat) (hp : h.pr id = some p) (hh : NotHandled c.early (earlyInput c h s p)) :
    (evalPr c h s id orc sel).notified = [] ∧ (evalPr c h s id orc sel).plan.ops = [] := by
  obtain ⟨_, h2, _, h4⟩ := evalPr_stopped orc sel hp (C12_held_stops hT _ (Or.inr (Or.inr hh)))
  rw [h4, h2]
  exact ⟨C12_foreign_silent hT _ hh, rfl⟩

/-! Non-vacuity on the tables of the current source: a fully approved, green pull request with a `wait` comment;
    a pull request from a `user/` branch. -/

def e2eCfg : Eval.Cfg :=
  { reg := BertE.Drv.C07.genRegistry.withCmdLine ["bypass_jira_check"]
    env := ⟨["admin"], "", "robot", []⟩
    authorOptions := []
    early := BertE.Drv.C12.genTbl
    build := BertE.Drv.C06.genTbl
    buildKey := "pre-merge"
    approvals := { requiredPeers := 0, requiredLeaders := 0, needAuthor := false, projectLeaders := ["admin"],
                   robot := "robot", bypassAuthorS := false, bypassAuthorA := false, bypassPeerS := false,
                   bypassPeerA := false, bypassLeaderS := false, bypassLeaderA := false, approve := false,
                   unanimity := false }
    jira := ⟨false, false, [], [], "", "", [], false⟩
    ticketless := BertE.Drv.Eval.ticketlessOf
    maxCommitDiff := 0
    createBranches := true
    createPrs := false }

def e2eSys : Sys :=
  (step (BertE.Drv.C01.initSys true false [.dev 4 (some 3)]) (.extSet "feature/TEST-1" [1] false)).1

def e2ePr (src : String) (cs : List Comment) : Eval.Pr :=
  { id := 1, author := "contrib", src := src, dst := "development/4.3", status := "OPEN",
    comments := cs, approvals := ["contrib", "peer1"], changeRequests := [], participants := ["contrib", "peer1"] }

def e2eHost (src : String) (cs : List Comment) : Host := ⟨[e2ePr src cs], [(2, .successful)], []⟩

example : Held e2eCfg.early (earlyInput e2eCfg (e2eHost "feature/TEST-1" [⟨"contrib", "@robot wait".toList⟩]) e2eSys
      (e2ePr "feature/TEST-1" [⟨"contrib", "@robot wait".toList⟩])) ∧
    (evalPr e2eCfg (e2eHost "feature/TEST-1" [⟨"contrib", "@robot wait".toList⟩]) e2eSys 1 [] []).plan.ops = [] ∧
    (evalPr e2eCfg (e2eHost "feature/TEST-1" []) e2eSys 1 [] []).outcome = "Queued" := by decide +kernel

example : NotHandled e2eCfg.early (earlyInput e2eCfg (e2eHost "user/x" []) e2eSys (e2ePr "user/x" [])) ∧
    (evalPr e2eCfg (e2eHost "user/x" []) e2eSys 1 [] []).notified = [] ∧
    (evalPr e2eCfg (e2eHost "user/x" []) e2eSys 1 [] []).outcome = "NotMyJob" := by decide +kernel

end BertE.C12
