import BertE.Gen.Http
import BertE.Model.Http
import BertE.Lemmas.Http
import BertE.Drv.C14
/-
C14 — HTTP entry points enqueue work only for authorised callers.

The theorems are parametric in the tables of the server (`Tbl`: endpoint and form classes, what each
`validate_endpoint_data` checks, the url_map with the decorators found around each view, the status codes of
the refusal helpers, the dispatch tables of the two webhook views). `TblOK` is what the property needs of them;
`C14_table` discharges it by `decide` on the tables regenerated from the source.

Known finding (D7): `APIEndpoint.view` passes the *whole* request JSON as the job's own settings. The clause
"a job that is created carries exactly the validated parameters of the request" is therefore false as it
stands — `FullExact` below is that statement, `C14_extra_keys_counterexample` refutes it on a concrete request.
What is proved instead: the validated parameters are carried, and every other key of the job's settings is
an entry of the request JSON, verbatim (`C14_api`, last clause); exactness for requests whose JSON names no
key beyond the validated ones (`C14_api_partial`).
-/
namespace BertE.C14
open BertE.Http

/-! ### what the property text fixes -/

/-- "create or delete a branch, force-merge or delete the queues" -/
def mutatingJobs : List String := ["CreateBranchJob", "DeleteBranchJob", "ForceMergeQueuesJob", "DeleteQueuesJob"]

def branchJobs : List String := ["CreateBranchJob", "DeleteBranchJob"]

def isApiRule (rule : String) : Bool :=
  ("/api/".toList.isPrefixOf rule.toList || "/form/".toList.isPrefixOf rule.toList) && rule != "/api/auth"

/-- `pr_id` is refused below a bound that is at least 1 -/
def prCheckOK : Check → Bool
  | .urlIntLt p b => p == "pr_id" && decide (1 ≤ b)
  | _ => false

def ownerExpr : String := "json_data['repository']['owner']['username']"
def slugExpr : String := "json_data['repository']['name']"
def fullNameExpr : String := "json_data.get('repository', {}).get('full_name')"

/-- an endpoint class that changes the repository is flagged admin, and so is its form; the view of every
    endpoint / form class is wrapped by `requires_auth` with the flag of the class; every rule under /api/ and
    /form/ (the login route /api/auth apart) is wrapped by `requires_auth`; every view of webhook.py by
    `requires_basic_auth` -/
def AuthOK (t : Tbl) : Prop :=
  (∀ e ∈ t.endpoints, ∀ j ∈ mutatingJobs, e.job = some j → e.admin = true) ∧
  (∀ f ∈ t.forms, ∀ e ∈ t.endpoints, e.cls = f.endpoint → ∀ j ∈ mutatingJobs, e.job = some j → f.admin = true) ∧
  (∀ r ∈ t.routes, ∀ e ∈ t.endpoints, e.cls = r.viewName → Wrapper.auth e.admin ∈ r.wrappers) ∧
  (∀ r ∈ t.routes, ∀ f ∈ t.forms, f.cls = r.viewName → Wrapper.auth f.admin ∈ r.wrappers) ∧
  (∀ r ∈ t.routes, isApiRule r.rule = true → ∃ a ∈ [true, false], Wrapper.auth a ∈ r.wrappers) ∧
  (∀ r ∈ t.routes, r.viewModule = "bert_e.server.webhook" → Wrapper.basic ∈ r.wrappers)

/-- the refusal helpers send error statuses -/
def StatusOK (t : Tbl) : Prop :=
  (∀ p ∈ t.status, 400 ≤ p.2 ∧ p.2 < 600) ∧ (∀ h ∈ t.hooks, 400 ≤ h.refused ∧ h.refused < 600)

/-- the branch endpoints check the branch name with BRANCH_REGEXP as modelled; pr ids below 1 are refused -/
def ParamsOK (t : Tbl) : Prop :=
  (∀ e ∈ t.endpoints, ∀ j ∈ branchJobs, e.job = some j → Check.urlRegex "branch" branchRegexpText ∈ e.checks) ∧
  (∀ e ∈ t.endpoints, e.job = some "EvalPullRequestJob" → ∃ c ∈ e.checks, prCheckOK c = true)

/-- a webhook view compares owner and slug, or the full name, of the payload's repository with the configured one -/
def HooksOK (t : Tbl) : Prop :=
  ∀ h ∈ t.hooks, ((ownerExpr, "owner") ∈ h.identity ∧ (slugExpr, "slug") ∈ h.identity) ∨
      (fullNameExpr, "full_name") ∈ h.identity

instance (t : Tbl) : Decidable (AuthOK t) := by unfold AuthOK; infer_instance
instance (t : Tbl) : Decidable (StatusOK t) := by unfold StatusOK; infer_instance
instance (t : Tbl) : Decidable (ParamsOK t) := by unfold ParamsOK; infer_instance
instance (t : Tbl) : Decidable (HooksOK t) := by unfold HooksOK; infer_instance

/-- What the property needs of the tables. -/
structure TblOK (t : Tbl) : Prop where
  auth : AuthOK t
  status : StatusOK t
  params : ParamsOK t
  hooks : HooksOK t

instance (t : Tbl) : Decidable (TblOK t) :=
  decidable_of_iff (AuthOK t ∧ StatusOK t ∧ ParamsOK t ∧ HooksOK t)
    ⟨fun ⟨a, b, c, d⟩ => ⟨a, b, c, d⟩, fun h => ⟨h.auth, h.status, h.params, h.hooks⟩⟩

/-- Table obligation: the tables found in the current source are well-formed — every mutating endpoint and
    form has `admin = True`, every API / form route is wrapped by `requires_auth`, every webhook route by
    `requires_basic_auth`, the regexp text is the one modelled, pr ids below 1 are refused, the webhooks compare
    the repository identity. -/
theorem C14_table : TblOK BertE.Drv.C14.genTbl := by decide +kernel

section
variable {t : Tbl}

private theorem refusal_range (h : TblOK t) {n : Nat} (hn : t.refusal n) : 400 ≤ n ∧ n < 600 := by
  rcases hn with rfl | rfl | rfl | rfl | ⟨helper, hc⟩
  iterate 4 exact ⟨by omega, by omega⟩
  exact h.status.1 (helper, n) (lookup_mem hc)

def jsonKeys : List Check → List String
  | [] => []
  | .jsonRegexIfPresent k _ :: rest => k :: jsonKeys rest
  | _ :: rest => jsonKeys rest

/-- the url parameters as converted, then the JSON entries a check of the endpoint looked at -/
def validatedParams (e : Endpoint) (args : List (String × Arg)) (kvs : List (String × Val)) : List (String × Val) :=
  (args.map fun a => (a.1, a.2.toVal)) ++
    kvs.filter fun kv => (jsonKeys e.checks).contains kv.1 && !(args.map (·.1)).contains kv.1

def validatedOf (t : Tbl) (req : Request) : Option (List (String × Val)) :=
  match t.routes.filter (·.rule == req.rule) with
  | [] => none
  | r0 :: more =>
    match convertAll req.args r0.params, (r0 :: more).find? (·.methods.contains req.method) with
    | some args, some r =>
      match t.endpoints.find? (·.cls == r.viewName) with
      | some e => some (validatedParams e args (jsonEntries req.body.orEmpty))
      | none => none
    | _, _ => none

/-- the accepted grammar, for the two regular expressions of the source -/
def RegexOK (rx : String) (v : String) : Prop :=
  (rx = branchRegexpText → MatchesBranch v.toList) ∧ (rx = branchFromRegexpText → MatchesBranchFrom v.toList)

/-- every statement of the endpoint's `validate_endpoint_data` holds of the request -/
def ParamsValid (e : Endpoint) (args : List (String × Arg)) (json : Body) : Prop :=
  ∀ c ∈ e.checks,
    match c with
    | .urlRegex p rx => ∃ v, args.lookup p = some (.str v) ∧ RegexOK rx v
    | .urlIntLt p b => ∃ n : Nat, args.lookup p = some (.int n) ∧ b ≤ (n : Int)
    | .jsonRegexIfPresent k rx => ∀ v, (jsonEntries json).lookup k = some v → ∃ s, v = .str s ∧ RegexOK rx s

private theorem regexOK_of_match {rx v : String} (h : regexMatch rx v = .ok) : RegexOK rx v :=
  ⟨fun hr => regexMatch_branch (hr ▸ h), fun hr => regexMatch_branchFrom (hr ▸ h)⟩

private theorem paramsValid_of_validate {e : Endpoint} {args : List (String × Arg)} {json : Body}
    (hv : validate args json e.checks = .ok) : ParamsValid e args json := by
  intro c hc
  have h1 := validate_ok hv c hc
  cases c with
  | urlRegex p rx =>
    obtain ⟨v, hl, hm⟩ := checkOne_urlRegex h1
    exact ⟨v, hl, regexOK_of_match hm⟩
  | urlIntLt p b => exact checkOne_urlIntLt h1
  | jsonRegexIfPresent k rx =>
    intro v hl
    obtain ⟨s, hs, hm⟩ := checkOne_json h1 v hl
    exact ⟨s, hs, regexOK_of_match hm⟩

/-- everything the model establishes before `APIEndpoint.view` enqueues `j` for `req` -/
def Created (t : Tbl) (s : Session) (req : Request) (j : Job) : Prop :=
  ∃ r0 more r args e st,
    t.routes.filter (·.rule == req.rule) = r0 :: more ∧
    convertAll req.args r0.params = some args ∧
    (r0 :: more).find? (·.methods.contains req.method) = some r ∧
    applyWrappers t "" "" s none r.wrappers = some none ∧
    t.endpoints.find? (·.cls == r.viewName) = some e ∧
    e.job = some j.kind ∧
    validate args req.body.orEmpty e.checks = .ok ∧
    mkSettings req.body.orEmpty args = some st ∧
    j = { kind := j.kind, settings := st, user := s.user }

private theorem created_of_serve {s : Session} {req : Request} {x : Response} {j : Job}
    (hs : serveEndpoint t s req = .resp x) (hj : x.job = some j) :
    Created t s req j := by
  unfold serveEndpoint at hs
  rcases routed_resp hs with ⟨hnone, _⟩ | ⟨r0, more, r, args, hf, hca, hfind, hw, hk, _⟩
  · rw [hnone] at hj; cases hj
  · split at hk
    · rename_i e he
      rcases apiView_resp hk with ⟨hnone, _⟩ | ⟨jobCls, st, hjob, hv, hst, hxj, _⟩
      · rw [hnone] at hj; cases hj
      · rw [hxj] at hj
        cases hj
        exact ⟨r0, more, r, args, e, st, hf, hca, hfind, hw, he, hjob, hv, hst, rfl⟩
    · cases hk

private theorem find_endpoint {cls : String} {e : Endpoint} (h : t.endpoints.find? (·.cls == cls) = some e) :
    e ∈ t.endpoints ∧ e.cls = cls :=
  ⟨List.mem_of_find?_eq_some h, by simpa using List.find?_some h⟩

/-- the settings of a created job against the validated parameters:
    the validated parameters are carried; whatever else is there is an entry of the request JSON, verbatim -/
def Carries (vp : List (String × Val)) (json : Body) (st : Settings) : Prop :=
  (∀ k v, vp.lookup k = some v → st.get k = some v ∨ ∃ b, st = .raw b) ∧
  (∀ k v, st.get k = some v → vp.lookup k = some v ∨ (jsonEntries json).lookup k = some v) ∧
  (∀ b, st = .raw b → json = b ∧ vp = [])

private theorem lookup_validated (e : Endpoint) (args : List (String × Arg)) (kvs : List (String × Val)) (k : String) :
    (validatedParams e args kvs).lookup k =
      match args.lookup k with
      | some a => some a.toVal
      | none => if (jsonKeys e.checks).contains k then kvs.lookup k else none := by
  unfold validatedParams
  rw [List.lookup_append, lookup_map_toVal]
  cases ha : args.lookup k with
  | some a => simp
  | none =>
    simp only [Option.map_none, Option.none_or]
    rw [lookup_filter_key kvs (fun k => (jsonKeys e.checks).contains k && !(args.map (·.1)).contains k) k]
    have : (args.map (·.1)).contains k = false := by
      simp only [List.lookup_eq_none_iff, bne_iff_ne] at ha
      simpa using fun x hx => ha (k, x) hx rfl
    simp only [this, Bool.not_false, Bool.and_true]

private theorem carries_of_mkSettings {e : Endpoint} {args : List (String × Arg)} {json : Body} {st : Settings}
    (hst : mkSettings json args = some st) :
    Carries (validatedParams e args (jsonEntries json)) json st := by
  cases json with
  | absent => simp [mkSettings] at hst
  | obj kvs =>
    simp only [mkSettings, Option.some.injEq] at hst
    subst hst
    -- both sides are read through the url parameters first
    refine ⟨fun k v hv => Or.inl ?_, fun k v hv => ?_, nofun⟩
    · rw [lookup_validated] at hv
      simp only [Settings.get, lookup_upsertAll]
      cases ha : args.lookup k <;> simp only [ha, jsonEntries] at hv ⊢
      · split at hv
        · exact hv
        · cases hv
      · exact hv
    · simp only [Settings.get, lookup_upsertAll] at hv
      rw [lookup_validated]
      cases ha : args.lookup k <;> simp only [ha, jsonEntries] at hv ⊢
      · exact Or.inr hv
      · exact Or.inl hv
  | arr _ | scalar _ =>
    simp only [mkSettings] at hst
    by_cases he : args.isEmpty = true
    · simp only [he, if_true, Option.some.injEq] at hst
      subst hst
      have : args = [] := by simpa using he
      subst this
      refine ⟨?_, ?_, ?_⟩
      · intro k v hv; simp [validatedParams, jsonEntries] at hv
      · intro k v hv; simp [Settings.get] at hv
      · intro b hb; cases hb; exact ⟨rfl, by simp [validatedParams, jsonEntries]⟩
    · simp [he] at hst

/-- a url parameter wins over a JSON entry of the same name -/
private theorem settings_of_arg {json : Body} {args : List (String × Arg)} {st : Settings} {p : String} {a : Arg}
    (hst : mkSettings json args = some st) (hl : args.lookup p = some a) : st.get p = some a.toVal := by
  cases json with
  | absent => simp [mkSettings] at hst
  | obj kvs =>
    simp only [mkSettings, Option.some.injEq] at hst
    rw [← hst]
    show (upsertAll kvs args).lookup _ = _
    rw [lookup_upsertAll, hl]
  | arr _ | scalar _ =>
    -- settings that are not a dict need an empty argument list
    simp [mkSettings, isEmpty_false_of_lookup hl] at hst

/-- A job created through an API endpoint: the session is authenticated; if the job is one of the
    four repository-changing kinds the session is flagged admin; the job is of the kind of the endpoint class
    registered for the rule and method of the request; every check of that class holds of the request
    (`ParamsValid`); `job.user` is the session user; and the job's settings carry the validated parameters, every
    other entry being an entry of the request JSON, verbatim (`Carries` — see D7 in the header for why not
    "exactly"). -/
theorem C14_api (h : TblOK t) {s : Session} {req : Request} {x : Response} {j : Job}
    (hs : serveEndpoint t s req = .resp x) (hj : x.job = some j) :
    s.loggedIn = true ∧ (j.kind ∈ mutatingJobs → s.admin = true) ∧ j.user = s.user ∧
    ∃ r ∈ t.routes, ∃ e ∈ t.endpoints, ∃ args vp,
      r.rule = req.rule ∧ r.methods.contains req.method = true ∧ e.cls = r.viewName ∧
      e.job = some j.kind ∧ ParamsValid e args req.body.orEmpty ∧
      validatedOf t req = some vp ∧ Carries vp req.body.orEmpty j.settings := by
  obtain ⟨r0, more, r, args, e, st, hf, hca, hfind, hw, he, hjob, hv, hst, hjeq⟩ := created_of_serve hs hj
  obtain ⟨hr, hrule, hmeth⟩ := route_found hf hfind
  obtain ⟨hemem, hecls⟩ := find_endpoint he
  obtain ⟨hlog, hadm⟩ := (applyWrappers_pass hw).1 e.admin (h.auth.2.2.1 r hr e hemem hecls)
  refine ⟨hlog, fun hmut => hadm (h.auth.1 e hemem j.kind hmut hjob), by rw [hjeq], r, hr, e, hemem, args,
    validatedParams e args (jsonEntries req.body.orEmpty), hrule, hmeth, hecls, hjob,
    paramsValid_of_validate hv, ?_, ?_⟩
  · unfold validatedOf
    rw [hf]
    simp only [hca, hfind, he]
  · rw [hjeq]
    exact carries_of_mkSettings hst

/-- The full statement of the last clause — **false** on the current source (D7), kept visible:
    "a job that is created carries exactly the validated parameters of the request". -/
def FullExact (t : Tbl) : Prop :=
  ∀ (s : Session) (req : Request) (x : Response) (j : Job), serveEndpoint t s req = .resp x → x.job = some j →
    ∃ vp, validatedOf t req = some vp ∧ ∀ k, j.settings.get k = vp.lookup k

/-- the request JSON is an object that names no key beyond the validated ones -/
def NoExtraKeys (t : Tbl) (req : Request) : Prop :=
  (∃ kvs, req.body.orEmpty = .obj kvs) ∧
  ∀ vp, validatedOf t req = some vp → ∀ k v, (jsonEntries req.body.orEmpty).lookup k = some v → ∃ w, vp.lookup k = some w

/-- For a request whose JSON names no key beyond the validated ones, the job carries
    exactly the validated parameters. (The extra hypothesis is what D7 violates.) -/
theorem C14_api_partial (h : TblOK t) {s : Session} {req : Request} {x : Response} {j : Job}
    (hs : serveEndpoint t s req = .resp x) (hj : x.job = some j) (hx : NoExtraKeys t req) :
    ∃ vp, validatedOf t req = some vp ∧ ∀ k, j.settings.get k = vp.lookup k := by
  obtain ⟨_, _, _, r, _, e, _, args, vp, _, _, _, _, _, hvo, h1, h2, h3⟩ := C14_api h hs hj
  refine ⟨vp, hvo, fun k => ?_⟩
  cases hst : j.settings with
  | raw b => rw [(h3 b hst).2]; rfl
  | map m =>
    -- the settings are a map, so every validated parameter is carried
    have h1' : ∀ k v, vp.lookup k = some v → j.settings.get k = some v := fun k v hv =>
      (h1 k v hv).resolve_right (by rw [hst]; rintro ⟨b, hb⟩; cases hb)
    rw [← hst]
    refine Option.ext fun v => ⟨fun hg => ?_, h1' k v⟩
    rcases h2 k v hg with hv | hv
    · exact hv
    · obtain ⟨w, hw⟩ := hx.2 vp hvo k v hv
      rw [h1' k w hw] at hg
      exact Option.some.inj hg ▸ hw

/-- A branch job carries a branch name of the accepted grammar
    (`development/x.y`, `stabilization/x.y.z`, `hotfix/x.y.z`; `MatchesBranch` is the reading of `$` by Python). -/
theorem C14_branch_valid (h : TblOK t) {s : Session} {req : Request} {x : Response} {j : Job}
    (hs : serveEndpoint t s req = .resp x) (hj : x.job = some j) (hk : j.kind ∈ branchJobs) :
    ∃ b, j.settings.get "branch" = some (.str b) ∧ MatchesBranch b.toList := by
  obtain ⟨r0, more, r, args, e, st, hf, hca, hfind, hw, he, hjob, hv, hst, hjeq⟩ := created_of_serve hs hj
  have hchk := h.params.1 e (find_endpoint he).1 j.kind hk hjob
  obtain ⟨v, hl, hm⟩ := checkOne_urlRegex (validate_ok hv _ hchk)
  exact ⟨v, by rw [hjeq]; exact settings_of_arg hst hl, regexMatch_branch hm⟩

/-- An `EvalPullRequestJob` carries a pull request id ≥ 1. -/
theorem C14_pr_valid (h : TblOK t) {s : Session} {req : Request} {x : Response} {j : Job}
    (hs : serveEndpoint t s req = .resp x) (hj : x.job = some j) (hk : j.kind = "EvalPullRequestJob") :
    ∃ n : Nat, 1 ≤ n ∧ j.settings.get "pr_id" = some (.lit (toString n)) := by
  obtain ⟨r0, more, r, args, e, st, hf, hca, hfind, hw, he, hjob, hv, hst, hjeq⟩ := created_of_serve hs hj
  obtain ⟨c, hcmem, hcok⟩ := h.params.2 e (find_endpoint he).1 (by rw [hjob, hk])
  cases c with
  | urlRegex _ _ => simp [prCheckOK] at hcok
  | jsonRegexIfPresent _ _ => simp [prCheckOK] at hcok
  | urlIntLt p b =>
    simp only [prCheckOK, Bool.and_eq_true, beq_iff_eq, decide_eq_true_eq] at hcok
    obtain ⟨rfl, hb⟩ := hcok
    obtain ⟨n, hl, hn⟩ := checkOne_urlIntLt (validate_ok hv _ hcmem)
    exact ⟨n, by omega, by rw [hjeq]; exact settings_of_arg hst hl⟩

/-- An API request that creates no job is answered with an error status — or it went to a
    read-only endpoint (a class that overrides `view`: GetJob, ListJobs), which creates no job by design. -/
theorem C14_refused (h : TblOK t) {s : Session} {req : Request} {x : Response}
    (hs : serveEndpoint t s req = .resp x) (hj : x.job = none) :
    (400 ≤ x.status ∧ x.status < 600) ∨ (x.status = 200 ∧ ∃ e ∈ t.endpoints, e.job = none) := by
  unfold serveEndpoint at hs
  rcases routed_resp hs with ⟨_, _, hst, _⟩ | ⟨r0, more, r, args, hf, hca, hfind, hw, hk, _⟩
  · exact Or.inl (refusal_range h hst)
  · split at hk
    · rename_i e he
      rcases apiView_resp hk with ⟨_, _, ⟨hro, h2⟩ | hst⟩ | ⟨_, _, _, _, _, hxj, _⟩
      · exact Or.inr ⟨h2, e, (find_endpoint he).1, hro⟩
      · exact Or.inl (refusal_range h hst)
      · rw [hxj] at hj; cases hj
    · cases hk

private theorem serve_auth (h : TblOK t) {s : Session} {req : Request} {x : Response}
    (hs : serve t s req = .resp x) :
    (x.job = none ∧ 400 ≤ x.status ∧ x.status < 600) ∨
    ∃ r ∈ t.routes, r.rule = req.rule ∧ r.methods.contains req.method = true ∧ s.loggedIn = true ∧
      ∀ a, Wrapper.auth a ∈ r.wrappers → a = true → s.admin = true := by
  unfold serve at hs
  rcases routed_resp hs with ⟨hn, _, hst, _⟩ | ⟨r0, more, r, args, hf, hca, hfind, hw, hk, _⟩
  · exact Or.inl ⟨hn, refusal_range h hst⟩
  · obtain ⟨hr, hrule, hmeth⟩ := route_found hf hfind
    have hauth := (applyWrappers_pass hw).1
    refine Or.inr ⟨r, hr, hrule, hmeth, ?_, fun a ha => (hauth a ha).2⟩
    split at hk
    · rename_i e he
      obtain ⟨hemem, hecls⟩ := find_endpoint he
      exact (hauth e.admin (h.auth.2.2.1 r hr e hemem hecls)).1
    · split at hk
      · rename_i f hfm
        exact (hauth f.admin (h.auth.2.2.2.1 r hr f (List.mem_of_find?_eq_some hfm)
          (by simpa using List.find?_some hfm))).1
      · cases hk

/-- Without an authenticated session every request to an endpoint or form
    class is refused with an error status and enqueues nothing. -/
theorem C14_unauthenticated_refused (h : TblOK t) {s : Session} {req : Request} {x : Response}
    (hs : serve t s req = .resp x) (hl : s.loggedIn = false) :
    x.job = none ∧ 400 ≤ x.status ∧ x.status < 600 := by
  rcases serve_auth h hs with href | ⟨_, _, _, _, hlog, _⟩
  · exact href
  · rw [hl] at hlog; cases hlog

/-- A request whose rule and method belong to a class flagged admin (by `C14_table`:
    every endpoint that changes the repository, and its form) is refused with an error status and enqueues
    nothing when the session is not flagged admin. -/
theorem C14_nonadmin_refused (h : TblOK t) {s : Session} {req : Request} {x : Response}
    (hs : serve t s req = .resp x) (hadm : s.admin = false)
    (htarget : ∀ r ∈ t.routes, r.rule = req.rule → r.methods.contains req.method = true →
      (∃ e ∈ t.endpoints, e.cls = r.viewName ∧ e.admin = true) ∨ (∃ f ∈ t.forms, f.cls = r.viewName ∧ f.admin = true)) :
    x.job = none ∧ 400 ≤ x.status ∧ x.status < 600 := by
  rcases serve_auth h hs with href | ⟨r, hr, hrule, hmeth, _, hauth⟩
  · exact href
  · exfalso
    -- the route carries `requires_auth(admin=True)`, whichever class it belongs to
    have : Wrapper.auth true ∈ r.wrappers := by
      rcases htarget r hr hrule hmeth with ⟨e, hemem, hecls, hea⟩ | ⟨f, hfmem, hfcls, hfa⟩
      · exact hea ▸ h.auth.2.2.1 r hr e hemem hecls
      · exact hfa ▸ h.auth.2.2.2.1 r hr f hfmem hfcls
    have := hauth true this rfl
    rw [hadm] at this; cases this

private theorem serve_view {s : Session} {req : Request} {x : Response} (hs : serve t s req = .resp x) :
    serveEndpoint t s req = .resp x ∨ ∃ f, formView t f s req = .resp x := by
  unfold serve at hs
  unfold serveEndpoint
  rcases routed_resp hs with ⟨_, _, _, hall⟩ | ⟨r0, more, r, args, _, _, _, _, hk, hall⟩
  · exact Or.inl (hall _)
  · rw [hall]
    split at hk
    · exact Or.inl hk
    · split at hk
      · rename_i f _
        exact Or.inr ⟨f, hk⟩
      · cases hk

/-- A job created through a management form is a job that an API request of the same session
    creates (so `C14_api` and its corollaries apply to it); the form was posted with a CSRF token of the session
    and its fields passed the validators of the form class. -/
theorem C14_form {s : Session} {req : Request} {x : Response} {j : Job}
    (hs : serve t s req = .resp x) (hj : x.job = some j) :
    ∃ req' x', serveEndpoint t s req' = .resp x' ∧ x'.job = some j ∧
      (req' = req ∨ (req.csrfOk = true ∧ x.status = 302)) := by
  rcases serve_view hs with hs' | ⟨f, hk⟩
  · exact ⟨req, x, hs', hj, Or.inl rfl⟩
  · rcases formView_resp hk with ⟨hn, _⟩ | ⟨hcs, _, e, r', uargs, _, _, hcall⟩
    · rw [hn] at hj; cases hj
    · obtain ⟨h302, ir, hir, hjob, _⟩ := formCall_resp hcall
      exact ⟨_, ir, hir, by rw [← hjob]; exact hj, Or.inr ⟨hcs, h302⟩⟩

/-- A form post that creates no job is answered with an error status, or redirects to
    the management page with the error flag. -/
theorem C14_form_refused (h : TblOK t) {s : Session} {req : Request} {x : Response}
    (hs : serve t s req = .resp x) (hj : x.job = none) :
    (400 ≤ x.status ∧ x.status < 600) ∨ (x.status = 200 ∧ ∃ e ∈ t.endpoints, e.job = none) ∨
    (x.status = 302 ∧ x.loc = "manage-error") := by
  rcases serve_view hs with hs' | ⟨f, hk⟩
  · exact (C14_refused h hs' hj).imp_right Or.inl
  · rcases formView_resp hk with ⟨_, h5 | h3⟩ | ⟨_, _, e, r', uargs, _, _, hcall⟩
    · exact Or.inl ⟨by omega, by omega⟩
    · exact Or.inr (Or.inr h3)
    · obtain ⟨h302, ir, hir, hjob, hloc, hlocs⟩ := formCall_resp hcall
      refine Or.inr (Or.inr ⟨h302, hlocs.resolve_left fun hst => ?_⟩)
      -- a 202 of the API call carries a job
      have h202 := hloc.mp hst
      rcases C14_refused h hir (hjob ▸ hj) with hr | ⟨h200, _⟩ <;> omega

def RepoMatches (cfg : HookCfg) (r : HookReq) : Prop :=
  (r.owner = some cfg.owner ∧ r.slug = some cfg.slug) ∨ r.fullName = some cfg.fullName

/-- the event (Bitbucket: its entity) is in the dispatch table of the webhook view -/
def Handled (t : Tbl) (r : HookReq) : Prop :=
  ∃ h ∈ t.hooks, h.rule = r.route ∧ ∃ key handler, eventKey h r = some key ∧ h.dispatch.lookup key = some handler

private theorem repo_of_identity (h : TblOK t) {hk : HookRoute} (hm : hk ∈ t.hooks) {cfg : HookCfg} {r : HookReq}
    (hid : identityCheck cfg r hk.identity = .ok) : RepoMatches cfg r := by
  rcases h.hooks hk hm with ⟨ho, hsl⟩ | hfu
  · left
    obtain ⟨v1, c1, hp1, hc1⟩ := identity_ok hid _ _ ho
    obtain ⟨v2, c2, hp2, hc2⟩ := identity_ok hid _ _ hsl
    simp [payloadValue, ownerExpr] at hp1
    simp [payloadValue, slugExpr] at hp2
    simp [cfgValue] at hc1 hc2
    exact ⟨by rw [hp1.1, hc1], by rw [hp2.1, hc2]⟩
  · right
    obtain ⟨v, c, hp, hc⟩ := identity_ok hid _ _ hfu
    simp [payloadValue, fullNameExpr] at hp
    simp [cfgValue] at hc
    rw [hp.1, hc]

private theorem hook_cases (h : TblOK t) {cfg : HookCfg} {r : HookReq} {x : Response}
    (hs : hook t cfg r = .resp x) :
    (x.job = none ∧ 400 ≤ x.status ∧ x.status < 600) ∨
    ∃ hk ∈ t.hooks, hk.rule = r.route ∧ r.creds = some (cfg.login, cfg.pwd) ∧ hookView t hk cfg r = .resp x := by
  unfold hook at hs
  rcases routed_resp hs with ⟨hn, _, hst, _⟩ | ⟨r0, more, rt, args, hf, hca, hfind, hw, hk, _⟩
  · exact Or.inl ⟨hn, refusal_range h hst⟩
  · split at hk
    · rename_i hr' hfh
      split at hk
      · rename_i hmod
        exact Or.inr ⟨hr', List.mem_of_find?_eq_some hfh, by simpa using List.find?_some hfh,
          (applyWrappers_pass hw).2 (h.auth.2.2.2.2.2 rt (route_found hf hfind).1 hmod), hk⟩
      · cases hk
    · cases hk

/-- A webhook delivery enqueues a job only with the configured basic-auth credentials, for a
    payload about the configured repository, and for an event of the dispatch table of that view. -/
theorem C14_webhook (h : TblOK t) {cfg : HookCfg} {r : HookReq} {x : Response} {j : Job}
    (hs : hook t cfg r = .resp x) (hj : x.job = some j) :
    r.creds = some (cfg.login, cfg.pwd) ∧ RepoMatches cfg r ∧ Handled t r := by
  rcases hook_cases h hs with ⟨hn, _⟩ | ⟨hk, hhmem, hhrule, hcreds, hv⟩
  · rw [hn] at hj; cases hj
  · refine ⟨hcreds, ?_⟩
    rcases hookView_resp hv with ⟨hn, _⟩ | ⟨hid, hd⟩
    · rw [hn] at hj; cases hj
    · refine ⟨repo_of_identity h hhmem hid, ?_⟩
      rcases dispatchEvent_resp hd with ⟨hn, _⟩ | ⟨key, handler, cls, hkey, hdisp, _, _⟩
      · rw [hn] at hj; cases hj
      · exact ⟨hk, hhmem, hhrule, key, handler, hkey, hdisp⟩

/-- A delivery without the configured credentials, or about another repository, is
    refused with an error status and enqueues nothing. -/
theorem C14_webhook_refused (h : TblOK t) {cfg : HookCfg} {r : HookReq} {x : Response}
    (hs : hook t cfg r = .resp x) (hbad : r.creds ≠ some (cfg.login, cfg.pwd) ∨ ¬ RepoMatches cfg r) :
    x.job = none ∧ 400 ≤ x.status ∧ x.status < 600 := by
  rcases hook_cases h hs with href | ⟨hk, hhmem, _, hcreds, hv⟩
  · exact href
  · rcases hookView_resp hv with ⟨hn, h5 | hrf⟩ | ⟨hid, _⟩
    · exact ⟨hn, by omega, by omega⟩
    · exact ⟨hn, hrf ▸ h.status.2 hk hhmem⟩
    · exact (hbad.elim (fun hb => hb hcreds) (fun hb => hb (repo_of_identity h hhmem hid))).elim
end

open BertE.Drv.C14 in
/-- the witness of D7: an admin creates `development/4.3` and slips `use_queue` and `robot` into the JSON -/
def d7Request : Request :=
  { rule := "/api/gwf/branches/<path:branch>", method := "POST", args := [("branch", "development/4.3")],
    body := .obj [("branch_from", .str "abc123"), ("use_queue", .lit "false"), ("robot", .str "mallory")] }

def adminSession : Session := { keyed := true, user := some "test_admin", admin := true }
def userSession : Session := { keyed := true, user := some "test_user", admin := false }

def d7Job : Job :=
  { kind := "CreateBranchJob", user := some "test_admin",
    settings := .map [("branch_from", .str "abc123"), ("use_queue", .lit "false"), ("robot", .str "mallory"),
                      ("branch", .str "development/4.3")] }

/-- On the current source the request `d7Request` of an admin session is
    accepted (202) and the job's settings hold `robot = "mallory"` and `use_queue = false`, which are not among
    the validated parameters `{branch, branch_from}`. -/
theorem C14_extra_keys_counterexample :
    serveEndpoint BertE.Drv.C14.genTbl adminSession d7Request = .resp { status := 202, job := some d7Job } ∧
    validatedOf BertE.Drv.C14.genTbl d7Request
      = some [("branch", .str "development/4.3"), ("branch_from", .str "abc123")] ∧
    d7Job.settings.get "robot" = some (.str "mallory") ∧ d7Job.settings.get "use_queue" = some (.lit "false") := by
  decide +kernel

/-- hence the full statement is false on the current source -/
theorem C14_full_statement_counterexample : ¬ FullExact BertE.Drv.C14.genTbl := by
  intro hf
  obtain ⟨hs, hv, hr, _⟩ := C14_extra_keys_counterexample
  obtain ⟨vp, hvp, hall⟩ := hf adminSession d7Request _ d7Job hs rfl
  rw [hv] at hvp
  cases hvp
  have := hall "robot"
  rw [hr] at this
  revert this
  decide +kernel

/-- On the current source: a job created through the API needs an authenticated session, flagged admin for
    the four repository-changing kinds. -/
theorem C14_api_gen {s : Session} {req : Request} {x : Response} {j : Job}
    (hs : serveEndpoint BertE.Drv.C14.genTbl s req = .resp x) (hj : x.job = some j) :
    s.loggedIn = true ∧ (j.kind ∈ mutatingJobs → s.admin = true) ∧ j.user = s.user :=
  let ⟨a, b, c, _⟩ := C14_api C14_table hs hj
  ⟨a, b, c⟩

/-! Non-vacuity: concrete requests meet the hypotheses and are decided as the property says. -/

-- an admin deletes a branch: accepted, the job carries exactly the branch
example : serveEndpoint BertE.Drv.C14.genTbl adminSession
    { rule := "/api/gwf/branches/<path:branch>", method := "DELETE", args := [("branch", "hotfix/4.3.1")], body := .obj [] }
    = .resp { status := 202, job := some { kind := "DeleteBranchJob", user := some "test_admin",
                                           settings := .map [("branch", .str "hotfix/4.3.1")] } } := by decide +kernel
-- the same from a session that is not flagged admin: 403, nothing enqueued
example : serveEndpoint BertE.Drv.C14.genTbl userSession
    { rule := "/api/gwf/branches/<path:branch>", method := "DELETE", args := [("branch", "hotfix/4.3.1")], body := .obj [] }
    = .resp { status := 403 } := by decide +kernel
-- pr id 0 is refused, pr id 1 accepted for a plain user
example : serveEndpoint BertE.Drv.C14.genTbl userSession
    { rule := "/api/pull-requests/<int:pr_id>", method := "POST", args := [("pr_id", "0")], body := .obj [] }
    = .resp { status := 400 } := by decide +kernel
example : serveEndpoint BertE.Drv.C14.genTbl userSession
    { rule := "/api/pull-requests/<int:pr_id>", method := "POST", args := [("pr_id", "1")], body := .obj [] }
    = .resp { status := 202, job := some { kind := "EvalPullRequestJob", user := some "test_user",
                                           settings := .map [("pr_id", .lit "1")] } } := by decide +kernel
-- `NoExtraKeys` (the hypothesis of C14_api_partial) holds of a request that creates a job, and the job then
-- carries exactly the validated parameters
def plainRequest : Request :=
  { rule := "/api/gwf/branches/<path:branch>", method := "POST", args := [("branch", "development/4.3")],
    body := .obj [("branch_from", .str "abc123")] }

example : NoExtraKeys BertE.Drv.C14.genTbl plainRequest := by
  refine ⟨⟨_, rfl⟩, ?_⟩
  intro vp hvp k v hk
  have hv : validatedOf BertE.Drv.C14.genTbl plainRequest
      = some [("branch", .str "development/4.3"), ("branch_from", .str "abc123")] := by decide +kernel
  rw [hv] at hvp
  cases hvp
  have hm : (k, v) ∈ [("branch_from", Val.str "abc123")] := lookup_mem hk
  simp only [List.mem_singleton, Prod.mk.injEq] at hm
  obtain ⟨rfl, _⟩ := hm
  exact ⟨.str "abc123", by decide +kernel⟩

example : serveEndpoint BertE.Drv.C14.genTbl adminSession plainRequest
    = .resp { status := 202,
              job := some { kind := "CreateBranchJob", user := some "test_admin",
                            settings := .map [("branch_from", .str "abc123"), ("branch", .str "development/4.3")] } } := by
  decide +kernel
-- a form post with a CSRF token creates the job of its endpoint; without the token it does not
example : serve BertE.Drv.C14.genTbl adminSession
    { rule := "/form/DeleteBranchForm", method := "POST", args := [], csrfOk := true, fields := [("branch", "development/4.3")] }
    = .resp { status := 302, loc := "status",
              job := some { kind := "DeleteBranchJob", settings := .map [("branch", .str "development/4.3")],
                            user := some "test_admin" } } := by decide +kernel
example : serve BertE.Drv.C14.genTbl adminSession
    { rule := "/form/DeleteBranchForm", method := "POST", args := [], csrfOk := false, fields := [("branch", "development/4.3")] }
    = .resp { status := 302, loc := "manage-error" } := by decide +kernel

def cfg0 : HookCfg :=
  { login := "l", pwd := "p", host := "bitbucket", owner := "o", slug := "s", fullName := "o/s" }
def hook0 : HookReq :=
  { route := "/bitbucket", method := "POST", creds := some ("l", "p"), event := some "pullrequest:comment_created",
    jsonOk := true, owner := some "o", slug := some "s", fullName := some "o/s", payloadOk := true,
    inProgress := false, closed := false, isPr := false, target := "7" }

-- a Bitbucket delivery for the configured repository with the right credentials enqueues a PullRequestJob ...
example : hook BertE.Drv.C14.genTbl cfg0 hook0
    = .resp { status := 200, job := some { kind := "PullRequestJob", settings := .map [], user := some "", target := "7" } } := by
  decide +kernel
-- ... for another owner with the right slug it is refused
example : hook BertE.Drv.C14.genTbl cfg0 { hook0 with owner := some "x" } = .resp { status := 500 } := by decide +kernel
-- ... and with a wrong password it is refused
example : hook BertE.Drv.C14.genTbl cfg0 { hook0 with creds := some ("l", "x") } = .resp { status := 401 } := by decide +kernel

end BertE.C14
