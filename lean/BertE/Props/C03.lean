import BertE.Lemmas.C03Direct
import BertE.Model.Build
import BertE.Props.C01
import BertE.Props.C06
/-
C03 — with queues on, destination branches only advance to CI-validated commits.

Queue path, proved here at full strength: a queue evaluation puts every destination branch EXACTLY on the queue
commit of the newest selected pull request that targets it (`C03_queue_exact`, for every selection, every crash
point, every refused ref), so if the heads of the selection are SUCCESSFUL — which is what the C05 theorems say
of `QueueCollection`'s selection unless an admin force-merges — every branch that moves lands on a commit whose
build was reported SUCCESSFUL on that very commit (`C03_queue`).
Direct path (queue skipped): see `C03_direct_partial` below and the tie (every destination movement of every real
history is looked up in the host's build-status table).
-/
namespace BertE.C03
open BertE.Git BertE.Flow BertE.C01

/-- the build status of a commit under the configured key, as the git host reports it -/
abbrev Builds := Commit → BertE.Build.Status

/-- the selected pull requests, oldest first -/
def selected (s : Sys) (sel : List Nat) : List QEntry := s.queue.filter (fun e => sel.contains e.pr)

/-- Whatever is selected, at every observable moment of the queue merge a destination branch is either where it was,
    or on the queue commit of the newest selected pull request that targets it. -/
theorem C03_queue_exact (s : Sys) (hq : QueueInv s) (sel : List Nat) (rej : Ref → Bool) (k : Nat) (d : Dest) :
    (observable s (planQueues s sel) rej k).get (.dest d) = s.remote.get (.dest d) ∨
    ∃ e, lastTargeting (selected s sel) d = some e ∧
      (observable s (planQueues s sel) rej k).get (.dest d) = qwOf s.remote e d := by
  unfold observable planQueues selected
  simp only
  split
  · rw [List.take_nil]
    exact Or.inl rfl
  · cases k with
    | zero => exact Or.inl rfl
    | succ k =>
      rw [List.take_succ_cons, List.take_nil, applyOps_cons]
      rcases applyOp_pushAll_cases s.g rej s.remote _ true with he | he <;> rw [he]
      · -- the push went through: no destination ref is among those deleted from its content
        have hnot : Ref.dest d ∉ (s.queue.filter (fun e => sel.contains e.pr)).flatMap (fun e =>
            e.targets.flatMap (fun d => [Ref.qw e.pr d e.src, Ref.w d e.src])) := by
          simp
        simp only [applyOps, List.foldl_nil, ↓reduceIte]
        rw [get_delRefs, if_neg hnot, mergeEntries_get hq _ s.remote
          (fun e he => (List.mem_filter.mp he).1) (fun _ _ _ => rfl) d]
        cases lastTargeting (s.queue.filter (fun e => sel.contains e.pr)) d with
        | none => exact Or.inl rfl
        | some e => exact Or.inr ⟨e, rfl, rfl⟩
      · exact Or.inl rfl

/-- the heads of the selection are green: what `QueueCollection` guarantees of its selection (C05) -/
def HeadsGreen (b : Builds) (s : Sys) (sel : List Nat) : Prop :=
  ∀ d e c, lastTargeting (selected s sel) d = some e → qwOf s.remote e d = some c → b c = .successful

/-- **C03, queue path.** If the heads of the selection are SUCCESSFUL, every destination branch that moves
    during a queue evaluation — at any crash point, with any refused ref — moves to a commit whose build was
    reported SUCCESSFUL on that very commit. -/
theorem C03_queue (s : Sys) (hq : QueueInv s) (sel : List Nat) (b : Builds) (hg : HeadsGreen b s sel)
    (rej : Ref → Bool) (k : Nat) (d : Dest) (new : Commit)
    (hnew : (observable s (planQueues s sel) rej k).get (.dest d) = some new)
    (hmoved : s.remote.get (.dest d) ≠ some new) : b new = .successful := by
  rcases C03_queue_exact s hq sel rej k d with h | ⟨e, he, h⟩
  · rw [h] at hnew; exact absurd hnew hmoved
  · rw [h] at hnew; exact hg d e new he hnew

/-- a selected pull request whose own queue commit on `d` is not green is merged on `d` only together with a
    NEWER selected pull request that targets `d` (whose commit, containing it, is the one the branch lands on) -/
theorem C03_failed_needs_newer (s : Sys) (sel : List Nat) (b : Builds) (hg : HeadsGreen b s sel)
    (d : Dest) (e : QEntry) (c : Commit) (hc : qwOf s.remote e d = some c) (hbad : b c ≠ .successful) :
    lastTargeting (selected s sel) d ≠ some e := by
  intro h
  exact hbad (hg d e c h hc)

/-- **C03, direct path (queue skipped), partial.** Hypothesis beyond the property text: `ffReady` — every
    integration branch contains its target's tip AND its predecessor's tip (`is_needed` only tests the first half;
    the second half holds for integration branches the robot itself updated). Then, under either merge strategy
    (`pr.noOct` is arbitrary), the merge creates no commit, and every target that moves lands on the source tip or an
    integration tip — the very commits on which `check_build_status` read SUCCESSFUL (`hgate`) — or on a commit
    that already was the tip of a target branch. For `no_octopus` this rests on the order of the two consecutive
    merges (integration branch first): `C03_direct_consecutive_order_matters`. -/
theorem C03_direct_partial {s : Sys} {l4 : Loc} (hl : l4.OK) (pr : PrInfo) {sc dc : Commit} (d1 : Dest) (ds : List Dest)
    (hnd : (d1 :: ds).Nodup) (pre : List Op)
    (hdc : l4.refs.get (.dest d1) = some dc) (hsc : sc < l4.g.size) (hle : l4.g.le dc sc = true)
    (hready : ffReady l4.g l4.refs pr.src sc ds) (b : Builds)
    (hgate : b sc = .successful ∧ ∀ d ∈ d1 :: ds, ∀ wc, l4.refs.get (.w d pr.src) = some wc → b wc = .successful) :
    (directMerge s l4 pr sc (d1 :: ds) pre).g = l4.g ∧
    ∃ loc, (directMerge s l4 pr sc (d1 :: ds) pre).ops.getLast? = some (.pushAll loc true) ∧
      ∀ d ∈ d1 :: ds, ∃ n, loc.get (.dest d) = some n ∧
        (l4.refs.get (.dest d) = some n ∨ b n = .successful ∨ ∃ d' ∈ d1 :: ds, l4.refs.get (.dest d') = some n) := by
  obtain ⟨hg, _, loc, hlast, hres⟩ := directMerge_ff (s := s) hl pr d1 ds hnd pre hdc hsc hle hready
  refine ⟨hg, loc, hlast, fun d hd => ?_⟩
  obtain ⟨n, hn, rfl | ⟨d', hd', h | h⟩⟩ := hres d hd
  · exact ⟨_, hn, Or.inr (Or.inl hgate.1)⟩
  · exact ⟨n, hn, Or.inr (Or.inl (hgate.2 d' hd' n h))⟩
  · exact ⟨n, hn, Or.inr (Or.inr ⟨d', hd', h⟩)⟩

/-- the state of the witness below: queues on, `skip_queue_when_not_needed`, development/4.3 (commit 1) and
    development/5.1 (commit 2), a pull request `feature/x` (commit 3, on top of development/4.3) whose integration
    branches exist: `w/5.1/feature/x` is commit 4, made by the evaluation itself with `no_octopus` on -/
def directWitness (noOct : Bool) : Sys × PrInfo :=
  let s := BertE.Drv.C01.initSys true true [.dev 4 (some 3), .dev 5 (some 1)]
  let s1 := (step s (.extSet "feature/x" [1] false)).1
  let pr : PrInfo := ⟨1, "feature/x", .dev 4 (some 3), noOct⟩
  ((step s1 (.evalPr pr .integration [] [])).1, pr)

/-- **The order of the consecutive merges matters** (witness; this is the defect repaired by `be6ead0`, kept as the
    regression's description). In the state above with `no_octopus` on — the source (3) contains its destination (1),
    the integration branch `w/5.1/feature/x` (4) contains its target's tip (2) and its predecessor (3): `ffReady` —
    the evaluation as the code is now (`consecutive_merge(development/5.1, w/5.1/feature/x, development/4.3)`)
    fast-forwards development/5.1 to the integration tip 4, the commit that was built. The former order,
    `consecutive_merge(development/5.1, development/4.3, w/5.1/feature/x)` = `Loc.merge2 _ 3 4` on the clone in which
    development/4.3 is already on 3, first merges 3 into 2 (incomparable: commit 5), then 4 (incomparable with 5:
    commit 6): development/5.1 ended on commit 6, which did not exist before the job (the graph had 5 commits) and on
    which no build was ever reported. -/
theorem C03_direct_consecutive_order_matters :
    let s := (directWitness true).1
    let pr := (directWitness true).2
    let d5 : Dest := .dev 5 (some 1)
    let clone : Loc := ⟨s.g, s.remote.set (.dest (.dev 4 (some 3))) 3, []⟩
    s.g.size = 5 ∧ s.remote.get (.dest (.dev 4 (some 3))) = some 1 ∧ s.remote.get (.dest d5) = some 2 ∧
    s.remote.get (.other "feature/x") = some 3 ∧ s.remote.get (.w d5 "feature/x") = some 4 ∧ s.g.le 1 3 = true ∧
    ffReady s.g s.remote pr.src 3 [d5] ∧
    -- the code as it is: fast-forward to the built integration commit
    (step s (.evalPr pr .final [] [])).2 = "SuccessMessage" ∧
    (step s (.evalPr pr .final [] [])).1.remote.get (.dest (.dev 4 (some 3))) = some 3 ∧
    (step s (.evalPr pr .final [] [])).1.remote.get (.dest d5) = some 4 ∧
    (step s (.evalPr pr .final [] [])).1.g.size = 5 ∧
    (clone.merge2 (.dest d5) 4 3).map (fun l => (l.g.size, l.refs.get (.dest d5))) = some (5, some 4) ∧
    -- the former order of the same two merges: two new commits
    (clone.merge2 (.dest d5) 3 4).map (fun l => (l.g.size, l.refs.get (.dest d5))) = some (7, some 6) := by
  refine ⟨by decide +kernel, by decide +kernel, by decide +kernel, by decide +kernel, by decide +kernel, by decide +kernel,
    ⟨2, 4, by decide +kernel, by decide +kernel, by decide +kernel, by decide +kernel, trivial⟩,
    by decide +kernel, by decide +kernel, by decide +kernel, by decide +kernel, by decide +kernel, by decide +kernel⟩

/-- Non-vacuity: a concrete queue with one entry, selected, green. -/
example :
    let s := BertE.Drv.C01.initSys true false [.dev 4 (some 3), .dev 5 (some 1)]
    let s1 := (step s (.extSet "feature/x" [1] false)).1
    let s2 := (step s1 (.evalPr ⟨1, "feature/x", .dev 4 (some 3), false⟩ .final [] [])).1
    s2.queue.length = 1 ∧ (lastTargeting (selected s2 [1]) (.dev 5 (some 1))).isSome = true := by decide +kernel

/-! ### the selection computed: no hypothesis about it (composition with the model of `QueueCollection._process`)

`Select.selectOf s b false` is what the model of `QueueCollection._process` selects on the collection, the merge
paths and the statuses of the state `s` under the build-status table `b` of the git host. `Select.Validated s`:
pull-request ids are positive and `validate()` passed (as far as the selection needs it). -/

open BertE.Select in
/-- the heads of the COMPUTED selection are green: `HeadsGreen` is a theorem, not a hypothesis -/
theorem C03_heads_green_closed (s : Sys) (h : Inv s) (hv : Validated s) (b : Builds) :
    HeadsGreen b s (selectOf s b false) :=
  fun _ _ _ hl hc => heads_green_selectOf h hv b hl hc

open BertE.Select in
/-- **C03, queue path, selection computed.** `C03_queue` for what `QueueCollection` selects (no force merge — the
    stated exception), for every state that satisfies the invariant of the system model and every build-status
    table. -/
theorem C03_queue_closed (s : Sys) (h : Inv s) (hv : Validated s) (b : Builds)
    (rej : Ref → Bool) (k : Nat) (d : Dest) (new : Commit)
    (hnew : (observable s (planQueues s (selectOf s b false)) rej k).get (.dest d) = some new)
    (hmoved : s.remote.get (.dest d) ≠ some new) : b new = .successful :=
  C03_queue s h.q.base _ b (C03_heads_green_closed s h hv b) rej k d new hnew hmoved

open BertE.Select in
/-- the same for the uninterrupted event of the system model -/
theorem C03_step_closed (s : Sys) (h : Inv s) (hv : Validated s) (b : Builds) (d : Dest) (new : Commit)
    (hnew : (step s (evalQueuesB s b false)).1.remote.get (.dest d) = some new)
    (hmoved : s.remote.get (.dest d) ≠ some new) : b new = .successful := by
  apply C03_queue_closed s h hv b noRej (planQueues s (selectOf s b false)).ops.length d new _ hmoved
  unfold observable
  rw [List.take_length]
  exact hnew

open BertE.Select in
/-- `C03_failed_needs_newer` for the computed selection -/
theorem C03_failed_needs_newer_closed (s : Sys) (h : Inv s) (hv : Validated s) (b : Builds)
    (d : Dest) (e : QEntry) (c : Commit) (hc : qwOf s.remote e d = some c) (hbad : b c ≠ .successful) :
    lastTargeting (selected s (selectOf s b false)) d ≠ some e :=
  C03_failed_needs_newer s _ b (C03_heads_green_closed s h hv b) d e c hc hbad

open BertE.Select in
private theorem exSys_step :
    (step exSys (evalQueuesB exSys exBuilds false)).1.remote.get (.dest (.dev 5 (some 1))) = some 1 := by
  have hev : evalQueuesB exSys exBuilds false = .evalQueues [1] := by
    unfold evalQueuesB; rw [exSys_select.1]
  rw [hev]; decide

open BertE.Select in
/-- Non-vacuity: on the state `exSys` (two queued pull requests) under `exBuilds` (queue commits of the first
    SUCCESSFUL, of the second FAILED) the computed selection is the first pull request, development/5.1 moves to
    commit 1, and `C03_step_closed` says its build is SUCCESSFUL; with nothing reported nothing is selected. -/
example : selectOf exSys exBuilds false = [1] ∧
    (step exSys (evalQueuesB exSys exBuilds false)).1.remote.get (.dest (.dev 5 (some 1))) = some 1 ∧
    exSys.remote.get (.dest (.dev 5 (some 1))) ≠ some 1 ∧ exBuilds 1 = .successful ∧
    selectOf exSys noBuilds false = [] := by
  have hne : exSys.remote.get (.dest (.dev 5 (some 1))) ≠ some 1 := by decide +kernel
  exact ⟨exSys_select.1, exSys_step, hne,
    C03_step_closed exSys exSys_inv exSys_validated exBuilds (.dev 5 (some 1)) 1 exSys_step hne, exSys_select.2.2⟩

example := C03_queue_closed Select.exSys Select.exSys_inv Select.exSys_validated Select.exBuilds
example := C03_failed_needs_newer_closed Select.exSys Select.exSys_inv Select.exSys_validated Select.exBuilds

end BertE.C03


/-! ### End to end: the direct merge decided by the composed evaluation (`Model/Eval.lean`)

With queues on and `skip_queue_when_not_needed`, `evalPr` merges directly when `is_needed` answers "no". Everything
`C03_direct_partial` asks is then discharged from the composed model, EXCEPT:
  * `chained`: every integration branch after the first contains the tip of its predecessor (`is_needed` only
    tests that it contains the tip of its TARGET; the other half of `ffReady` holds for branches the robot itself
    updated, and is what makes the octopus merge a fast-forward) — kept explicit;
  * `hfirst`: no branch is named `w/<first target>/<source>` (the robot never creates one; the build gate reads
    the source branch itself for the first target) — kept explicit;
  * the targets are distinct and the repository state is well-formed (`Sys.WF`, an invariant of `step`).
The build statuses are those of THE HOST'S TABLE (`Host.status`), read by the gate on the tips of the clone after
the update: what `hgate` of `C03_direct_partial` assumed is here a consequence of reaching the final stage. -/
namespace BertE.C03
open BertE.Git BertE.Flow BertE.C01 BertE.Eval BertE.Reactor

/-- **C03, direct path, end to end (partial: `chained`, `hfirst`).** The evaluation entered (every gate passed
    in this evaluation), queues are on, the build check is neither bypassed nor without key, and `is_needed`
    answers "no": the plan ends with ONE atomic pruning push after which every target is where it was, or on a
    commit whose status in the host's table is SUCCESSFUL, or on a commit that already was the tip of a target. -/
theorem C03_direct_e2e_partial {c : Eval.Cfg} {msgs : List BertE.Gen.Messages.Msg} (hT : BertE.C06.TblOK c.build msgs)
    {h : Host} {s : Sys} (hs : s.WF) {id : Nat} {orc : List Bool} {sel : List Nat}
    {p : Eval.Pr} {st : State} {src : BertE.Names.Parsed} {pr : PrInfo} {sc dc : Commit} {l4 : Loc} {pushW : List Op}
    (he : Entered c h s id orc sel p st src pr sc dc l4 pushW)
    (huq : s.useQueue = true) (hdirect : isNeeded s l4 pr (s.targets pr.dst) = false)
    (hnb : ¬ BertE.C06.e2eBypassed c p st)
    (hnd : (s.targets pr.dst).Nodup)
    (hchain : chained l4.g l4.refs pr.src sc ((s.targets pr.dst).drop 1))
    (hfirst : l4.refs.get (.w pr.dst pr.src) = none) :
    s.skipQueue = true ∧ s.queue = [] ∧
    (evalPr c h s id orc sel).plan.g = l4.g ∧
    ∃ loc, (evalPr c h s id orc sel).plan.ops.getLast? = some (.pushAll loc true) ∧
      ∀ d ∈ s.targets pr.dst, ∃ n, loc.get (.dest d) = some n ∧
        (s.remote.get (.dest d) = some n ∨ h.status n = .successful ∨
          ∃ d' ∈ s.targets pr.dst, s.remote.get (.dest d') = some n) := by
  have hscv : sc < s.g.size := hs.valid _ _ he.past.srcTip
  obtain ⟨hwo, _⟩ := prepare_inr hs pr hscv he.updated
  have hother : l4.refs.get (.other pr.src) = some sc :=
    (hwo.dests (.other pr.src) (fun _ _ hx => nomatch hx)).trans he.past.srcTip
  have hdest : ∀ d, l4.refs.get (.dest d) = s.remote.get (.dest d) :=
    fun d => hwo.dests (.dest d) (fun _ _ hx => nomatch hx)
  have hdc4 : l4.refs.get (.dest pr.dst) = some dc := (hdest _).trans he.past.dstTip
  obtain ⟨hskip, hq, sc', dc', hsc', hdc', hle, hall⟩ := evalG_isNeeded_false huq hdirect
  cases hother.symm.trans hsc'
  cases hdc4.symm.trans hdc'
  obtain ⟨rest, hts⟩ := evalG_targets_cons s pr.dst
  rw [hts] at hnd hall hchain
  simp only [List.drop_succ_cons, List.drop_zero] at hchain
  have hwref : ∀ d ∈ rest, wRef pr pr.dst d = .w d pr.src :=
    fun d hd => if_neg fun (he' : d = pr.dst) => (List.nodup_cons.mp hnd).1 (he' ▸ hd)
  have hready : ffReady l4.g l4.refs pr.src sc rest :=
    evalG_ffReady rest sc (fun d hd => by simpa only [hwref d hd] using hall d (List.mem_cons_of_mem _ hd)) hchain
  have hgreen : ∀ d ∈ pr.dst :: rest, ∃ cm, l4.refs.get (wRef pr pr.dst d) = some cm ∧ h.status cm = .successful := by
    rw [← hts]
    exact (BertE.C06.e2e_build_pass hT he.build).resolve_left hnb
  have hgate : h.status sc = .successful ∧
      ∀ d ∈ pr.dst :: rest, ∀ wc, l4.refs.get (.w d pr.src) = some wc → h.status wc = .successful := by
    refine ⟨?_, fun d hd wc hwc => ?_⟩
    · obtain ⟨cm, hcm, hst⟩ := hgreen pr.dst List.mem_cons_self
      rw [wRef, if_pos rfl, hother] at hcm
      cases hcm
      exact hst
    · rcases List.mem_cons.mp hd with rfl | hd'
      · cases hfirst.symm.trans hwc
      · obtain ⟨cm, hcm, hst⟩ := hgreen d hd
        rw [hwref d hd', hwc] at hcm
        cases hcm
        exact hst
  have hsc4 : sc < l4.g.size := hwo.ext.lt hscv
  obtain ⟨hg, loc, hlast, hres⟩ := C03_direct_partial (s := s) hwo.ok pr pr.dst rest hnd pushW hdc4 hsc4 hle hready
    (fun cm => h.status cm) hgate
  have hplan : (evalPr c h s id orc sel).plan = directMerge s l4 pr sc (pr.dst :: rest) pushW := by
    rw [he.plan, hdirect, hts]; simp
  rw [hplan, hts]
  simp only [← hdest]
  exact ⟨hskip, hq, hg, loc, hlast, hres⟩

/-! Non-vacuity: queues on with `skip_queue_when_not_needed`, one development branch, a source branch on top of
    it whose tip is green in the host's table: the composed model merges directly, by one atomic pruning push that
    puts the destination on the (green) source tip. -/

def e2eSys : Sys :=
  (step (BertE.Drv.C01.initSys true true [.dev 4 (some 3)]) (.extSet "feature/TEST-1" [1] false)).1

def e2eHost : Host :=
  ⟨[{ id := 1, author := "contrib", src := "feature/TEST-1", dst := "development/4.3", status := "OPEN",
      comments := [], approvals := [], changeRequests := [], participants := [] }], [(2, .successful)], []⟩

example : (evalPr BertE.C06.exCfg e2eHost e2eSys 1 [] []).stage = .final ∧
    (evalPr BertE.C06.exCfg e2eHost e2eSys 1 [] []).outcome = "SuccessMessage" ∧
    isNeeded e2eSys ⟨e2eSys.g, e2eSys.remote, []⟩ ⟨1, "feature/TEST-1", .dev 4 (some 3), false⟩ [.dev 4 (some 3)] = false ∧
    (applyOps (evalPr BertE.C06.exCfg e2eHost e2eSys 1 [] []).plan.g noRej e2eSys.remote
      (evalPr BertE.C06.exCfg e2eHost e2eSys 1 [] []).plan.ops).get (.dest (.dev 4 (some 3))) = some 2 ∧
    e2eHost.status 2 = .successful := by decide +kernel

end BertE.C03


/-! ### The queue path without the `Validated` hypothesis

`Close.InvV` (the invariant strengthened by the clauses `Close.VX`, inductive: `C01_step_closed2`) implies
`Select.Validated`; the theorems on the computed selection restated on it, and along whole histories. -/
namespace BertE.C03
open BertE.Git BertE.Flow BertE.C01 BertE.Select BertE.Close

theorem C03_heads_green_closed2 (s : Sys) (h : InvV s) (b : Builds) : HeadsGreen b s (selectOf s b false) :=
  C03_heads_green_closed s h.inv (close_validated_of_invV h) b

/-- `C03_queue_closed` without the `Validated` hypothesis -/
theorem C03_queue_closed2 (s : Sys) (h : InvV s) (b : Builds)
    (rej : Ref → Bool) (k : Nat) (d : Dest) (new : Commit)
    (hnew : (observable s (planQueues s (selectOf s b false)) rej k).get (.dest d) = some new)
    (hmoved : s.remote.get (.dest d) ≠ some new) : b new = .successful :=
  C03_queue_closed s h.inv (close_validated_of_invV h) b rej k d new hnew hmoved

/-- the same for the uninterrupted event of the system model -/
theorem C03_step_closed2 (s : Sys) (h : InvV s) (b : Builds) (d : Dest) (new : Commit)
    (hnew : (step s (evalQueuesB s b false)).1.remote.get (.dest d) = some new)
    (hmoved : s.remote.get (.dest d) ≠ some new) : b new = .successful :=
  C03_step_closed s h.inv (close_validated_of_invV h) b d new hnew hmoved

theorem C03_failed_needs_newer_closed2 (s : Sys) (h : InvV s) (b : Builds)
    (d : Dest) (e : QEntry) (c : Commit) (hc : qwOf s.remote e d = some c) (hbad : b c ≠ .successful) :
    lastTargeting (selected s (selectOf s b false)) d ≠ some e :=
  C03_failed_needs_newer_closed s h.inv (close_validated_of_invV h) b d e c hc hbad

/-- **C03 along histories**: after ANY admissible history from a state satisfying the strengthened invariant
    (e.g. the empty repository, `C01_invV_init`), a queue evaluation with any build-status table moves a
    destination only to a commit whose build is SUCCESSFUL. -/
theorem C03_run_closed2 (s0 : Sys) (h : InvV s0) (evs : List EventB) (hadm : AdmAllV s0 evs) (b : Builds)
    (d : Dest) (new : Commit)
    (hnew : (step (runB s0 evs) (evalQueuesB (runB s0 evs) b false)).1.remote.get (.dest d) = some new)
    (hmoved : (runB s0 evs).remote.get (.dest d) ≠ some new) : b new = .successful :=
  C03_step_closed2 _ (close_runV_inv evs h hadm) b d new hnew hmoved

/-- Non-vacuity: `exSys` = the empty repository after `exHistory`; development/5.1 moves to commit 1 whose build is
    SUCCESSFUL under `exBuilds`. -/
example : (step exSys (evalQueuesB exSys exBuilds false)).1.remote.get (.dest (.dev 5 (some 1))) = some 1 ∧
    exBuilds 1 = .successful := by
  exact ⟨exSys_step, C03_run_closed2 exEmpty (close_invV_init true false) exHistory close_exHistory_admV exBuilds
    (.dev 5 (some 1)) 1 exSys_step (by decide +kernel)⟩

example := C03_queue_closed2 Select.exSys close_exSys_invV Select.exBuilds
example := C03_heads_green_closed2 Select.exSys close_exSys_invV Select.exBuilds
example := C03_failed_needs_newer_closed2 Select.exSys close_exSys_invV Select.exBuilds

end BertE.C03
