import BertE.Gen.Approvals
import BertE.Gen.Messages
import BertE.Model.Approvals
import BertE.Model.ApprovalsSpec
import BertE.Lemmas.Approvals
import BertE.Drv.C04
import BertE.Lemmas.AuthorOptions
import BertE.Lemmas.EvalGates
import BertE.Drv.Eval
/-
C04 — the review gate passes exactly when approvals suffice.

`C04_iff` relates the model of `check_approvals` (Model/Approvals.lean: the Python's early return, pre-loaded
counters, set operations) to the declarative property (Model/ApprovalsSpec.lean), for user lists of any length
(with or without duplicates — the model applies Python's `set(...)` itself) and any integer requirements.
No host invariant is assumed: an approver need not be a participant.

Data taken from the source on every run (`BertE.Gen.Approvals`): which settings key and which per-author key each
`bypass_*_approval` helper reads, the per-author bypass list, the tests of `validate_inter_settings`, the class
raised. `C04_table` / `C04_settings_table` are the `decide` obligations on that data.
-/
namespace BertE.C04
open BertE.Approvals

private theorem bypassAuthor_iff (c : Cfg) : bypassAuthor c = true ↔ Spec.authorBypassed c := Bool.or_eq_true_iff
private theorem bypassPeer_iff (c : Cfg) : bypassPeer c = true ↔ Spec.peerBypassed c := Bool.or_eq_true_iff
private theorem bypassLeader_iff (c : Cfg) : bypassLeader c = true ↔ Spec.leaderBypassed c := Bool.or_eq_true_iff

private theorem authorOK_iff (c : Cfg) (i : Input) :
    Spec.authorOK c i ↔
      ((approvalSet c i).contains i.author = true ∨ c.needAuthor = false ∨ bypassAuthor c = true) := by
  unfold Spec.authorOK
  rw [List.contains_iff_mem, mem_approvalSet, bypassAuthor_iff]

private theorem peersOK_iff (c : Cfg) (i : Input) :
    Spec.peersOK c i ↔
      (bypassPeer c = true ∨ c.requiredPeers ≤ ((setRemove (approvalSet c i) i.author).length : Int)) := by
  unfold Spec.peersOK
  rw [bypassPeer_iff, atLeast_iff (nodup_approvalSet c i) (· != i.author) c.requiredPeers _
    (fun u => by rw [mem_approvalSet]; simp)]
  rfl

private theorem leadersOK_iff (c : Cfg) (i : Input) :
    Spec.leadersOK c i ↔
      (bypassLeader c = true ∨
        c.requiredLeaders ≤ ((setInter (approvalSet c i) (toSet c.projectLeaders)).length : Int) +
          (if ((toSet c.projectLeaders).contains i.author && !(approvalSet c i).contains i.author) = true
            then 1 else 0)) := by
  unfold Spec.leadersOK
  rw [bypassLeader_iff, atLeast_iff (nodup_setAdd (a := i.author) (nodup_approvalSet c i))
    ((toSet c.projectLeaders).contains ·) c.requiredLeaders _
    (fun u => by rw [mem_setAdd, mem_approvalSet, List.contains_iff_mem, mem_toSet, and_comm, or_comm]),
    length_filter_setAdd]
  rfl

private theorem unanimityOK_iff (c : Cfg) (i : Input) :
    Spec.unanimityOK c i ↔
      (c.unanimity = true →
        setSubset (setRemove (toSet i.participants) c.robot) (setRemove (approvalSet c i) c.robot) = true) := by
  unfold Spec.unanimityOK
  apply imp_congr_right
  intro _
  simp only [setSubset_iff, mem_setRemove, mem_toSet, mem_approvalSet]
  exact ⟨fun h u hu => ⟨h u hu.1 hu.2, hu.2⟩, fun h u hu hne => (h u ⟨hu, hne⟩).1⟩

private theorem noChangeRequest_iff (i : Input) :
    (∀ u, u ∉ i.changeRequests) ↔ (toSet i.changeRequests).length = 0 := by
  rw [List.length_eq_zero_iff, toSet_eq_nil]

private theorem allWaived_iff (c : Cfg) :
    Spec.allWaived c ↔
      ((c.needAuthor = false ∨ bypassAuthor c = true ∨ c.approve = true) ∧
       (bypassPeer c = true ∨ c.requiredPeers ≤ 0) ∧ (bypassLeader c = true ∨ c.requiredLeaders ≤ 0) ∧
       c.unanimity = false) := by
  unfold Spec.allWaived
  rw [bypassAuthor_iff, bypassPeer_iff, bypassLeader_iff]

private theorem approve_author_mem (c : Cfg) (i : Input) (h : c.approve = true) :
    (approvalSet c i).contains i.author = true := by
  rw [List.contains_iff_mem, mem_approvalSet]
  exact Or.inr ⟨h, rfl⟩

private theorem pass_iff_core {b : Bool} {crs : List User} :
    ((if b = true then Outcome.pass else Outcome.approvalRequired crs) = .pass) ↔ b = true := by
  cases b <;> simp

/-- The approval check passes if and only if the property's five clauses hold
    (author, peers, leaders, unanimity, change requests) — any user lists, any required counts,
    every combination of options and of bypass sources. -/
theorem C04_iff (c : Cfg) (i : Input) : checkApprovals c i = .pass ↔ Spec.approved c i := by
  rw [checkApprovals_eq_core, pass_iff_core]
  rw [core_iff _ _ _ _ _ _ _ _ _ _ _ _ _ _ (approve_author_mem c i) (by omega) (by omega)]
  unfold Spec.approved Spec.changeRequestsOK
  rw [authorOK_iff, peersOK_iff, leadersOK_iff, unanimityOK_iff, noChangeRequest_iff, allWaived_iff]

/-- When the clauses do not all hold, `ApprovalRequired` is raised (the gate goes no
    further) and the report names exactly the users with an outstanding change request. -/
theorem C04_otherwise (c : Cfg) (i : Input) :
    ¬ Spec.approved c i ↔
      ∃ crs, checkApprovals c i = .approvalRequired crs ∧ ∀ u, u ∈ crs ↔ u ∈ i.changeRequests := by
  rw [← C04_iff, checkApprovals_eq_core]
  split
  · simp
  · simp only [not_false_eq_true, true_iff, reduceCtorEq]
    exact ⟨_, rfl, fun u => mem_toSet⟩

/-- `ApprovalRequired` is a message posted to the pull request (a template exception), not a silent one:
    kind of a message class in the generated message table. -/
def kindOf (msgs : List BertE.Gen.Messages.Msg) (cls : String) : Option String :=
  (msgs.find? (·.name == cls)).map (·.kind)

/-- What the property needs of the source's data: `check_approvals` consults the three `bypass_*_approval`
    helpers; each helper reads its own key both in the job settings (admin comment, command line) and in the
    per-author settings, defaulting to `False`; the per-author settings accept those keys; the only exception
    raised is `ApprovalRequired`, which is a posted message. -/
def TblOK (helpers : List (String × String × String × String)) (called bypassList raised : List String)
    (msgs : List BertE.Gen.Messages.Msg) : Prop :=
  (∀ k ∈ ["bypass_author_approval", "bypass_peer_approval", "bypass_leader_approval"],
      k ∈ called ∧ (k, k, k, "False") ∈ helpers ∧ k ∈ bypassList ∧
      ∀ h ∈ helpers, h.1 = k → h = (k, k, k, "False")) ∧
  (∀ r ∈ raised, r = "ApprovalRequired") ∧
  kindOf msgs "ApprovalRequired" = some "template"

instance (h c b r m) : Decidable (TblOK h c b r m) := by unfold TblOK; infer_instance

/-- Table obligation: the data found in the current source is well-formed. -/
theorem C04_table : TblOK BertE.Gen.Approvals.bypassHelpers BertE.Gen.Approvals.helpersCalled
    BertE.Gen.Approvals.bypassList BertE.Gen.Approvals.raised BertE.Gen.Messages.messages := by decide +kernel

/-- Either source of a bypass suffices, for each of the three bypasses (the `or` of utils.py), and the
    requirement is then met whatever the host says. -/
theorem C04_bypass_sources (c : Cfg) (i : Input) :
    ((c.bypassAuthorS = true ∨ c.bypassAuthorA = true) → Spec.authorOK c i) ∧
    ((c.bypassPeerS = true ∨ c.bypassPeerA = true) → Spec.peersOK c i) ∧
    ((c.bypassLeaderS = true ∨ c.bypassLeaderA = true) → Spec.leadersOK c i) :=
  ⟨fun h => Or.inr (Or.inr h), fun h => Or.inl h, fun h => Or.inl h⟩

/-- When every review requirement is waived the check passes whatever the host reports
    (the early return: change requests are not consulted). -/
theorem C04_waived_passes (c : Cfg) (i : Input) (h : Spec.allWaived c) : checkApprovals c i = .pass := by
  obtain ⟨ha, hp, hl, hu⟩ := h
  have hU : Spec.unanimityOK c i := fun hun => by rw [hu] at hun; cases hun
  refine (C04_iff c i).mpr
    ⟨?_, hp.imp_right (atLeast_of_nonpos _), hl.imp_right (atLeast_of_nonpos _), hU, Or.inr ⟨ha, hp, hl, hu⟩⟩
  rcases ha with ha | ha | ha
  · exact Or.inr (Or.inl ha)
  · exact Or.inr (Or.inr ha)
  · exact Or.inl (Or.inr ⟨ha, rfl⟩)

/-- Under the strict reading of clause (5) — author approval counts as *waived* only when disabled or
    bypassed, not when given by an `approve` comment — the statement holds whenever `approve` is not the only
    thing that discharges the author clause, or nobody requested changes. -/
theorem C04_strict_reading_partial (c : Cfg) (i : Input)
    (h : c.approve = false ∨ c.needAuthor = false ∨ Spec.authorBypassed c ∨ ∀ u, u ∉ i.changeRequests) :
    checkApprovals c i = .pass ↔ Spec.approvedStrict c i := by
  rw [C04_iff]
  unfold Spec.approved Spec.approvedStrict Spec.changeRequestsOK Spec.allWaived Spec.allWaivedStrict
  -- the readings differ in the fifth clause only, and there only in whether `approve` waives the author requirement
  refine and_congr_right fun _ => and_congr_right fun _ => and_congr_right fun _ => and_congr_right fun _ => ?_
  rcases h with h | h | h | h
  · simp [h]
  · simp [h]
  · simp [h]
  · exact iff_of_true (Or.inl h) (Or.inl h)

/-- a configuration where only `approve` discharges the author clause, peers are bypassed, and a reviewer
    requested changes -/
def strictWitnessCfg : Cfg :=
  { requiredPeers := 2, requiredLeaders := 0, needAuthor := true, projectLeaders := [], robot := "robot",
    bypassAuthorS := false, bypassAuthorA := false, bypassPeerS := true, bypassPeerA := false,
    bypassLeaderS := false, bypassLeaderA := false, approve := true, unanimity := false }
def strictWitnessInput : Input :=
  { author := "author", participants := ["peer1"], approvals := [], changeRequests := ["peer1"] }

/-- ... and the two readings do differ there: the code passes (early return), the strict reading refuses. -/
theorem C04_strict_reading_differs :
    checkApprovals strictWitnessCfg strictWitnessInput = .pass ∧
      ¬ Spec.approvedStrict strictWitnessCfg strictWitnessInput := by
  refine ⟨by decide +kernel, ?_⟩
  rintro ⟨_, _, _, _, cr | ⟨w, _⟩⟩
  · exact cr "peer1" (by simp [strictWitnessInput])
  · rcases w with w | w | w <;> simp [strictWitnessCfg] at w

/-- What `C04_settings` needs of the tests of `validate_inter_settings`: an error when the required leader
    approvals exceed (`>`; `>=` would do as well) the required peer approvals, and one when they exceed the
    number of project leaders. -/
def RulesOK (rules : List Rule) : Prop :=
  (∃ r ∈ rules, r.lhs = "required_leader_approvals" ∧ (r.op = "Gt" ∨ r.op = "GtE") ∧ r.rhsLen = false ∧
      r.rhs = "required_peer_approvals") ∧
  (∃ r ∈ rules, r.lhs = "required_leader_approvals" ∧ (r.op = "Gt" ∨ r.op = "GtE") ∧ r.rhsLen = true ∧
      r.rhs = "project_leaders")

instance (rules) : Decidable (RulesOK rules) := by unfold RulesOK; infer_instance

/-- Table obligation on the validation tests found in the current source. -/
theorem C04_settings_table : RulesOK BertE.Drv.C04.genRules := by decide +kernel

/-- Settings that pass the inter-settings validation require no more leader approvals than peer approvals,
    and no more than there are project leaders. -/
theorem C04_settings (rules : List Rule) (hr : RulesOK rules) (s : Settings)
    (hv : settingsValid rules s = true) :
    s.requiredLeaders ≤ s.requiredPeers ∧ s.requiredLeaders ≤ (s.projectLeaders.length : Int) := by
  obtain ⟨⟨r1, hm1, hl1, ho1, hb1, hr1⟩, ⟨r2, hm2, hl2, ho2, hb2, hr2⟩⟩ := hr
  have hv := List.all_eq_true.mp hv
  have h1 := hv r1 hm1
  have h2 := hv r2 hm2
  constructor
  · rcases ho1 with ho1 | ho1 <;>
      simp [Rule.fires?, hl1, ho1, hb1, hr1, Settings.int?, cmp?] at h1 <;> omega
  · rcases ho2 with ho2 | ho2 <;>
      simp [Rule.fires?, hl2, ho2, hb2, hr2, Settings.int?, Settings.len?, cmp?] at h2 <;> omega

/-- On the current source. -/
theorem C04_settings_gen (s : Settings) (hv : settingsValid BertE.Drv.C04.genRules s = true) :
    s.requiredLeaders ≤ s.requiredPeers ∧ s.requiredLeaders ≤ (s.projectLeaders.length : Int) :=
  C04_settings _ C04_settings_table s hv

/-- two peers required, one leader required; the author (a leader) approved by comment, peer1 and the leader
    approved on the host (the leader's approval is listed twice), unanimity on — passes; with a change request, not. -/
def exCfg : Cfg :=
  { requiredPeers := 2, requiredLeaders := 1, needAuthor := true, projectLeaders := ["leader", "author"],
    robot := "robot", bypassAuthorS := false, bypassAuthorA := false, bypassPeerS := false, bypassPeerA := false,
    bypassLeaderS := false, bypassLeaderA := false, approve := true, unanimity := true }
def exInput : Input :=
  { author := "author", participants := ["peer1", "robot", "leader"], approvals := ["leader", "peer1", "leader"],
    changeRequests := [] }

example : checkApprovals exCfg exInput = .pass := by decide +kernel
example : Spec.approved exCfg exInput := (C04_iff _ _).mp (by decide +kernel)
example : checkApprovals exCfg { exInput with changeRequests := ["peer2", "peer2"] }
    = .approvalRequired ["peer2"] := by decide +kernel
example : ¬ Spec.approved exCfg { exInput with changeRequests := ["peer2", "peer2"] } :=
  (C04_otherwise _ _).mpr ⟨["peer2"], by decide +kernel, by simp⟩
/-- an approver who is not a participant does not break unanimity (the defect repaired by commit f34678a) -/
example : checkApprovals exCfg { exInput with participants := ["peer1"] } = .pass := by decide +kernel
example : Spec.allWaived { exCfg with bypassPeerA := true, requiredLeaders := 0, unanimity := false } := by
  simp [Spec.allWaived, Spec.peerBypassed, exCfg]
example : settingsValid BertE.Drv.C04.genRules ⟨2, 1, ["leader", "author"]⟩ = true := by decide +kernel
/-- the hypothesis of `C04_strict_reading_partial` is met by the example above (nobody requested changes) ... -/
example : exCfg.approve = false ∨ exCfg.needAuthor = false ∨ Spec.authorBypassed exCfg ∨
    ∀ u, u ∉ exInput.changeRequests := Or.inr (Or.inr (Or.inr (by simp [exInput])))
/-- ... and by a configuration with a change request where `approve` is off -/
example : Spec.approvedStrict { exCfg with approve := false, unanimity := false, requiredPeers := 1 }
    { exInput with approvals := ["author", "peer1"] } :=
  (C04_strict_reading_partial _ _ (Or.inl rfl)).mp (by decide +kernel)
example : settingsValid BertE.Drv.C04.genRules ⟨2, 3, ["leader", "author"]⟩ = false := by decide +kernel

/-- A per-author bypass is the author's own: for every `pr_author_options` mapping that
    `PrAuthorsOptions.deserialize` accepts — any number of authors, in any order — the pull-request author has
    `author_bypass.get(key, False)` exactly when the (last) entry written for THAT author lists `key` and `key`
    is one of the known bypasses: what is granted to other authors never counts. -/
theorem C04_author_options (raw : BertE.AuthorOptions.Raw) (res : BertE.AuthorOptions.Opts)
    (h : BertE.AuthorOptions.deserialize BertE.Gen.Approvals.bypassList raw [] = some res) (author key : String) :
    BertE.AuthorOptions.authorBypass res author key =
      match BertE.AuthorOptions.ownNames raw author with
      | some names => BertE.Gen.Approvals.bypassList.contains key && names.contains key
      | none => false := by
  have := BertE.AuthorOptions.deserialize_spec _ raw [] res h author key
  rw [this]
  cases BertE.AuthorOptions.ownNames raw author <;> rfl

/-- an unknown bypass name anywhere in the mapping is refused (IncorrectSettingsFile) -/
theorem C04_author_options_unknown (bl : List String) (user : String) (names : List String)
    (rest : BertE.AuthorOptions.Raw) (acc : BertE.AuthorOptions.Opts) (n : String) (hn : n ∈ names)
    (hbad : bl.contains n = false) :
    BertE.AuthorOptions.deserialize bl ((user, names) :: rest) acc = none := by
  simp only [BertE.AuthorOptions.deserialize]
  split
  · rename_i hall
    rw [List.all_eq_true] at hall
    have := hall n hn
    rw [hbad] at this; cases this
  · rfl

example : BertE.AuthorOptions.deserialize BertE.Gen.Approvals.bypassList
    [("alice", ["bypass_peer_approval"]), ("bob", [])] [] ≠ none := by decide +kernel
example :
    (BertE.AuthorOptions.deserialize BertE.Gen.Approvals.bypassList
      [("alice", ["bypass_peer_approval"]), ("bob", [])] []).map
      (fun r => (BertE.AuthorOptions.authorBypass r "alice" "bypass_peer_approval",
                 BertE.AuthorOptions.authorBypass r "bob" "bypass_peer_approval")) = some (true, false) := by decide +kernel

end BertE.C04


/-! ### End to end: the review gate inside the composed evaluation (`Model/Eval.lean`)

The approvals, change requests and participants are those the git host reports for THIS pull request, the author is
its author, and `approve`, `unanimity` and the three bypasses are the options `handle_comments` computes from ITS
comments (`Reaches.options`) together with the per-author settings of its author. -/
namespace BertE.C04
open BertE.Approvals BertE.Eval BertE.Flow BertE.Reactor

/-- If the evaluation of a pull request that was not queued before reaches the final stage
    (entry into the queue, or direct merge), the property's five clauses hold of the host state of this pull
    request with the options computed from its comments. -/
theorem C04_e2e_entered {c : Eval.Cfg} {h : Host} {s : Sys} {id : Nat} {orc : List Bool} {sel : List Nat}
    (hd : (evalPr c h s id orc sel).declined = false) (hf : (evalPr c h s id orc sel).stage = .final)
    (hnq : alreadyQueued s (evalPr c h s id orc sel).pr = false) :
    ∃ p st src pr sc dc l4 pushW, Entered c h s id orc sel p st src pr sc dc l4 pushW ∧
      Spec.approved (approvalsCfg c (envFor c p) st) (approvalsInput p) := by
  obtain ⟨p, st, src, pr, sc, dc, l4, pushW, he⟩ := evalPr_entered hd hf hnq
  exact ⟨p, st, src, pr, sc, dc, l4, pushW, he, (C04_iff _ _).mp he.approvals⟩

/-- The same, read off the plan: any operation other than a push of this pull request's `w/` branches (a queue
    ref is created, a destination moves) means the review gate let it through. -/
theorem C04_e2e_ops {c : Eval.Cfg} {h : Host} {s : Sys} {id : Nat} {orc : List Bool} {sel : List Nat}
    (hd : (evalPr c h s id orc sel).declined = false)
    (hnq : alreadyQueued s (evalPr c h s id orc sel).pr = false)
    (hop : ∃ op ∈ (evalPr c h s id orc sel).plan.ops, ¬ Op.onlyW (evalPr c h s id orc sel).pr.src op) :
    ∃ p st src pr sc dc l4 pushW, Entered c h s id orc sel p st src pr sc dc l4 pushW ∧
      Spec.approved (approvalsCfg c (envFor c p) st) (approvalsInput p) := by
  obtain ⟨p, st, src, pr, sc, dc, l4, pushW, he⟩ := evalPr_entered_of_op hd hnq hop
  exact ⟨p, st, src, pr, sc, dc, l4, pushW, he, (C04_iff _ _).mp he.approvals⟩

/-- The refusal: the evaluation reaches the gates, no skew, and the clauses do not all hold:
    the job ends as `ApprovalRequired`, which is posted on the pull request; the stage is `integration` and the
    plan stops at the push of the `w/` branches (no queue ref, no destination ref). -/
theorem C04_e2e_refused {c : Eval.Cfg} (hk : c.early.kind "ApprovalRequired" = some "template")
    {h : Host} {s : Sys} {id : Nat} {orc : List Bool} {sel : List Nat}
    {p : Eval.Pr} {st : State} {src : BertE.Names.Parsed} {pr : PrInfo} {sc dc : BertE.Git.Commit} {l4 : Loc}
    {pushW : List Op} (hr : Reaches c h s id orc sel p st src pr sc dc l4 pushW) (hsk : p.facts.skew = false)
    (hna : ¬ Spec.approved (approvalsCfg c (envFor c p) st) (approvalsInput p)) :
    (evalPr c h s id orc sel).stage = .integration ∧
    (evalPr c h s id orc sel).plan = ⟨l4.g, pushW, "gate", s.queue⟩ ∧
    (evalPr c h s id orc sel).outcome = "ApprovalRequired" ∧
    "ApprovalRequired" ∈ (evalPr c h s id orc sel).notified := by
  obtain ⟨crs, hcrs, _⟩ := (C04_otherwise _ _).mp hna
  obtain ⟨h1, h2, h3, h4⟩ := gates_approval_required c h s p pr st (greetingOf c h s p) sc l4 pushW hsk hcrs
  rw [hr.eq]
  refine ⟨h1, h3, ?_, ?_⟩
  · rw [h2, evalL_raise_class]
  · rw [h4, evalL_raise_template hk]
    simp [decisionPosted]

/-! Non-vacuity: one required peer approval; without it the job ends as `ApprovalRequired` at the integration
    stage, with the approval of a peer (and green tips) the pull request enters the queue. -/

def e2eCfg : Eval.Cfg :=
  { reg := BertE.Drv.C07.genRegistry.withCmdLine ["bypass_jira_check", "bypass_build_status"]
    env := ⟨["admin"], "", "robot", []⟩
    authorOptions := []
    early := BertE.Drv.C12.genTbl
    build := BertE.Drv.C06.genTbl
    buildKey := "pre-merge"
    approvals := { requiredPeers := 1, requiredLeaders := 0, needAuthor := false, projectLeaders := ["admin"],
                   robot := "robot", bypassAuthorS := false, bypassAuthorA := false, bypassPeerS := false,
                   bypassPeerA := false, bypassLeaderS := false, bypassLeaderA := false, approve := false,
                   unanimity := false }
    jira := ⟨false, false, [], [], "", "", [], false⟩
    ticketless := BertE.Drv.Eval.ticketlessOf
    maxCommitDiff := 0
    createBranches := true
    createPrs := false }

def e2eSys : Sys :=
  (step (BertE.Drv.C01.initSys true false [.dev 4 (some 3), .dev 5 (some 1)]) (.extSet "feature/TEST-1" [1] false)).1

def e2eHost (approvals : List String) : Host :=
  ⟨[{ id := 1, author := "contrib", src := "feature/TEST-1", dst := "development/4.3", status := "OPEN",
      comments := [], approvals := approvals, changeRequests := [], participants := approvals }], [], []⟩

example : (evalPr e2eCfg (e2eHost []) e2eSys 1 [] []).stage = .integration ∧
    (evalPr e2eCfg (e2eHost []) e2eSys 1 [] []).outcome = "ApprovalRequired" ∧
    (evalPr e2eCfg (e2eHost []) e2eSys 1 [] []).notified = ["InitMessage", "IntegrationDataCreated", "ApprovalRequired"] := by
  decide +kernel

example : (evalPr e2eCfg (e2eHost ["peer1"]) e2eSys 1 [] []).stage = .final ∧
    (evalPr e2eCfg (e2eHost ["peer1"]) e2eSys 1 [] []).declined = false ∧
    alreadyQueued e2eSys (evalPr e2eCfg (e2eHost ["peer1"]) e2eSys 1 [] []).pr = false ∧
    (evalPr e2eCfg (e2eHost ["peer1"]) e2eSys 1 [] []).outcome = "Queued" := by decide +kernel

example : e2eCfg.early.kind "ApprovalRequired" = some "template" := by decide +kernel

end BertE.C04
