import BertE.Lemmas.Reset
import BertE.Gen.Reset
import BertE.Drv.C15
/-
C15 — `reset` never silently discards manual work and only touches its own pull request.

Model: `Model/Reset.lean` (`_reset` on a commit graph with parents and authors; ancestry derived from the
parents), on top of the system model `Model/Flow.lean` (refs, remote operations, `planReset`, the evaluation
of a pull request). The switches that decide whether git lists merge commits are read from the source
(`Gen/Reset.lean`).

Vocabulary of the statements
* `ever`: ghost set of the commits that are or were on the source branch (it contains everything reachable
  from the current source tip).
* `Own g ever dt c`: `c` is a commit *of the integration branch itself* — not on the destination `dt`, never
  on the source branch, and: the robot's, or a merge, or made on top of such a commit.
  The manual work of the property text is a commit with `Own` that is not the robot's.
* `FC` / `BranchFC` (Lemmas/Reset.lean): the least set containing the commits of the current source branch
  and closed under "not the robot's, exactly one parent, parent in the set or on the destination" — what the
  code can know of "a previous version of the source branch".

FINDING (rule 7). The full statement of the first clause is

    theorem C15_refuses : (same hypotheses as C15_refuses_partial, WITHOUT `hlisted`) →
        reset s cg genFlags prs pr false = ⟨⟨s.g, [], "LossyResetWarning", s.queue⟩, []⟩

  and it WAS FALSE of the code before the repair (kept visible as `C15_refuses_counterexample`, with the pre-repair
  switches `preFixFlags`; `C15_refuses` is the full statement on the current source): `Branch.get_commit_diff` asks git for `--no-merges` by default and `_reset`
  uses the default, so a merge commit made by hand on an integration branch (the conflict resolution that
  the robot's own Conflict message asks for) is never looked at, and `reset` deletes it without a warning.
  `C15_refuses_counterexample` is the concrete witness (the graph of a real run, see corpus/C15);
  `C15_refuses_partial` is the statement for the commits git lists; `C15_refuses_if_merges_listed` is the
  full statement for the code with `ignore_merges=False` in the walk.
-/
namespace BertE.C15
open BertE.Git BertE.Flow BertE.Reset

/-- the switches of the code under check -/
abbrev genFlags : Flags := BertE.Drv.C15.genFlags

/-- Ancestry is consistent with the parents (any well-formed graph): `a` is reachable from `b` iff it is `b`
    or reachable from one of `b`'s parents. -/
theorem C15_graph_consistent (g : CGraph) (hg : g.WF) (a b : Commit) (hb : b < g.size) :
    g.le a b = true ↔ a = b ∨ ∃ p ∈ g.parents b, g.le a p = true :=
  CGraph.le_iff_parents hg hb

/-- `git log dst..src [--no-merges]` lists exactly the commits reachable from `src` and not from `dst`
    (with at most one parent), each parent after its children. -/
theorem C15_commitDiff (g : CGraph) (hg : g.WF) (src dst : Commit) (nm : Bool) :
    (∀ c, c ∈ commitDiff g src dst nm ↔
      g.le c src = true ∧ g.le c dst = false ∧ (nm = true → (g.parents c).length ≤ 1)) ∧
    (∀ pre c post, (commitDiff g src dst nm).reverse = pre ++ c :: post →
      ∀ p ∈ g.parents c, p ∉ c :: post) := by
  refine ⟨fun c => mem_commitDiff.trans (mem_commitDiffOldest_iff hg), ?_⟩
  intro pre c post h p hp
  rw [commitDiff_reverse] at h
  exact commitDiffOldest_order hg h hp

/-- Safety of the walk, for EVERY order in which git may list the commits: if the walk meets a commit
    that is not the robot's and not in the `feature` closure, the answer is "lossy". -/
theorem C15_walk_sound (g : CGraph) (feature0 wcommits : List Commit) (dstInc : Commit → Bool)
    (h : ∃ c ∈ wcommits, g.isRobot c = false ∧ ¬ FC g feature0 dstInc c) :
    resetCheck g feature0 wcommits dstInc = true :=
  resetCheck_of_not_FC g feature0 wcommits dstInc h

/-- The walk, exactly (any graph, any list in which a single parent that could itself join the `feature`
    set is listed before its child — every topological order of `git log dst..w` is such a list):
    "lossy" iff some listed commit is not the robot's and not in the `feature` closure; and the `feature` set
    at the end is `feature0` plus exactly the listed non-robot commits of the closure. -/
theorem C15_walk_exact (g : CGraph) (feature0 wcommits : List Commit) (dstInc : Commit → Bool)
    (hord : ∀ pre c post, wcommits = pre ++ c :: post → ∀ p, g.parents c = [p] → dstInc p = false →
      g.isRobot p = false → (g.parents p).length = 1 → p ∈ feature0 ∨ p ∈ pre) :
    (resetCheck g feature0 wcommits dstInc = true ↔
      ∃ c ∈ wcommits, g.isRobot c = false ∧ ¬ FC g feature0 dstInc c) ∧
    (∀ x, x ∈ (walk g dstInc feature0 wcommits).1 ↔
      x ∈ feature0 ∨ (x ∈ wcommits ∧ g.isRobot x = false ∧ FC g feature0 dstInc x)) :=
  ⟨(walk_exact g feature0 wcommits dstInc hord).lossy, (walk_exact g feature0 wcommits dstInc hord).feat⟩

/-- The check on one integration branch, exactly, on the graph: lossy iff a commit reachable from the
    integration branch and not from its destination, listed by git, is not the robot's and not in the closure. -/
theorem C15_branch_exact (g : CGraph) (hg : g.WF) (fl : Flags) (st dt wt : Commit) :
    branchLossy g fl st dt wt = true ↔
      ∃ c, g.le c wt = true ∧ g.le c dt = false ∧ (fl.wNoMerges = true → (g.parents c).length ≤ 1) ∧
        g.isRobot c = false ∧ ¬ BranchFC g fl st dt c :=
  branchLossy_iff hg fl st dt wt

/-- A commit of the integration branch itself is never taken for a previous version of the source branch. -/
theorem C15_own_not_feature (g : CGraph) (hg : g.WF) (fl : Flags) (st dt : Commit) (ever : List Commit)
    (hever : ∀ x, g.le x st = true → x ∈ ever) {c : Commit} (h : Own g ever dt c) :
    ¬ BranchFC g fl st dt c :=
  own_not_feature hg fl st dt ever hever h

/-- C15, first clause, for the commits git lists. For every system state and commit graph: if an
    integration branch of the pull request holds a commit `c` that is not the robot's and is a commit of the
    integration branch itself (`Own`: never on the source branch, not on the destination, a merge or made on
    top of such a commit) then `reset` plans NO operation, declines nothing, and reports LossyResetWarning.
    `hlisted` (the `_partial`): when the walk asks git for `--no-merges`, `c` must not be a merge. -/
theorem C15_refuses_partial (s : Sys) (cg : CGraph) (hg : cg.WF) (fl : Flags) (prs : List HostPr) (pr : PrInfo)
    {st : Commit} (hsrc : s.remote.get (.other pr.src) = some st)
    (hT : ∀ d ∈ s.targets pr.dst, s.remote.has (.dest d) = true)
    (ever : List Commit) (hever : ∀ x, cg.le x st = true → x ∈ ever)
    {d : Dest} (hd : d ∈ s.targets pr.dst) {dt wt : Commit}
    (hdt : s.remote.get (.dest d) = some dt) (hwt : s.remote.get (.w d pr.src) = some wt)
    {c : Commit} (hcw : cg.le c wt = true) (hrobot : cg.isRobot c = false) (hown : Own cg ever dt c)
    (hlisted : fl.wNoMerges = true → (cg.parents c).length ≤ 1) :
    reset s cg fl prs pr false = ⟨⟨s.g, [], "LossyResetWarning", s.queue⟩, []⟩ := by
  have hdw : d ∈ wBranches s pr := mem_wBranches.mpr ⟨hd, (RefMap.has_iff _ _).mpr ⟨wt, hwt⟩⟩
  obtain ⟨b, hb⟩ := anyLossy_isSome (cg := cg) (fl := fl) hsrc (wBranches s pr)
    (fun d' hd' => ⟨hT d' (mem_wBranches.mp hd').1, (mem_wBranches.mp hd').2⟩)
  have hbt : b = true := by
    rw [anyLossy_some_iff hb]
    refine ⟨d, hdw, st, dt, wt, hsrc, hdt, hwt, ?_⟩
    rw [branchLossy_iff hg]
    exact ⟨c, hcw, hown.notDst, hlisted, hrobot, own_not_feature hg fl st dt ever hever hown⟩
  subst hbt
  unfold reset
  simp only
  have hne : (wBranches s pr).isEmpty = false := List.isEmpty_eq_false_iff_exists_mem.mpr ⟨d, hdw⟩
  rw [hne, hb]
  rfl

/-- C15, first clause, in full, for a walk that lists merge commits (`ignore_merges=False`): no side
    condition on `c`. The code under check has `wNoMerges = true`; see `C15_refuses_counterexample`. -/
theorem C15_refuses_if_merges_listed (s : Sys) (cg : CGraph) (hg : cg.WF) (fl : Flags)
    (hfl : fl.wNoMerges = false) (prs : List HostPr) (pr : PrInfo)
    {st : Commit} (hsrc : s.remote.get (.other pr.src) = some st)
    (hT : ∀ d ∈ s.targets pr.dst, s.remote.has (.dest d) = true)
    (ever : List Commit) (hever : ∀ x, cg.le x st = true → x ∈ ever)
    {d : Dest} (hd : d ∈ s.targets pr.dst) {dt wt : Commit}
    (hdt : s.remote.get (.dest d) = some dt) (hwt : s.remote.get (.w d pr.src) = some wt)
    {c : Commit} (hcw : cg.le c wt = true) (hrobot : cg.isRobot c = false) (hown : Own cg ever dt c) :
    reset s cg fl prs pr false = ⟨⟨s.g, [], "LossyResetWarning", s.queue⟩, []⟩ :=
  C15_refuses_partial s cg hg fl prs pr hsrc hT ever hever hd hdt hwt hcw hrobot hown
    (fun h => by rw [hfl] at h; cases h)

/-- C15, first clause, in full, on the current source (since the repair "fix: reset must not silently discard a
    conflict resolution made on an integration branch": the walk lists merge commits). -/
theorem C15_refuses (s : Sys) (cg : CGraph) (hg : cg.WF) (prs : List HostPr) (pr : PrInfo)
    {st : Commit} (hsrc : s.remote.get (.other pr.src) = some st)
    (hT : ∀ d ∈ s.targets pr.dst, s.remote.has (.dest d) = true)
    (ever : List Commit) (hever : ∀ x, cg.le x st = true → x ∈ ever)
    {d : Dest} (hd : d ∈ s.targets pr.dst) {dt wt : Commit}
    (hdt : s.remote.get (.dest d) = some dt) (hwt : s.remote.get (.w d pr.src) = some wt)
    {c : Commit} (hcw : cg.le c wt = true) (hrobot : cg.isRobot c = false) (hown : Own cg ever dt c) :
    reset s cg genFlags prs pr false = ⟨⟨s.g, [], "LossyResetWarning", s.queue⟩, []⟩ :=
  C15_refuses_if_merges_listed s cg hg genFlags (by decide +kernel) prs pr hsrc hT ever hever hd hdt hwt hcw hrobot hown

/-- the switches of the code BEFORE that repair: both walks asked git for `--no-merges` -/
def preFixFlags : Flags := { genFlags with featureNoMerges := true, wNoMerges := true }

/-- the repository of the witness, as exported from the real run of corpus/C15/01-conflict-resolution-discarded.json:
    0 root, 1 development/4.3, 2 development/5.1, 3-4 the source branch (on 1), 5 the robot's merge of 2 and 4 on
    w/5.1/..., 6-7 another pull request merged into development/5.1 (fast-forward) and conflicting with the source,
    8 the merge of 7 into the integration branch made BY HAND (the conflict resolution the robot asked for) -/
def witnessGraph : CGraph :=
  ⟨[⟨[], false⟩, ⟨[0], false⟩, ⟨[1], false⟩, ⟨[1], false⟩, ⟨[3], false⟩, ⟨[2, 4], true⟩, ⟨[2], false⟩,
    ⟨[6], false⟩, ⟨[5, 7], false⟩]⟩

def witnessSys : Sys :=
  BertE.Drv.C15.mkSys witnessGraph
    [(.dest (.dev 4 (some 3)), 1), (.dest (.dev 5 (some 1)), 7), (.other "feature/TEST-0001", 4),
     (.other "feature/TEST-0002", 7), (.w (.dev 5 (some 1)) "feature/TEST-0001", 8)]
    [.dev 4 (some 3), .dev 5 (some 1)] false false

/-- The code violates the first clause on merge commits. In the witness repository commit 8 is on the
    integration branch, is not the robot's, was never on the source branch (`ever` = what the source tip
    reaches), is not on the destination and is a merge made on top of the robot's commit 5 — every premise of
    the clause — yet `reset` (not forced), with the switches of the source before the repair, reports ResetComplete and
    deletes the branch and declines its pull request. -/
theorem C15_refuses_counterexample :
    let pr : PrInfo := ⟨1, "feature/TEST-0001", .dev 4 (some 3), false⟩
    let ever : List Commit := [0, 1, 3, 4]
    let w : Ref := .w (.dev 5 (some 1)) "feature/TEST-0001"
    let r := reset witnessSys witnessGraph preFixFlags
      [⟨1, .other "feature/TEST-0001", true⟩, ⟨2, w, true⟩, ⟨3, .other "feature/TEST-0002", false⟩] pr false
    witnessGraph.wfb = true ∧ (∀ x, x < 9 → witnessGraph.le x 4 = true → x ∈ ever) ∧
    witnessGraph.le 8 8 = true ∧ witnessGraph.isRobot 8 = false ∧ 8 ∉ ever ∧ witnessGraph.le 8 7 = false ∧
    (witnessGraph.parents 8).length ≠ 1 ∧ witnessGraph.parents 8 = [5, 7] ∧ witnessGraph.isRobot 5 = true ∧
    r.plan.outcome = "ResetComplete" ∧
    r.plan.ops.length = 1 ∧
    (applyOps r.plan.g noRej witnessSys.remote r.plan.ops).get w = none ∧
    r.declined = [2] := by
  decide +kernel

/-- "deleting nothing": a refusal plans no operation and declines nothing; `force_reset` never refuses. -/
theorem C15_refusal_is_empty (s : Sys) (cg : CGraph) (fl : Flags) (prs : List HostPr) (pr : PrInfo) (force : Bool)
    (h : (reset s cg fl prs pr force).plan.outcome ≠ "ResetComplete") :
    (reset s cg fl prs pr force).plan.ops = [] ∧ (reset s cg fl prs pr force).declined = [] ∧
    stepReset s cg fl prs pr force = (s, (reset s cg fl prs pr force).plan.outcome) := by
  rcases reset_cases s cg fl prs pr force with ⟨o, hr, _⟩ | ⟨_, hr⟩
  · unfold stepReset
    rw [hr]
    exact ⟨rfl, rfl, rfl⟩
  · rw [hr] at h
    exact absurd rfl h

theorem C15_force_never_refuses (s : Sys) (cg : CGraph) (fl : Flags) (prs : List HostPr) (pr : PrInfo) :
    (reset s cg fl prs pr true).plan.outcome ≠ "LossyResetWarning" := by
  rcases reset_cases s cg fl prs pr true with ⟨o, hr, ho⟩ | ⟨_, hr⟩ <;> rw [hr]
  · rcases ho with ⟨rfl, _⟩ | rfl | ⟨_, hf⟩
    · exact (by decide : "ResetComplete" ≠ "LossyResetWarning")
    · exact (by decide : "crash" ≠ "LossyResetWarning")
    · cases hf
  · exact (by decide : "ResetComplete" ≠ "LossyResetWarning")

/-- C15, second clause (refs), for both commands, at every crash point and for every refusal of the
    server. The source branch and every other non-robot branch, the destination branches, the queue
    branches, the integration branches of other pull requests (another source) and of other targets keep
    their value; an integration branch of this pull request keeps its value or is gone. -/
theorem C15_scope (s : Sys) (cg : CGraph) (fl : Flags) (prs : List HostPr) (pr : PrInfo) (force : Bool)
    (rej : Ref → Bool) (k : Nat) :
    let r := reset s cg fl prs pr force
    let after := applyOps r.plan.g rej s.remote (r.plan.ops.take k)
    (∀ n, after.get (.other n) = s.remote.get (.other n)) ∧
    (∀ d, after.get (.dest d) = s.remote.get (.dest d)) ∧
    (∀ d, after.get (.q d) = s.remote.get (.q d)) ∧
    (∀ i d src, after.get (.qw i d src) = s.remote.get (.qw i d src)) ∧
    (∀ d src, src ≠ pr.src → after.get (.w d src) = s.remote.get (.w d src)) ∧
    (∀ d, d ∉ s.targets pr.dst → after.get (.w d pr.src) = s.remote.get (.w d pr.src)) ∧
    (∀ d, after.get (.w d pr.src) = s.remote.get (.w d pr.src) ∨ after.get (.w d pr.src) = none) := by
  intro r after
  have keep : ∀ x, (∀ d ∈ s.targets pr.dst, x ≠ .w d pr.src) → after.get x = s.remote.get x := fun x hx =>
    (reset_scope s cg fl prs pr force rej k x).resolve_right fun ⟨_, d, hd, e, _⟩ => hx d hd e
  exact ⟨fun n => keep _ fun _ _ e => Ref.noConfusion e,
    fun d => keep _ fun _ _ e => Ref.noConfusion e,
    fun d => keep _ fun _ _ e => Ref.noConfusion e,
    fun i d src => keep _ fun _ _ e => Ref.noConfusion e,
    fun d src hs => keep _ fun _ _ e => hs (Ref.w.inj e).2,
    fun d hd => keep _ fun d' hd' e => hd ((Ref.w.inj e).1 ▸ hd'),
    fun d => (reset_scope s cg fl prs pr force rej k _).imp id And.left⟩

/-- C15, second clause (pull requests), for both commands. Every pull request that is declined was open
    and its source branch is an existing integration branch of THIS pull request. -/
theorem C15_scope_declines (s : Sys) (cg : CGraph) (fl : Flags) (prs : List HostPr) (pr : PrInfo) (force : Bool) :
    ∀ i ∈ (reset s cg fl prs pr force).declined, ∃ p ∈ prs, p.id = i ∧ p.open_ = true ∧
      ∃ d ∈ s.targets pr.dst, p.src = .w d pr.src ∧ s.remote.has p.src = true := by
  intro i hi
  rcases reset_ops s cg fl prs pr force with ⟨_, h⟩ | ⟨_, h⟩
  · rw [h] at hi; cases hi
  · rw [h] at hi
    unfold declines at hi
    obtain ⟨p, hp, rfl⟩ := List.mem_map.mp hi
    obtain ⟨hp1, hp2⟩ := List.mem_filter.mp hp
    simp only [Bool.and_eq_true] at hp2
    obtain ⟨d, hd, hsrc⟩ := List.mem_map.mp (List.contains_iff_mem.mp hp2.2)
    have := mem_wBranches.mp hd
    exact ⟨p, hp1, rfl, hp2.1, d, this.1, hsrc.symm, by rw [← hsrc]; exact this.2⟩

/-- A completed reset is the `reset` event of the system model (`Flow.planReset`, the plan the C01/C08
    theorems are about): same operations, same state; every integration branch of the pull request is gone;
    the declined pull requests are exactly the open ones whose source is one of the deleted branches. -/
theorem C15_completed (s : Sys) (cg : CGraph) (fl : Flags) (prs : List HostPr) (pr : PrInfo) (force : Bool)
    (h : (reset s cg fl prs pr force).plan.outcome = "ResetComplete") :
    (reset s cg fl prs pr force).plan = planReset s pr ∧
    stepReset s cg fl prs pr force = step s (.reset pr) ∧
    (∀ d ∈ s.targets pr.dst, (stepReset s cg fl prs pr force).1.remote.get (.w d pr.src) = none) ∧
    (reset s cg fl prs pr force).declined =
      declines prs (((s.targets pr.dst).map (fun d => Ref.w d pr.src)).filter (fun r => s.remote.has r)) := by
  have key : (reset s cg fl prs pr force).plan = planReset s pr ∧
      (∀ d ∈ s.targets pr.dst, (applyOps (reset s cg fl prs pr force).plan.g noRej s.remote
        (reset s cg fl prs pr force).plan.ops).get (.w d pr.src) = none) ∧
      (reset s cg fl prs pr force).declined =
        declines prs (((s.targets pr.dst).map (fun d => Ref.w d pr.src)).filter (fun r => s.remote.has r)) := by
    rw [← wBranches_map, planReset_eq]
    rcases reset_cases s cg fl prs pr force with ⟨o, hr, ho⟩ | ⟨hne, hr⟩
    · rw [hr] at h
      obtain ⟨rfl, hw⟩ : o = "ResetComplete" ∧ wBranches s pr = [] := by
        rcases ho with ho | rfl | ⟨rfl, _⟩
        · exact ho
        · exact absurd h (by decide : "crash" ≠ "ResetComplete")
        · exact absurd h (by decide : "LossyResetWarning" ≠ "ResetComplete")
      rw [hr, if_pos hw, hw]
      refine ⟨rfl, fun d hd => ?_, by simp [declines]⟩
      have := get_delRefs_wBranches s pr hd
      rw [hw] at this
      exact this
    · rw [hr, if_neg hne]
      refine ⟨rfl, fun d hd => ?_, rfl⟩
      simp only [applyOps, List.foldl_cons, List.foldl_nil]
      rw [applyOp_pushAll_delRefs_noRej]
      exact get_delRefs_wBranches s pr hd
  refine ⟨key.1, ?_, key.2.1, key.2.2⟩
  unfold stepReset
  simp only [step, plan, key.1]

/-- C15, last clause. After a completed `reset` / `force_reset` the integration branches are gone and the
    next evaluation that reaches the integration stage puts an integration branch back on every target after
    the first — or reports the content conflict that prevents it: for every outcome of git's merges, provided
    the source branch exists, is not merged, and the pull request is not in the queue. -/
theorem C15_rebuilt (s : Sys) (cg : CGraph) (fl : Flags) (prs : List HostPr) (pr : PrInfo) (force : Bool)
    (orc : List Bool) (sel : List Nat) {sc dc : Commit}
    (hsrc : s.remote.get (.other pr.src) = some sc) (hdst : s.remote.get (.dest pr.dst) = some dc)
    (hnm : s.g.le sc dc = false) (hnq : alreadyQueued s pr = false)
    (hdone : (reset s cg fl prs pr force).plan.outcome = "ResetComplete") :
    let s1 := (stepReset s cg fl prs pr force).1
    let e := step s1 (.evalPr pr .integration orc sel)
    (∀ d ∈ s.targets pr.dst, s1.remote.get (.w d pr.src) = none) ∧
    (e.2 = "Conflict" ∨ (e.2 = "gate" ∧ ∀ d ∈ (s.targets pr.dst).drop 1, e.1.remote.has (.w d pr.src) = true)) := by
  intro s1 e
  refine ⟨(C15_completed s cg fl prs pr force hdone).2.2.1, ?_⟩
  have hsc := C15_scope s cg fl prs pr force noRej (reset s cg fl prs pr force).plan.ops.length
  simp only [List.take_length] at hsc
  have hrem : s1.remote = applyOps (reset s cg fl prs pr force).plan.g noRej s.remote
      (reset s cg fl prs pr force).plan.ops := rfl
  have h3 : s1.g.le sc dc = false := by
    rw [show s1.g = s.g from (reset_g s cg fl prs pr force).1]
    exact hnm
  have h4 : alreadyQueued s1 pr = false := by
    rw [← hnq]
    -- the q/w/ refs are untouched
    simp only [alreadyQueued, RefMap.has, hrem, hsc.2.2.2.1]
    rfl
  exact evalPr_integration_has s1 pr orc sel ((hsc.1 _).trans hsrc) ((hsc.2.1 _).trans hdst) h3 h4

/-- `_reset` removes the branches locally only and publishes with ONE `git push --all --atomic --prune`;
    the integration branches are looked up by their exact name `w/<version>/<source>` and must exist; the
    pull requests to decline are looked up by `src_branch`; the walk goes oldest first. -/
theorem C15_table :
    BertE.Gen.Reset.removePushes = false ∧ BertE.Gen.Reset.pushPrune = true ∧
    BertE.Gen.Reset.pushNamesBranches = false ∧ BertE.Gen.Reset.declineLookup = ["src_branch"] ∧
    BertE.Gen.Reset.wTemplate = "w/{}/{}" ∧ BertE.Gen.Reset.onlyExisting = true ∧
    BertE.Gen.Reset.walkReversed = true ∧ BertE.Gen.Reset.mergesFlag = ("--no-merges", "") := by
  decide +kernel

/-- 0 root, 1 dev/4.3, 2 dev/5.1, 3 source (on 1), 4 robot merge on w/5.1, 5 a commit made by hand on w/5.1,
    6 the source amended (on 1); two pull requests, the other one with a similar name -/
def exGraph : CGraph :=
  ⟨[⟨[], false⟩, ⟨[0], false⟩, ⟨[1], false⟩, ⟨[1], false⟩, ⟨[2, 3], true⟩, ⟨[4], false⟩, ⟨[1], false⟩,
    ⟨[1], false⟩, ⟨[2, 7], true⟩]⟩

def exSys : Sys :=
  BertE.Drv.C15.mkSys exGraph
    [(.dest (.dev 4 (some 3)), 1), (.dest (.dev 5 (some 1)), 2), (.other "feature/x", 6),
     (.w (.dev 5 (some 1)) "feature/x", 5), (.other "feature/x2", 7), (.w (.dev 5 (some 1)) "feature/x2", 8)]
    [.dev 4 (some 3), .dev 5 (some 1)] true false

def exPrs : List HostPr :=
  [⟨1, .other "feature/x", true⟩, ⟨2, .w (.dev 5 (some 1)) "feature/x", true⟩,
   ⟨3, .other "feature/x2", true⟩, ⟨4, .w (.dev 5 (some 1)) "feature/x2", true⟩]

/-- the hypotheses of `C15_refuses_partial` hold for the hand-made commit 5 (source amended meanwhile: the
    old source commit 3 is recognised as a previous version, 5 is not); `reset` refuses, `force_reset`
    deletes w/5.1/feature/x only and declines pull request 2 only; the next evaluation rebuilds the branch. -/
example :
    let pr : PrInfo := ⟨1, "feature/x", .dev 4 (some 3), false⟩
    exGraph.wfb = true ∧ exGraph.le 5 5 = true ∧ exGraph.isRobot 5 = false ∧ exGraph.parents 5 = [4] ∧
    exGraph.isRobot 4 = true ∧ exGraph.le 4 2 = false ∧ exGraph.le 5 2 = false ∧
    (reset exSys exGraph genFlags exPrs pr false).plan.outcome = "LossyResetWarning" ∧
    (branchWalk exGraph genFlags 6 2 5).1 = [3, 6] ∧
    (reset exSys exGraph genFlags exPrs pr true).plan.outcome = "ResetComplete" ∧
    (reset exSys exGraph genFlags exPrs pr true).declined = [2] ∧
    (stepReset exSys exGraph genFlags exPrs pr true).1.remote.get (.w (.dev 5 (some 1)) "feature/x") = none ∧
    (stepReset exSys exGraph genFlags exPrs pr true).1.remote.get (.w (.dev 5 (some 1)) "feature/x2") = some 8 ∧
    alreadyQueued exSys pr = false ∧
    (step (stepReset exSys exGraph genFlags exPrs pr true).1 (.evalPr pr .integration [] [])).1.remote.has
      (.w (.dev 5 (some 1)) "feature/x") = true := by
  decide +kernel

end BertE.C15
