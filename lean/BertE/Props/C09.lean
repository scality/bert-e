import BertE.Gen.Cascade
import BertE.Model.Cascade
import BertE.Model.CascadeSpec
import BertE.Lemmas.Cascade
import BertE.Lemmas.CascadePerm
import BertE.Drv.C09
/-
C09 — target cascade, ignored branches and fix versions are exact.

`build cfg inc bs tags dst` is the model of `BranchCascade` driven as the code drives it
(`add_branch`* → `update_versions`* → `_update_major_versions` → `finalize` → `validate`), for lists of
branches and tags of ANY length; `Spec.result` is the declarative statement of the property (sets of
branches and tags, sorting as the only source of order). `inc` is the ancestry oracle of `validate`
(`includes_commit`), assumed true here: ancestry belongs to C01.

The constants of the source the computation rests on (class defaults of `micro`, `hfrev`, `latest_minor`,
`has_stabilization`, `can_be_destination`; default `hfrev` of a tag; the offsets of `_set_target_versions`)
are a parameter `cfg`, regenerated from the source on every run; `CfgOK` is what the property needs of
them and `C09_table` discharges it on the current source. `C09_tag_pattern` pins the text of the tag
pattern that the model's hand-written parser (`parseTag`, compared with the real regex by the tie) implements.
-/
namespace BertE.C09
open BertE.Cascade

/-- What the property needs of the constants of the source: the next patch of a line without tag is `.0`
    (`micro = -1`), the first hotfix revision is `.(0+1)` after a plain tag and `-1` without tag, no minor yet
    is `-1`, a held patch shifts the next one by 2 instead of 1, `development/x` takes `latest_minor + 1` and
    patch `0`, a fresh development branch has no stabilization branch, and the three classes can be destinations. -/
def CfgOK (cfg : Cfg) : Prop := cfg = Cfg.std

instance (cfg : Cfg) : Decidable (CfgOK cfg) := by unfold CfgOK; infer_instance

/-- Table obligation: the constants found in the current source are those the property needs. -/
theorem C09_table : CfgOK BertE.Drv.C09.genCfg := by decide +kernel

/-- Table obligation: the tag pattern of `update_versions` is the text the model's parser implements. -/
theorem C09_tag_pattern : BertE.Gen.Cascade.tagPattern =
    "^v?(?P<major>\\d+)\\.(?P<minor>\\d+)\\.(?P<micro>\\d+)(\\.(?P<hfrev>\\d+)|)$" := rfl

section
variable {cfg : Cfg} {inc : Branch → Branch → Bool} {bs : List Branch} {tags : List Tag} {dst : Branch}

/-- For every list of distinct development / stabilization / hotfix branches, every list of tags
    and every destination among the branches, the cascade the code computes — destination branches, ignored
    branches, fix versions, merge paths, or the exception raised — is the declarative one. -/
theorem C09 (h : CfgOK cfg) (hinc : ∀ a b, inc a b = true) (hnd : bs.Nodup) (hdst : dst ∈ bs) :
    build cfg inc bs tags dst = Spec.result bs tags dst := by
  unfold CfgOK at h
  subst h
  exact build_std_eq hinc hnd hdst

private theorem ok_result (h : CfgOK cfg) (hinc : ∀ a b, inc a b = true) (hnd : bs.Nodup) (hdst : dst ∈ bs)
    {r : Result} (hr : build cfg inc bs tags dst = .ok r) :
    r = ⟨Spec.dst bs dst, Spec.ignored bs dst, Spec.targetVersions bs tags dst, Spec.mergePaths bs dst⟩ := by
  rw [C09 h hinc hnd hdst] at hr
  unfold Spec.result at hr
  split at hr
  · cases hr
  · exact (Except.ok.inj hr).symm

/-- Any order in which the branches and the tags are discovered gives the same
    result, the exception class included. -/
theorem C09_perm (h : CfgOK cfg) (hinc : ∀ a b, inc a b = true) (hnd : bs.Nodup) (hdst : dst ∈ bs)
    {bs' : List Branch} {tags' : List Tag} (hb : bs.Perm bs') (ht : tags.Perm tags') :
    build cfg inc bs tags dst = build cfg inc bs' tags' dst := by
  rw [C09 h hinc hnd hdst, C09 h hinc (hb.nodup_iff.mp hnd) (hb.mem_iff.mp hdst)]
  exact result_congr hb ht dst

/-- This is what C01 imports. When the cascade is accepted the pull request
    is merged into the destination first; a hotfix destination is alone; otherwise the remaining targets are
    exactly the development branches of the repository, other than the destination, whose line is ≥ the
    destination's line — never another stabilization or hotfix branch — in strictly increasing line order
    (`development/x.y` by `(x, y)`, `development/x` after every `development/x.*`: that is `Spec.keyLt`). -/
theorem C09_dst_shape (h : CfgOK cfg) (hinc : ∀ a b, inc a b = true) (hnd : bs.Nodup) (hdst : dst ∈ bs)
    {r : Result} (hr : build cfg inc bs tags dst = .ok r) :
    ∃ rest, r.dst = dst :: rest ∧
      (dst.isHotfix = true → rest = []) ∧
      (dst.isHotfix = false →
        ∀ b, b ∈ rest ↔ b ∈ bs ∧ b.isDev = true ∧ b ≠ dst ∧ Spec.keyLe dst.key b.key) ∧
      rest.Pairwise (fun a b => Spec.keyLt a.key b.key) := by
  rw [ok_result h hinc hnd hdst hr]
  cases dst with
  | hotfix M m u => exact ⟨[], rfl, fun _ => rfl, (by intro h; cases h), List.Pairwise.nil⟩
  | stab M m u =>
    refine ⟨Spec.devsFrom bs (.stab M m u), rfl, (by intro h; cases h), fun _ b => ?_, devsFrom_strict hnd _⟩
    rw [mem_devsFrom]
    constructor
    · rintro ⟨h1, h2, h3⟩
      exact ⟨h1, h2, (by intro e; subst e; cases h2), h3⟩
    · rintro ⟨h1, h2, _, h3⟩
      exact ⟨h1, h2, h3⟩
  | dev M m =>
    obtain ⟨rest, hl⟩ := devsFrom_dev_cons hnd hdst
    have hstrict := devsFrom_strict hnd (.dev M m) (bs := bs)
    rw [hl, List.pairwise_cons] at hstrict
    refine ⟨rest, hl, (by intro h; cases h), fun _ b => ?_, hstrict.2⟩
    have hmem := mem_devsFrom (bs := bs) (dst := .dev M m) b
    rw [hl, List.mem_cons] at hmem
    constructor
    · intro hb
      obtain ⟨h1, h2, h3⟩ := hmem.mp (Or.inr hb)
      exact ⟨h1, h2, by rintro rfl; exact keyLt_irrefl _ (hstrict.1 _ hb), h3⟩
    · rintro ⟨h1, h2, h3, h4⟩
      exact (hmem.mpr ⟨h1, h2, h4⟩).resolve_left h3

/-- The development branches after the destination come in strictly increasing
    line order: `key (rest[i]) < key (rest[j])` for `i < j`; and `development/x` sorts after `development/x.y`. -/
theorem C09_dst_increasing (h : CfgOK cfg) (hinc : ∀ a b, inc a b = true) (hnd : bs.Nodup) (hdst : dst ∈ bs)
    {r : Result} (hr : build cfg inc bs tags dst = .ok r) :
    (∀ (i j : Nat) (hi : i < j) (hj : j + 1 < r.dst.length),
      Spec.keyLt (r.dst[i + 1]'(by omega)).key (r.dst[j + 1]'hj).key) ∧
    (∀ (x y : Nat), Spec.keyLt (x, some y) (x, none)) := by
  obtain ⟨rest, hrest, _, _, hpw⟩ := C09_dst_shape h hinc hnd hdst hr
  refine ⟨?_, fun x y => Or.inr ⟨rfl, trivial⟩⟩
  intro i j hi hj
  have hlen : r.dst.length = rest.length + 1 := by rw [hrest]; rfl
  have := List.pairwise_iff_getElem.mp hpw i j (by omega) (by omega) hi
  simpa [hrest] using this

/-- When the cascade is accepted, the ignored branches are exactly the names of
    the development and stabilization branches that are not targeted (hotfix branches are never listed). -/
theorem C09_ignored (h : CfgOK cfg) (hinc : ∀ a b, inc a b = true) (hnd : bs.Nodup) (hdst : dst ∈ bs)
    {r : Result} (hr : build cfg inc bs tags dst = .ok r) (n : String) :
    n ∈ r.ignored ↔ ∃ b ∈ bs, b.isHotfix = false ∧ b ∉ r.dst ∧ n = b.name := by
  rw [ok_result h hinc hnd hdst hr]
  simp only [Spec.ignored, sortNames]
  rw [(List.mergeSort_perm _ _).mem_iff]
  simp only [List.mem_map, List.mem_filter, Bool.and_eq_true, Bool.not_eq_true', List.contains_eq_mem,
    decide_eq_false_iff_not]
  constructor
  · rintro ⟨b, ⟨h1, h2, h3⟩, rfl⟩; exact ⟨b, h1, h2, h3, rfl⟩
  · rintro ⟨b, h1, h2, h3, rfl⟩; exact ⟨b, ⟨h1, h2, h3⟩, rfl⟩

/-- Two stabilization branches for one line, a stabilization
    branch without its development branch, or a stabilization branch whose release tag (or a later tag of its
    line) exists: the cascade is rejected, whatever the destination. -/
theorem C09_rejects (h : CfgOK cfg) (hinc : ∀ a b, inc a b = true) (hnd : bs.Nodup) (hdst : dst ∈ bs)
    (hill : (∃ M m u u', u ≠ u' ∧ Branch.stab M m u ∈ bs ∧ Branch.stab M m u' ∈ bs) ∨
            (∃ M m u, Branch.stab M m u ∈ bs ∧ Branch.dev M (some m) ∉ bs) ∨
            (∃ M m u, Branch.stab M m u ∈ bs ∧ ∃ t ∈ tags, t.major = M ∧ t.minor = m ∧ u ≤ t.micro)) :
    ∃ e, build cfg inc bs tags dst = .error e := by
  rw [C09 h hinc hnd hdst]
  unfold Spec.result
  have hne : Spec.error bs tags dst ≠ none := by
    unfold Spec.error
    rcases hill with ⟨M, m, u, u', hne, h1, h2⟩ | ⟨M, m, u, h1, h2⟩ | ⟨M, m, u, h1, t, ht, hM, hm, hu⟩
    · rw [multipleStab_of hne h1 h2]; simp
    · have : bs.any (Spec.orphan bs) = true :=
        List.any_eq_true.mpr ⟨_, h1, by simp [Spec.orphan, h2]⟩
      have hoe : ∃ e, Spec.orphanErr bs dst = some e := by
        unfold Spec.orphanErr
        rw [this]
        simp only [if_true]
        split <;> exact ⟨_, rfl⟩
      obtain ⟨e, hoe⟩ := hoe
      rw [hoe]
      cases Spec.multipleStab bs <;> cases Spec.deprecated bs tags dst <;> simp
    · have : Spec.deprecated bs tags dst = true := by
        unfold Spec.deprecated
        exact List.any_eq_true.mpr ⟨t, ht, List.any_eq_true.mpr ⟨_, h1, by simp [hM, hm, hu]⟩⟩
      cases Spec.multipleStab bs <;> simp [this]
  cases he : Spec.error bs tags dst with
  | none => exact absurd he hne
  | some e => exact ⟨e, rfl⟩

end

/-- On the current source. -/
theorem C09_gen {inc : Branch → Branch → Bool} {bs : List Branch} {tags : List Tag} {dst : Branch}
    (hinc : ∀ a b, inc a b = true) (hnd : bs.Nodup) (hdst : dst ∈ bs) :
    build BertE.Drv.C09.genCfg inc bs tags dst = Spec.result bs tags dst := C09 C09_table hinc hnd hdst

/-- the upstream test `test_branch_cascade_target_first_stab`, plus `development/5` -/
def exBs : List Branch :=
  [.stab 4 3 18, .dev 4 (some 3), .dev 5 (some 1), .stab 5 1 4, .dev 10 (some 0), .dev 5 none, .hotfix 4 3 16]
def exTags : List Tag := [⟨4, 3, 16, none⟩, ⟨4, 3, 17, none⟩, ⟨5, 1, 3, none⟩, ⟨4, 3, 16, some 1⟩]

private theorem ex_accepted : exBs.Nodup ∧ Branch.stab 4 3 18 ∈ exBs ∧ CfgOK BertE.Drv.C09.genCfg ∧
    Spec.error exBs exTags (.stab 4 3 18) = none ∧ Spec.error exBs exTags (.dev 5 (some 1)) = none ∧
    Spec.error exBs exTags (.hotfix 4 3 16) = none := by decide +kernel

/-- Non-vacuity of `C09`, `C09_perm`: the hypotheses hold on a concrete repository (7 branches, 4 tags) and the
    cascade is accepted for a stabilization, a development and a hotfix destination … -/
example : exBs.Nodup ∧ Branch.stab 4 3 18 ∈ exBs ∧ CfgOK BertE.Drv.C09.genCfg ∧
    Spec.error exBs exTags (.stab 4 3 18) = none ∧ Spec.error exBs exTags (.dev 5 (some 1)) = none ∧
    Spec.error exBs exTags (.hotfix 4 3 16) = none := ex_accepted
/-- … its fix versions being computed by the declarative side (the sorted lists do not reduce in the kernel) … -/
example : Spec.hfRev exTags 4 3 16 = 2 ∧ Spec.maxMicro exTags 4 3 = 17 ∧ Spec.latestMinor exBs exTags 5 = 1 := by
  decide +kernel
example : exBs.reverse.Perm exBs := List.reverse_perm _
/-- … `C09_dst_shape` / `C09_dst_increasing` / `C09_ignored`: an accepted result exists … -/
example : ∃ r, build BertE.Drv.C09.genCfg (fun _ _ => true) exBs exTags (.stab 4 3 18) = .ok r := by
  rw [C09_gen (fun _ _ => rfl) ex_accepted.1 ex_accepted.2.1]
  unfold Spec.result
  rw [ex_accepted.2.2.2.1]
  exact ⟨_, rfl⟩
/-- … and `C09_rejects`: each of the three ill-formed shapes is inhabited. -/
example : Spec.error (.stab 4 3 19 :: exBs) exTags (.dev 5 none) = some .unsupportedMultipleStabBranches ∧
    Spec.error (.stab 6 0 1 :: exBs) exTags (.dev 5 none) = some .devBranchDoesNotExist ∧
    Spec.error exBs (⟨5, 1, 4, none⟩ :: exTags) (.dev 5 none) = some .deprecatedStabilizationBranch ∧
    Spec.error (.stab 4 2 1 :: exBs) exTags (.hotfix 4 3 16) = some .devBranchDoesNotExist ∧
    Spec.error (.stab 4 3 18 :: [.hotfix 4 3 16]) [] (.hotfix 4 3 16) = some .attributeError ∧
    Spec.error exBs [] (.stab 4 3 18) = some .versionMismatch := by decide +kernel

end BertE.C09
