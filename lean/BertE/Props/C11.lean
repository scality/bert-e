import BertE.Gen.Jira
import BertE.Gen.Messages
import BertE.Model.Jira
import BertE.Lemmas.Jira
import BertE.Drv.C11
import BertE.Lemmas.EvalGates
import BertE.Drv.Eval
/-
C11 — the ticket gate.

"Unless the Jira checks are bypassed (admin option, per-author setting, bypassed branch prefix) or Jira
is not configured, a pull request gets integration branches only if its source branch names a ticket
(mandatory as soon as one target does not accept ticketless pull requests), the ticket exists, belongs to
a configured project, has a configured issue type, and - unless version checks are disabled - its fix
versions equal the expected versions of C09 (suffixed versions ignored; for a hotfix target the hotfix
version must be listed). Each failure produces its own message and leaves the repository untouched."

`Spec.admits` states this in the words of the property, over declarative descriptions of the strings
(`NamesTicket`, `Plain`, `HotfixForm` of Lemmas/Jira.lean); `C11` is the exact decision table of the
model `jiraChecks` (tied to the real `jira_checks` by harness/c11.py); `C11_pass_iff` relates the two for
lists of versions, keys, prefixes and targets of any length.
What the code really does, and the statements follow it:
  * the project compared with `jira_keys` is the one of the *branch name* (upper-cased); the project
    recorded inside the issue is never read;
  * an empty `prefixes` setting accepts every issue type;
  * a source branch without a ticket passes when every destination class allows ticketless pull
    requests — no class of the current source does (`Gen.Jira.ticketless`), the flags are an input here;
  * a Jira error other than 404 propagates (`crash "JIRAError"`): nothing is admitted, no message.
-/
namespace BertE.C11
open BertE.Jira

namespace Spec

/-- admin option (comment or command line), per-author setting, bypassed branch prefix -/
def bypassed (c : Cfg) (i : Input) : Prop :=
  c.bypassSetting = true ∨ c.bypassAuthor = true ∨ i.pfx ∈ c.bypassPrefixes

def configured (c : Cfg) : Prop := c.jiraKeys ≠ [] ∧ c.jiraEmail ≠ "" ∧ c.jiraAccountUrl ≠ ""

/-- The fix versions equal the expected versions, suffixed versions ignored (only x.y.z and x.y.z.0 count);
    when the expected versions are a single hotfix version x.y.z.n, that version must be listed. -/
def VersionsMatch (fixVersions targets : List String) : Prop :=
  (∃ h, SingleHotfixTarget targets h ∧ h ∈ fixVersions) ∨
  ((¬ ∃ h, SingleHotfixTarget targets h) ∧ ∀ v, (v ∈ fixVersions ∧ Plain v.toList) ↔ v ∈ targets)

/-- the source branch names ticket `t`, the ticket exists (`iss`) and meets the configured conditions -/
def TicketOK (c : Cfg) (i : Input) (t : Ticket) (iss : Issue) : Prop :=
  NamesTicket i.label.toList t ∧ i.lookup = .found iss ∧ t.project ∈ c.jiraKeys ∧
  (c.prefixes = [] ∨ iss.type ∈ c.prefixes) ∧
  (c.disableVersionChecks = true ∨ VersionsMatch iss.fixVersions i.targets)

/-- the pull request may go on to integration branches -/
def admits (c : Cfg) (i : Input) : Prop :=
  bypassed c i ∨ ¬ configured c ∨
  ((¬ ∃ t, NamesTicket i.label.toList t) ∧ ∀ f ∈ i.ticketless, f = true) ∨
  (∃ t iss, TicketOK c i t iss)

end Spec

/-- `ticketOf` (the `jira_issue_key` / `jira_project` groups of the FeatureBranch pattern, upper-cased) finds ticket `t`
    exactly when the label starts with `<word characters>-<digits>`, the digits taken maximal. -/
theorem C11_ticket_iff (label : List Char) (t : Ticket) : ticketOf label = some t ↔ NamesTicket label t :=
  ticketOf_some_iff

/-- `vfilter` keeps exactly x.y.z and x.y.z.0 -/
theorem C11_plain_iff (v : String) : isPlainVersion v = true ↔ Plain v.toList := isPlainVersion_iff v

/-- `hf_filter` accepts exactly x.y.z.n -/
theorem C11_hotfix_iff (v : String) : isHotfixVersion v = true ↔ HotfixForm v.toList := isHotfixVersion_iff v

/-- The exact decision of the gate, in the order of the code. -/
theorem C11 (c : Cfg) (i : Input) :
    jiraChecks c i =
      if c.bypassSetting = true ∨ c.bypassAuthor = true then .pass
      else if i.pfx ∈ c.bypassPrefixes then .pass
      else if c.jiraKeys = [] ∨ c.jiraEmail = "" ∨ c.jiraAccountUrl = "" then .pass
      else match ticketOf i.label.toList with
        | none => if ∀ f ∈ i.ticketless, f = true then .pass else .raise "MissingJiraId"
        | some t =>
          match i.lookup with
          | .error => .crash "JIRAError"
          | .notFound => .raise "JiraIssueNotFound"
          | .found iss =>
            if t.project ∉ c.jiraKeys then .raise "IncorrectJiraProject"
            else if c.prefixes ≠ [] ∧ iss.type ∉ c.prefixes then .raise "IssueTypeNotSupported"
            else if c.disableVersionChecks = true ∨ fixVersionsOK iss.fixVersions i.targets = true then .pass
            else .raise "IncorrectFixVersion" := by
  have hconf : (!configured c) = true ↔ c.jiraKeys = [] ∨ c.jiraEmail = "" ∨ c.jiraAccountUrl = "" := by
    simp [configured, or_assoc]
  have hless : i.ticketless.all id = true ↔ ∀ f ∈ i.ticketless, f = true := by simp
  unfold jiraChecks
  simp only [bypassJiraCheck, Bool.or_eq_true, List.contains_iff_mem, hconf]
  -- the three early returns read the same on both sides
  refine ite_congr rfl (fun _ => rfl) fun _ => ite_congr rfl (fun _ => rfl) fun _ =>
    ite_congr rfl (fun _ => rfl) fun _ => ?_
  unfold checkIssueReference
  cases ticketOf i.label.toList with
  | none =>
    dsimp only
    simp only [hless]
    by_cases hf : ∀ f ∈ i.ticketless, f = true
    · rw [if_pos hf, if_pos hf]
    · rw [if_neg hf, if_neg hf]
  | some t =>
    unfold getJiraIssue
    cases i.lookup with
    | error => rfl
    | notFound => rfl
    | found iss =>
      unfold checkProject checkIssueType checkFixVersions
      by_cases hp : t.project ∈ c.jiraKeys
      · by_cases he : c.prefixes = []
        · cases c.disableVersionChecks <;> cases hv : fixVersionsOK iss.fixVersions i.targets <;> simp [hp, he, hv]
        · by_cases hty : iss.type ∈ c.prefixes
          · cases c.disableVersionChecks <;> cases hv : fixVersionsOK iss.fixVersions i.targets <;> simp [hp, he, hty, hv]
          · simp [hp, he, hty]
      · simp [hp]

/-- the comparison of `check_fix_versions` is the declarative one -/
theorem C11_versions (fixVersions targets : List String) :
    fixVersionsOK fixVersions targets = true ↔ Spec.VersionsMatch fixVersions targets := by
  unfold fixVersionsOK Spec.VersionsMatch
  cases ht : hfTarget targets with
  | some h =>
    have hs := hfTarget_some_iff.mp ht
    simp only [List.contains_iff_mem]
    exact ⟨fun hm => Or.inl ⟨h, hs, hm⟩,
      fun hv => hv.elim (fun ⟨_, hs', hm⟩ => singleHotfixTarget_unique hs' hs ▸ hm) fun hv => absurd ⟨h, hs⟩ hv.1⟩
  | none =>
    have hn := hfTarget_none_iff.mp ht
    simp only [sameSet_iff, List.mem_filter, isPlainVersion_iff]
    exact ⟨fun h => Or.inr ⟨hn, h⟩, fun hv => hv.elim (fun ⟨h, hs, _⟩ => absurd ⟨h, hs⟩ hn) And.right⟩

/-- The gate lets the pull request through exactly when the property admits it. -/
theorem C11_pass_iff (c : Cfg) (i : Input) : jiraChecks c i = .pass ↔ Spec.admits c i := by
  rw [C11]
  unfold Spec.admits Spec.bypassed Spec.configured
  -- the three early returns are the first two clauses of `admits`
  by_cases h1 : c.bypassSetting = true ∨ c.bypassAuthor = true
  · exact iff_of_true (if_pos h1) (Or.inl (h1.elim Or.inl fun h => Or.inr (Or.inl h)))
  rw [if_neg h1]
  by_cases h2 : i.pfx ∈ c.bypassPrefixes
  · exact iff_of_true (if_pos h2) (Or.inl (Or.inr (Or.inr h2)))
  rw [if_neg h2]
  by_cases h3 : c.jiraKeys = [] ∨ c.jiraEmail = "" ∨ c.jiraAccountUrl = ""
  · exact iff_of_true (if_pos h3) (Or.inr (Or.inl fun ⟨a, b, d⟩ => h3.elim a fun h => h.elim b d))
  rw [if_neg h3]
  have hb : ¬ (c.bypassSetting = true ∨ c.bypassAuthor = true ∨ i.pfx ∈ c.bypassPrefixes) :=
    fun h => h.elim (fun h => h1 (Or.inl h)) fun h => h.elim (fun h => h1 (Or.inr h)) h2
  have hc : c.jiraKeys ≠ [] ∧ c.jiraEmail ≠ "" ∧ c.jiraAccountUrl ≠ "" :=
    ⟨fun h => h3 (Or.inl h), fun h => h3 (Or.inr (Or.inl h)), fun h => h3 (Or.inr (Or.inr h))⟩
  simp only [ne_eq, hb, hc, not_false_eq_true, and_self, not_true_eq_false, false_or]
  -- the gate proper: no ticket and ticketless allowed, or the one ticket the label names is fine
  cases ht : ticketOf i.label.toList with
  | none =>
    have hnt := ticketOf_none_iff.mp ht
    have : ¬ ∃ t iss, Spec.TicketOK c i t iss := fun ⟨t, _, h⟩ => hnt ⟨t, h.1⟩
    simp [hnt, this]
  | some t =>
    have hnt := ticketOf_some_iff.mp ht
    have : (∃ t' iss, Spec.TicketOK c i t' iss) ↔ ∃ iss, Spec.TicketOK c i t iss :=
      ⟨fun ⟨_, iss, h⟩ => ⟨iss, namesTicket_unique h.1 hnt ▸ h⟩, fun ⟨iss, h⟩ => ⟨t, iss, h⟩⟩
    rw [this]
    unfold Spec.TicketOK
    cases i.lookup <;>
      simp [ite_eq_iff, hnt, show ∃ t, NamesTicket i.label.toList t from ⟨t, hnt⟩, ← C11_versions,
        Classical.or_iff_not_imp_left]

/-- the gate is in force: not bypassed, Jira configured -/
def Gated (c : Cfg) (i : Input) : Prop := ¬ Spec.bypassed c i ∧ Spec.configured c

private theorem gated_eq {c : Cfg} {i : Input} (hg : Gated c i) :
    jiraChecks c i =
      match ticketOf i.label.toList with
        | none => if ∀ f ∈ i.ticketless, f = true then .pass else .raise "MissingJiraId"
        | some t =>
          match i.lookup with
          | .error => .crash "JIRAError"
          | .notFound => .raise "JiraIssueNotFound"
          | .found iss =>
            if t.project ∉ c.jiraKeys then .raise "IncorrectJiraProject"
            else if c.prefixes ≠ [] ∧ iss.type ∉ c.prefixes then .raise "IssueTypeNotSupported"
            else if c.disableVersionChecks = true ∨ fixVersionsOK iss.fixVersions i.targets = true then .pass
            else .raise "IncorrectFixVersion" := by
  obtain ⟨hb, hk, he, hu⟩ := hg
  rw [C11, if_neg fun h => hb (h.elim Or.inl fun h => Or.inr (Or.inl h)), if_neg fun h => hb (Or.inr (Or.inr h)),
    if_neg fun h => h.elim hk fun h => h.elim he hu]

/-- `MissingJiraId` exactly when the branch names no ticket and some target does not accept ticketless
    pull requests. -/
theorem C11_missing_id_iff {c : Cfg} {i : Input} (hg : Gated c i) :
    jiraChecks c i = .raise "MissingJiraId" ↔
      (¬ ∃ t, NamesTicket i.label.toList t) ∧ ∃ f ∈ i.ticketless, f = false := by
  rw [gated_eq hg]
  cases ht : ticketOf i.label.toList with
  | none => simp [ticketOf_none_iff.mp ht]
  | some t =>
    have hnt : ∃ t, NamesTicket i.label.toList t := ⟨t, ticketOf_some_iff.mp ht⟩
    cases i.lookup <;> simp [ite_eq_iff, hnt]

/-- `JiraIssueNotFound` exactly when the branch names a ticket that does not exist. -/
theorem C11_not_found_iff {c : Cfg} {i : Input} (hg : Gated c i) :
    jiraChecks c i = .raise "JiraIssueNotFound" ↔
      (∃ t, NamesTicket i.label.toList t) ∧ i.lookup = .notFound := by
  rw [gated_eq hg]
  cases ht : ticketOf i.label.toList with
  | none => simp [ite_eq_iff, ticketOf_none_iff.mp ht]
  | some t =>
    have hnt : ∃ t, NamesTicket i.label.toList t := ⟨t, ticketOf_some_iff.mp ht⟩
    cases i.lookup <;> simp [ite_eq_iff, hnt]

/-- `IncorrectJiraProject` exactly when the ticket exists and the project named by the branch is not configured. -/
theorem C11_project_iff {c : Cfg} {i : Input} (hg : Gated c i) {t : Ticket} {iss : Issue}
    (hn : NamesTicket i.label.toList t) (hl : i.lookup = .found iss) :
    jiraChecks c i = .raise "IncorrectJiraProject" ↔ t.project ∉ c.jiraKeys := by
  rw [gated_eq hg, ticketOf_some_iff.mpr hn, hl]
  simp [ite_eq_iff]

/-- `IssueTypeNotSupported` exactly when the project is fine and the issue type is not a configured one. -/
theorem C11_issue_type_iff {c : Cfg} {i : Input} (hg : Gated c i) {t : Ticket} {iss : Issue}
    (hn : NamesTicket i.label.toList t) (hl : i.lookup = .found iss) :
    jiraChecks c i = .raise "IssueTypeNotSupported" ↔
      t.project ∈ c.jiraKeys ∧ c.prefixes ≠ [] ∧ iss.type ∉ c.prefixes := by
  rw [gated_eq hg, ticketOf_some_iff.mpr hn, hl]
  simp [ite_eq_iff]

/-- `IncorrectFixVersion` exactly when project and type are fine, version checks are on and the fix versions
    do not match the expected versions. -/
theorem C11_fix_version_iff {c : Cfg} {i : Input} (hg : Gated c i) {t : Ticket} {iss : Issue}
    (hn : NamesTicket i.label.toList t) (hl : i.lookup = .found iss) :
    jiraChecks c i = .raise "IncorrectFixVersion" ↔
      t.project ∈ c.jiraKeys ∧ (c.prefixes = [] ∨ iss.type ∈ c.prefixes) ∧
      c.disableVersionChecks = false ∧ ¬ Spec.VersionsMatch iss.fixVersions i.targets := by
  rw [gated_eq hg, ticketOf_some_iff.mpr hn, hl, ← C11_versions]
  simp [ite_eq_iff, Classical.or_iff_not_imp_left]

def failureClasses : List String :=
  ["MissingJiraId", "JiraIssueNotFound", "IncorrectJiraProject", "IssueTypeNotSupported", "IncorrectFixVersion"]

private def Expected (i : Input) (o : Outcome) : Prop :=
  o = .pass ∨ (∃ cls ∈ failureClasses, o = .raise cls) ∨ (o = .crash "JIRAError" ∧ i.lookup = .error)

/-- The gate only ever raises one of the five failure classes; the only crash is a Jira server error. -/
theorem C11_outcomes (c : Cfg) (i : Input) :
    jiraChecks c i = .pass ∨ (∃ cls ∈ failureClasses, jiraChecks c i = .raise cls) ∨
      (jiraChecks c i = .crash "JIRAError" ∧ i.lookup = .error) := by
  show Expected i (jiraChecks c i)
  have pass : Expected i .pass := Or.inl rfl
  have raise : ∀ {cls}, cls ∈ failureClasses → Expected i (.raise cls) := fun h => Or.inr (Or.inl ⟨_, h, rfl⟩)
  -- every leaf of the decision table is one of these
  rw [C11]
  refine ite_of pass (ite_of pass (ite_of pass ?_))
  cases ticketOf i.label.toList with
  | none => exact ite_of pass (raise (by simp [failureClasses]))
  | some t =>
    cases hl : i.lookup with
    | error => exact Or.inr (Or.inr ⟨rfl, hl⟩)
    | notFound => exact raise (by simp [failureClasses])
    | found iss =>
      exact ite_of (raise (by simp [failureClasses])) (ite_of (raise (by simp [failureClasses]))
        (ite_of pass (raise (by simp [failureClasses]))))

def kindOf (msgs : List BertE.Gen.Messages.Msg) (cls : String) : Option String :=
  (msgs.find? (·.name == cls)).map (·.kind)

def codeOf (msgs : List BertE.Gen.Messages.Msg) (cls : String) : Option Int :=
  (msgs.find? (·.name == cls)).map (·.code)

def templateOf (raised : List (String × Int × String)) (cls : String) : Option String :=
  (raised.find? (·.1 == cls)).map (·.2.2)

/-- What "each failure produces its own message" needs of the source's data: the five classes are messages
    posted to the pull request (template exceptions), with pairwise distinct codes and pairwise distinct,
    non-empty template files; each is a class raised in gitwaterflow/jira.py. -/
def MsgsOK (raised : List (String × Int × String)) (msgs : List BertE.Gen.Messages.Msg) : Prop :=
  (∀ cls ∈ failureClasses, kindOf msgs cls = some "template") ∧
  (∀ cls ∈ failureClasses, (templateOf raised cls).isSome = true ∧ templateOf raised cls ≠ some "") ∧
  (failureClasses.map (codeOf msgs)).Nodup ∧
  (failureClasses.map (templateOf raised)).Nodup

instance (raised msgs) : Decidable (MsgsOK raised msgs) := by unfold MsgsOK; exact inferInstance

/-- Table obligation: the five failures are five different posted messages in the current source. -/
theorem C11_messages_distinct : MsgsOK BertE.Gen.Jira.raised BertE.Gen.Messages.messages := by decide +kernel

/-- every failure reported by the gate is a message posted to the pull request -/
theorem C11_failure_is_posted {raised msgs} (h : MsgsOK raised msgs) (c : Cfg) (i : Input) (cls : String)
    (hr : jiraChecks c i = .raise cls) : kindOf msgs cls = some "template" := by
  rcases C11_outcomes c i with hp | ⟨cls', hm, hc⟩ | ⟨hc, _⟩
  · rw [hp] at hr; cases hr
  · rw [hc] at hr
    cases hr
    exact h.1 _ hm
  · rw [hc] at hr; cases hr

/-- Table obligation: the two regular expressions of `check_fix_versions` and the ticket pattern of
    `FeatureBranch` are the ones `isPlainVersion`, `isHotfixVersion` and `ticketOf` re-implement. -/
theorem C11_patterns :
    BertE.Gen.Jira.vfilter = "^\\d+\\.\\d+\\.\\d+(\\.0|)$" ∧
    BertE.Gen.Jira.hfFilter = "^\\d+\\.\\d+\\.\\d+\\.\\d+$" ∧
    BertE.Gen.Jira.issuePattern = "(?P<jira_project>[a-zA-Z0-9_]+)-[0-9]+" := by decide +kernel

/-- position of a statement of `jira_checks` -/
def stepIdx (steps : List String) (s : String) : Option Nat := steps.findIdx? (· == s)

/-- `a` and `b` are statements of `jira_checks` and `a` comes first -/
def Before (steps : List String) (a b : String) : Prop :=
  ∃ x ∈ (stepIdx steps a).toList, ∃ y ∈ (stepIdx steps b).toList, x < y

instance (steps a b) : Decidable (Before steps a b) := by unfold Before; exact inferInstance

/-- Table obligation: the statements of `jira_checks` come in the order that `jiraChecks` (and the decision
    table `C11`) follow: the three early returns, the issue reference, the lookup, project, type, versions. -/
theorem C11_steps :
    let st := BertE.Gen.Jira.steps
    Before st "return-if bypass_jira_check(job)" "return-if job.git.src_branch.prefix in job.settings.bypass_prefixes" ∧
    Before st "return-if job.git.src_branch.prefix in job.settings.bypass_prefixes"
      "return-if not all([job.settings.jira_keys, job.settings.jira_email, job.settings.jira_account_url])" ∧
    Before st "return-if not all([job.settings.jira_keys, job.settings.jira_email, job.settings.jira_account_url])"
      "return-if not check_issue_reference(job)" ∧
    Before st "return-if not check_issue_reference(job)" "issue = get_jira_issue" ∧
    Before st "issue = get_jira_issue" "check_project" ∧
    Before st "check_project" "check_issue_type" ∧
    Before st "check_issue_type" "if not job.settings.disable_version_checks: check_fix_versions" := by decide +kernel

/-- calls of `_handle_pull_request` that create, update, push or merge branches (or enter the queue code) -/
def isMutator (cl : BertE.Gen.Jira.Call) : Bool :=
  cl.root == "queueing" || cl.root == "queues" ||
  ["check_integration_branches", "create_integration_branches", "update_integration_branches", "push",
   "create_integration_pull_requests", "merge_integration_branches"].contains cl.name

/-- What the "repository untouched" clause needs of `_handle_pull_request`: `jira_checks(...)` is a statement
    of its own at the top level of the body (not under an `if`/`try`), and every branch-writing call belongs
    to a later top-level statement (the body has no loop around them, so later in the text is later in time);
    `create_integration_branches` is one of them (the obligation is not vacuous). -/
def OrderOK (calls : List BertE.Gen.Jira.Call) : Prop :=
  (∃ j ∈ calls, j.name = "jira_checks" ∧ j.bare = true ∧ ∀ m ∈ calls, isMutator m = true → j.stmt < m.stmt) ∧
  (∃ m ∈ calls, m.name = "create_integration_branches")

instance (calls) : Decidable (OrderOK calls) := by unfold OrderOK; exact inferInstance

/-- Table obligation (C11_no_effect, in the form available without the system model): in the current source the
    gate is evaluated before `check_integration_branches`, `create_integration_branches`, every `push`, every
    `queueing.` call and `merge_integration_branches` — a failure of the gate leaves before any integration
    branch exists. That nothing is pushed before that point is validated by the system-level checks (C01, C12). -/
theorem C11_no_effect : OrderOK BertE.Gen.Jira.handlePrCalls := by decide +kernel

def cfg0 : Cfg := ⟨false, false, ["dependabot"], ["PROJ"], "a@b", "http://jira", ["Bug", "Story"], false⟩
def in0 (label : String) (targets fixVersions : List String) (ty : String) : Input :=
  ⟨"bugfix", label, [false, false], targets, .found ⟨"ELSE", ty, fixVersions⟩⟩

/-- the hypotheses of the `..._iff` theorems hold on these inputs -/
example : Gated cfg0 (in0 "proj-12-fix" ["4.3.18", "5.1.4"] ["5.1.4"] "Bug") := by
  unfold Gated Spec.bypassed Spec.configured; decide
example : NamesTicket "proj-12-fix".toList ⟨"PROJ-12", "PROJ"⟩ := ticketOf_some_iff.mp (by decide +kernel)
example : ¬ ∃ t, NamesTicket "fix-PROJ-12".toList t := ticketOf_none_iff.mp (by decide +kernel)

example : Plain "5.1.4.0".toList := (C11_plain_iff _).mp (by decide +kernel)
example : ¬ Plain "5.1.4_rc1".toList := fun h => by have := (C11_plain_iff _).mpr h; revert this; decide
example : HotfixForm "4.2.17.3".toList := (C11_hotfix_iff _).mp (by decide +kernel)

/-- C11 / C11_pass_iff: admitted (lower-case key, suffixed version ignored, versions in another order) -/
example : jiraChecks cfg0 (in0 "proj-12-fix" ["4.3.18", "5.1.4"] ["5.1.4", "4.3.18", "4.3.18_rc1"] "Bug") = .pass := by
  decide +kernel
example : Spec.admits cfg0 (in0 "proj-12-fix" ["4.3.18", "5.1.4"] ["5.1.4", "4.3.18", "4.3.18_rc1"] "Bug") :=
  (C11_pass_iff _ _).mp (by decide +kernel)
/-- one version missing; one too many; `x.y.z.0` is not ignored -/
example : jiraChecks cfg0 (in0 "PROJ-12" ["4.3.18", "5.1.4"] ["5.1.4"] "Bug") = .raise "IncorrectFixVersion" := by decide +kernel
example : jiraChecks cfg0 (in0 "PROJ-12" ["5.1.4"] ["5.1.4", "10.0.0"] "Bug") = .raise "IncorrectFixVersion" := by decide +kernel
example : jiraChecks cfg0 (in0 "PROJ-12" ["5.1.4"] ["5.1.4", "5.1.4.0"] "Bug") = .raise "IncorrectFixVersion" := by decide +kernel
example : ¬ Spec.VersionsMatch ["5.1.4", "5.1.4.0"] ["5.1.4"] := fun h => by
  have := (C11_versions _ _).mpr h
  revert this; decide
/-- hotfix target: the hotfix version must be listed (other versions do not matter) -/
example : jiraChecks cfg0 (in0 "PROJ-12" ["4.2.17.3"] ["5.1.4", "4.2.17.3"] "Bug") = .pass := by decide +kernel
example : jiraChecks cfg0 (in0 "PROJ-12" ["4.2.17.3"] ["4.2.17"] "Bug") = .raise "IncorrectFixVersion" := by decide +kernel
example : Spec.VersionsMatch ["5.1.4", "4.2.17.3"] ["4.2.17.3"] := (C11_versions _ _).mp (by decide +kernel)
/-- the other failures, each with its own class; the project of the issue ("ELSE") is not looked at -/
example : jiraChecks cfg0 (in0 "fix-something" ["5.1.4"] ["5.1.4"] "Bug") = .raise "MissingJiraId" := by decide +kernel
example : jiraChecks cfg0 { in0 "PROJ-12" ["5.1.4"] [] "Bug" with lookup := .notFound } = .raise "JiraIssueNotFound" := by
  decide +kernel
example : jiraChecks cfg0 (in0 "OTHER-12" ["5.1.4"] ["5.1.4"] "Bug") = .raise "IncorrectJiraProject" := by decide +kernel
example : jiraChecks cfg0 (in0 "PROJ-12" ["5.1.4"] ["5.1.4"] "Epic") = .raise "IssueTypeNotSupported" := by decide +kernel
/-- order of the checks: project before type before versions -/
example : jiraChecks cfg0 (in0 "OTHER-12" ["5.1.4"] [] "Epic") = .raise "IncorrectJiraProject" := by decide +kernel
example : jiraChecks cfg0 (in0 "PROJ-12" ["5.1.4"] [] "Epic") = .raise "IssueTypeNotSupported" := by decide +kernel
example : jiraChecks { cfg0 with bypassAuthor := true } (in0 "fix-something" ["5.1.4"] [] "Epic") = .pass := by decide +kernel
example : jiraChecks cfg0 { in0 "fix-something" ["5.1.4"] [] "Epic" with pfx := "dependabot" } = .pass := by decide +kernel
example : jiraChecks { cfg0 with jiraEmail := "" } (in0 "fix-something" ["5.1.4"] [] "Epic") = .pass := by decide +kernel
/-- C11_failure_is_posted on the generated tables -/
example : kindOf BertE.Gen.Messages.messages "IncorrectFixVersion" = some "template" :=
  C11_failure_is_posted C11_messages_distinct cfg0 (in0 "PROJ-12" ["5.1.4"] [] "Bug") _ (by decide +kernel)

end BertE.C11


/-! ### End to end: the ticket gate inside the composed evaluation (`Model/Eval.lean`)

The gate's inputs are read off the state of the host and of the repository: prefix and ticket from the NAME of the
source branch of the pull request, the issue from the host's Jira table under that ticket's key, the per-class
`allow_ticketless_pr` flags of the targets of the cascade, the bypass from the options computed from the comments of
the pull request and the per-author settings of its author (`Eval.jiraCfg`, `Eval.jiraInput`). -/
namespace BertE.C11
open BertE.Jira BertE.Eval BertE.Flow BertE.Reactor

/-- If the plan of the evaluation of a pull request (not DECLINED) holds ANY remote operation
    — integration branches are pushed, a queue entry is made, a branch moves — the ticket gate admitted the pull
    request (bypassed, Jira not configured, ticketless allowed, or the ticket fits). -/
theorem C11_e2e_ops {c : Eval.Cfg} {h : Host} {s : Sys} {id : Nat} {orc : List Bool} {sel : List Nat}
    (hd : (evalPr c h s id orc sel).declined = false) (hops : (evalPr c h s id orc sel).plan.ops ≠ []) :
    ∃ p st src dst, AtClone c h s id p st src dst ∧
      Spec.admits (jiraCfg c (envFor c p) st) (jiraInput c h p src (s.targets dst)) := by
  obtain ⟨p, st, src, dst, sc, dc, hat, _, _, _, hpj⟩ := evalPr_late hd (evalPr_ops_late hd hops)
  exact ⟨p, st, src, dst, hat, (C11_pass_iff _ _).mp hpj.jira⟩

/-- The refusals: when the gate does not admit the pull request found at the clone, the
    evaluation ends at the early stage and its plan is EMPTY: the repository is left untouched — whichever of the
    five failures (or the Jira error) it is. -/
theorem C11_e2e_refused {c : Eval.Cfg} {h : Host} {s : Sys} {id : Nat} {orc : List Bool} {sel : List Nat}
    {p : Eval.Pr} {st : State} {src : BertE.Names.Parsed} {dst : Dest}
    (hat : AtClone c h s id p st src dst) (hd : (evalPr c h s id orc sel).declined = false)
    (hna : ¬ Spec.admits (jiraCfg c (envFor c p) st) (jiraInput c h p src (s.targets dst))) :
    (evalPr c h s id orc sel).stage = .early ∧ (evalPr c h s id orc sel).plan.ops = [] := by
  have hearly : (evalPr c h s id orc sel).stage = .early := by
    apply Classical.byContradiction
    intro hne
    obtain ⟨p', st', src', dst', sc, dc, hat', _, _, _, hpj⟩ := evalPr_late hd hne
    obtain ⟨rfl, rfl, rfl, rfl⟩ := hat.unique hat'
    exact hna ((C11_pass_iff _ _).mp hpj.jira)
  refine ⟨hearly, ?_⟩
  have := evalPr_planPr c h s id orc sel hd
  rw [hearly, evalL_planPr_early] at this
  rw [this]; rfl

/-! Non-vacuity: Jira configured, the source branch names TEST-1. Without the issue on the host the job ends as
    `JiraIssueNotFound` with an empty plan; with a fitting issue the integration branch is pushed. -/

def e2eCfg : Eval.Cfg :=
  { reg := BertE.Drv.C07.genRegistry
    env := ⟨["admin"], "", "robot", []⟩
    authorOptions := []
    early := BertE.Drv.C12.genTbl
    build := BertE.Drv.C06.genTbl
    buildKey := "pre-merge"
    approvals := { requiredPeers := 0, requiredLeaders := 0, needAuthor := false, projectLeaders := ["admin"],
                   robot := "robot", bypassAuthorS := false, bypassAuthorA := false, bypassPeerS := false,
                   bypassPeerA := false, bypassLeaderS := false, bypassLeaderA := false, approve := false,
                   unanimity := false }
    jira := ⟨false, false, [], ["TEST"], "bot@x", "http://jira", ["Story"], false⟩
    ticketless := BertE.Drv.Eval.ticketlessOf
    maxCommitDiff := 0
    createBranches := true
    createPrs := false }

def e2eSys : Sys :=
  (step (BertE.Drv.C01.initSys true false [.dev 4 (some 3), .dev 5 (some 1)]) (.extSet "feature/TEST-1" [1] false)).1

def e2eHost (issues : List (String × Lookup)) : Host :=
  ⟨[{ id := 1, author := "contrib", src := "feature/TEST-1", dst := "development/4.3", status := "OPEN",
      comments := [], approvals := [], changeRequests := [], participants := [],
      facts := { targetVersions := ["4.3.0", "5.1.0"] } }], [], issues⟩

example : (evalPr e2eCfg (e2eHost []) e2eSys 1 [] []).outcome = "JiraIssueNotFound" ∧
    (evalPr e2eCfg (e2eHost []) e2eSys 1 [] []).plan.ops = [] ∧
    (evalPr e2eCfg (e2eHost []) e2eSys 1 [] []).notified = ["InitMessage", "JiraIssueNotFound"] := by decide +kernel

example : (evalPr e2eCfg (e2eHost [("TEST-1", .found ⟨"", "Story", ["4.3.0", "5.1.0"]⟩)]) e2eSys 1 [] []).plan.ops ≠ [] ∧
    (evalPr e2eCfg (e2eHost [("TEST-1", .found ⟨"", "Story", ["4.3.0", "5.1.0"]⟩)]) e2eSys 1 [] []).declined = false ∧
    (evalPr e2eCfg (e2eHost [("TEST-1", .found ⟨"", "Story", ["4.3.0", "5.1.0"]⟩)]) e2eSys 1 [] []).outcome = "BuildNotStarted" := by
  decide +kernel

example : (evalPr e2eCfg (e2eHost [("TEST-1", .found ⟨"", "Story", ["4.3.0"]⟩)]) e2eSys 1 [] []).outcome = "IncorrectFixVersion" ∧
    (evalPr e2eCfg (e2eHost [("TEST-1", .found ⟨"", "Story", ["4.3.0"]⟩)]) e2eSys 1 [] []).plan.ops = [] := by
  decide +kernel

end BertE.C11
