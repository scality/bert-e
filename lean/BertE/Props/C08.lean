import BertE.Lemmas.C08
import BertE.Gen.GitFlags
import BertE.Drv.C01
/-
C08 — Bert-E never rewrites or deletes what it does not own.

"Every update Bert-E makes to a development, stabilization or hotfix branch is a fast-forward, and it never
 updates, rewinds or deletes any branch other than its own w/*, q/* and temporary branches - in particular
 pull-request source branches and branches that somebody creates or pushes while a job is running - except for
 the explicit delete-branch admin job, which first publishes an archive tag on the deleted tip. Consequently no
 commit that was ever on a destination branch becomes unreachable from the remote's branches and tags."

The model: every Bert-E job is the ordered list of its remote operations computed from the clone (`plan`);
`applyOp` is the remote's reaction to one operation (a non-forced `git push a b c`, `git push --all --atomic
[--prune]`, `git push :r`); `observable s p rej k` is the remote after the first `k` operations, the server
refusing the refs selected by `rej` (every crash point, every refusal). Foreign refs are `Ref.other _`
(pull-request source branches and everything that is neither `w/`, `q/`, `q/w/` nor a destination branch).

FULL statement of the schedule clause, which the code does NOT satisfy (finding D4, anticipated by the property text):
    ∀ s ev rej j k x n,  (applyOpsWith p.g rej s.remote (p.ops.take j) k x).2.get (.other n)
                          = (x.apply p.g (applyOps p.g rej s.remote ((p.ops.take j).take k))).2.get (.other n)
It is false when `x` creates a NEW branch and a pruning push follows (`C08_prune_race_witness`), and when `x` force-pushes
a branch back to an ancestor of its tip and an atomic push follows (`C08_rewind_race_witness`); everything else is
proved in `C08_foreign_sched_partial`.
-/
namespace BertE.C08
open BertE.Git BertE.Flow BertE.FlowExt

/-- the remote as it can be observed when a job is interrupted after `k` of its operations,
    the server refusing to update the refs selected by `rej` (as in C01) -/
def observable (s : Sys) (p : Plan) (rej : Ref → Bool) (k : Nat) : RefMap :=
  applyOps p.g rej s.remote (p.ops.take k)

/-! ### Clause 1: every update is a fast-forward -/

/-- Whatever single operation Bert-E issues (no hypothesis on it),
    whatever the server refuses: a ref that exists before and after has not moved or has moved to a descendant.
    This is the clause for ALL refs; it rests only on the acceptance rule of non-forced pushes
    (no push template is forced: `C08_table`). -/
theorem C08_push_ff (g : Graph) (hg : g.WF) (rej : Ref → Bool) (remote : RefMap) (op : Op) (r : Ref)
    (old new : Commit) (hold : remote.get r = some old) (hnew : (applyOp g rej remote op).get r = some new) :
    old = new ∨ g.le old new = true :=
  applyOp_ff hg rej remote op hold hnew

/-- **Destination branches only move forward**: for every state, every event (every job, every stage, every
    outcome of git's merges, every queue selection — with NO assumption on the queue), at every crash point and
    for every refusal: a destination branch present before and after is on a descendant of its old tip. -/
theorem C08_ff (s : Sys) (hs : s.WF) (ev : Event) (rej : Ref → Bool) (k : Nat) (d : Dest) (old new : Commit)
    (hold : s.remote.get (.dest d) = some old)
    (hnew : (observable s (plan s ev) rej k).get (.dest d) = some new) :
    (plan s ev).g.le old new = true := by
  have hge := plan_gext hs ev
  have holdlt : old < (plan s ev).g.size := hge.ext.lt (hs.valid _ _ hold)
  by_cases hev : isDeleteBranchEv ev = false
  · obtain ⟨n, hn, hff⟩ := applyOps_dest_ff hge.wf rej hold ((plan s ev).ops.take k)
      (fun op hop => (plan_keeps hs ev hev op (List.mem_of_mem_take hop)).2)
    rw [show (applyOps _ rej s.remote _).get _ = some new from hnew] at hn
    exact (Option.some.inj hn ▸ hff).le hge.wf holdlt
  · -- delete_branch: only deletions; a ref that is still there has not moved
    obtain ⟨d0, rfl⟩ := eq_deleteBranch hev
    have hall : ∀ op ∈ (plan s (.deleteBranch d0)).ops, ∃ r, op = .delete r := by
      refine List.forall_mem_append.mpr ⟨?_, List.forall_mem_singleton.mpr ⟨_, rfl⟩⟩
      split
      · exact List.forall_mem_singleton.mpr ⟨_, rfl⟩
      · exact List.forall_mem_nil _
    have := applyOps_preserves (g := s.g) (rej := rej) (I := fun cur => ∀ x c, cur.get x = some c → s.remote.get x = some c)
      (P := fun op => ∃ r, op = .delete r) (fun cur op hI ⟨r, hr⟩ x c h => hI x c (applyOp_delete_some (hr ▸ h)))
      _ (fun _ _ h => h) (fun op hop => hall op (List.mem_of_mem_take hop)) _ _ hnew
    rw [Option.some.inj (hold.symm.trans this)]
    exact le_refl hs.g (hs.valid _ _ this)

/-! ### Clause 2: nothing foreign is touched, no destination branch is deleted (sequential model) -/

/-- **No job other than `delete_branch` deletes a destination branch** — at every crash point, whatever is refused. -/
theorem C08_dest_kept (s : Sys) (hs : s.WF) (ev : Event) (hev : isDeleteBranchEv ev = false) (rej : Ref → Bool)
    (k : Nat) (d : Dest) (old : Commit) (hold : s.remote.get (.dest d) = some old) :
    ∃ new, (observable s (plan s ev) rej k).get (.dest d) = some new ∧ (plan s ev).g.le old new = true := by
  have hge := plan_gext hs ev
  obtain ⟨n, hn, hff⟩ := applyOps_dest_ff hge.wf rej hold ((plan s ev).ops.take k)
    (fun op hop => (plan_keeps hs ev hev op (List.mem_of_mem_take hop)).2)
  exact ⟨n, hn, hff.le hge.wf (hge.ext.lt (hs.valid _ _ hold))⟩

/-- Foreign refs (neither robot-owned nor a destination branch) are untouched at every crash point of every job
    (`delete_branch` included), whatever is refused. -/
theorem C08_foreign_crash (s : Sys) (hs : s.WF) (ev : Event) (rej : Ref → Bool) (k : Nat) (r : Ref)
    (hr : r.robotOwned = false) (hd : r.isDest = false) :
    (observable s (plan s ev) rej k).get r = s.remote.get r := by
  cases r with
  | other n =>
    exact applyOps_sameForeign rej _ (fun _ => rfl)
      (fun op hop => plan_foreign hs ev op (List.mem_of_mem_take hop)) n
  | dest _ => cases hd
  | w _ _ => cases hr
  | q _ => cases hr
  | qw _ _ _ => cases hr

/-- **Sequential model**: a Bert-E job that runs to its end with nobody else acting leaves every foreign ref
    (pull-request source branches, anything not `w/`, `q/` or a destination) exactly as it was. -/
theorem C08_foreign_seq (s : Sys) (hs : s.WF) (ev : Event) (hev : isRobotEv ev = true) (r : Ref)
    (hr : r.robotOwned = false) (hd : r.isDest = false) :
    (step s ev).1.remote.get r = s.remote.get r := by
  rw [step_remote s ev hev]
  have := C08_foreign_crash s hs ev noRej (plan s ev).ops.length r hr hd
  unfold observable at this
  rw [List.take_length] at this
  exact this

/-! ### Clause 3: a third party acts while the job runs -/

/-- **Schedules (partial: the prune race excluded).** The plan was computed from the clone; the job is interrupted
    after `j` operations at the latest; a third party acts immediately before operation `k`: it creates a new
    branch, pushes a commit on an existing foreign branch, or force-pushes an existing foreign branch to a new
    commit (`force`) or to an existing commit (`point`). UNLESS (`hx`) it created a branch and a pruning push
    (`git push --all --atomic --prune`) follows, or (`hp`) it force-pushed a branch BACK to an ancestor of its tip,
    every foreign ref ends up exactly as the third party left it: Bert-E neither rewinds, nor updates, nor deletes it.
    (When the third party moved an existing branch anywhere else, the atomic push offers the older value and is
    refused as a whole: `pushAll_refused`.) -/
theorem C08_foreign_sched_partial (s : Sys) (hs : s.WF) (ev : Event) (rej : Ref → Bool) (j k : Nat) (x : Third)
    (hx : x.isCreate = true → ∀ op ∈ ((plan s ev).ops.take j).drop k, pruning op = false)
    (hp : ∀ n c old, x = .point n c → s.remote.get (.other n) = some old → (plan s ev).g.le c old = false)
    (n : String) :
    (applyOpsWith (plan s ev).g rej s.remote ((plan s ev).ops.take j) k x).2.get (.other n) =
      (x.apply (plan s ev).g (applyOps (plan s ev).g rej s.remote (((plan s ev).ops.take j).take k))).2.get
        (.other n) := by
  have hge := plan_gext hs ev
  exact applyOpsWith_foreign hge.wf rej (hs.valid.mono hge.ext) _
    (fun op hop => plan_foreign hs ev op (List.mem_of_mem_take hop)) k x hx hp n

/-- the state of the witness: development/4.3 and development/5.1, a pull request from `feature/x`, no queues -/
def witnessSys : Sys :=
  (step (BertE.Drv.C01.initSys false false [.dev 4 (some 3), .dev 5 (some 1)]) (.extSet "feature/x" [1] false)).1

def witnessEv : Event := .evalPr ⟨1, "feature/x", .dev 4 (some 3), false⟩ .final [] []

/-- **The prune race (finding D4).** The direct merge of the pull request is `push w/5.1/feature/x` then ONE
    `push --all --atomic --prune`. Somebody creates `feature/thirdparty` just before that second push: after the
    job the branch is gone — Bert-E deleted a branch that was never its own. -/
theorem C08_prune_race_witness :
    let p := plan witnessSys witnessEv
    let x := Third.create "feature/thirdparty" 1
    p.ops.map pruning = [false, true] ∧
    (x.apply p.g (applyOps p.g noRej witnessSys.remote (p.ops.take 1))).2.get (.other "feature/thirdparty") = some 1 ∧
    (applyOpsWith p.g noRej witnessSys.remote p.ops 1 x).2.get (.other "feature/thirdparty") = none ∧
    -- the merge itself went through
    (applyOpsWith p.g noRej witnessSys.remote p.ops 1 x).2.get (.dest (.dev 4 (some 3))) = some 3 := by
  decide +kernel

/-- **The second exception (same cause: `push --all` offers every local head).** Somebody force-pushes `feature/x`
    back to its parent just before the atomic push: the push is a fast-forward of the rewound branch, it is
    accepted, and `feature/x` is on the commit the third party had removed. -/
theorem C08_rewind_race_witness :
    let p := plan witnessSys witnessEv
    let x := Third.point "feature/x" 1
    witnessSys.remote.get (.other "feature/x") = some 3 ∧ p.g.le 1 3 = true ∧
    (x.apply p.g (applyOps p.g noRej witnessSys.remote (p.ops.take 1))).2.get (.other "feature/x") = some 1 ∧
    (applyOpsWith p.g noRej witnessSys.remote p.ops 1 x).2.get (.other "feature/x") = some 3 := by
  decide +kernel

/-! ### Clause 4: the delete-branch job tags first; nothing that was on a destination branch is lost -/

/-- **Tag first (order of the plan).** `tags`: the archive tags when the job starts. If the delete-branch job deletes
    the branch at all, the branch has a tip `c` and either the push of its archive tag on `c` — the tip that the
    clone saw — precedes the deletion, or the archive tag is on `c` already (a deletion that was interrupted after
    the push of the tag is completed). -/
theorem C08_delete_tags_first_order (s : Sys) (tags : Tags) (d : Dest) (i : Nat)
    (hi : (planDeleteBranchT s tags d)[i]? = some (.br (.delete (.dest d)))) :
    ∃ c, s.remote.get (.dest d) = some c ∧
      ((∃ i', i' < i ∧ (planDeleteBranchT s tags d)[i']? = some (.tag d c)) ∨ Tags.get tags d = some c) := by
  unfold planDeleteBranchT at hi ⊢
  cases hc : s.remote.get (.dest d) with
  | none =>
    -- only `q/<v>` may be deleted
    rw [hc] at hi
    have := List.mem_of_getElem? hi
    split at this <;> simp at this
  | some c =>
    rw [hc] at hi
    refine ⟨c, rfl, ?_⟩
    cases ht : Tags.get tags d with
    | some t =>
      rw [ht] at hi
      by_cases htc : t = c
      · exact Or.inr (congrArg some htc)
      · simp [htc] at hi
    | none =>
      -- the deletion of the branch is the last operation, the push of the tag the one before it
      rw [ht] at hi
      refine Or.inl ?_
      by_cases hq : s.remote.has (.q d) = true <;> simp only [hq, if_true] at hi ⊢
      · rcases i with _ | _ | _ | i <;> simp at hi
        exact ⟨1, by omega, rfl⟩
      · rcases i with _ | _ | i <;> simp at hi
        exact ⟨0, by omega, rfl⟩

/-- **An archive tag anywhere else: the job refuses.** When the archive tag of the branch exists and is NOT on the
    tip of the branch, the delete-branch job does nothing at all (the real job raises `JobFailure` before its first
    remote operation) — at every crash point the remote and the tags are what they were. -/
theorem C08_delete_refused (s : Sys) (tags : Tags) (d : Dest) (c t : Commit)
    (hc : s.remote.get (.dest d) = some c) (ht : Tags.get tags d = some t) (hne : t ≠ c) :
    planT s tags (.deleteBranch d) = [] ∧
    ∀ (g : Graph) (rej : Ref → Bool) (rejTag : Bool) (k : Nat),
      applyT g rej rejTag (s.remote, tags) ((planT s tags (.deleteBranch d)).take k) = (s.remote, tags) := by
  have h : planT s tags (.deleteBranch d) = [] := by
    simp only [planT, planDeleteBranchT, hc, ht, hne, if_false]
  refine ⟨h, fun g rej rejTag k => ?_⟩
  rw [h, List.take_nil]
  rfl

/-- **Tag first (what the remote shows).** `tags`: the archive tags when the job starts (the plan is computed from
    them). At every crash point of the delete-branch job, whatever the server refuses (any branch, the tag): if the
    destination branch is gone, its archive tag exists and is on the deleted tip — pushed by this job, or found
    there by it —; no other destination or foreign ref is touched; no tag is lost. -/
theorem C08_delete_tags_first (s : Sys) (d : Dest) (c : Commit) (hc : s.remote.get (.dest d) = some c)
    (rej : Ref → Bool) (rejTag : Bool) (tags : Tags) (k : Nat) :
    let st := applyT s.g rej rejTag (s.remote, tags) ((planT s tags (.deleteBranch d)).take k)
    (st.1.get (.dest d) = some c ∨ (st.1.get (.dest d) = none ∧ Tags.get st.2 d = some c)) ∧
    (∀ r, r ≠ .q d → r ≠ .dest d → st.1.get r = s.remote.get r) ∧
    (∀ d' t, Tags.get tags d' = some t → Tags.get st.2 d' = some t) := by
  obtain ⟨h1, h2, h3⟩ := applyT_deleteBranch s d s.g rej rejTag tags k
  exact ⟨h3 c hc, h1, h2⟩

def Kept (g : Graph) (refs : RefMap) (tags : Tags) (c : Commit) : Prop :=
  (∃ d t, refs.get (.dest d) = some t ∧ g.le c t = true) ∨ (∃ d t, Tags.get tags d = some t ∧ g.le c t = true)

/-- **Nothing that is on a destination branch (or under an archive tag) is ever lost**: for every job — the
    delete-branch job with its real sequence of operations, computed from the tags `tags` that the remote has when the
    job starts —, at every crash point, whatever the server refuses,
    a commit contained in a destination branch or an archive tag before is contained in one after.
    (Inductive step of "no commit that was ever on a destination branch becomes unreachable from the remote's
    branches and tags"; external events do not write destination branches or tags.) -/
theorem C08_reachable (s : Sys) (hs : s.WF) (tags : Tags) (htags : ∀ d t, Tags.get tags d = some t → t < s.g.size)
    (ev : Event) (rej : Ref → Bool) (rejTag : Bool) (k : Nat) (c : Commit) (hc : Kept s.g s.remote tags c) :
    let st := applyT (plan s ev).g rej rejTag (s.remote, tags) ((planT s tags ev).take k)
    Kept (plan s ev).g st.1 st.2 c := by
  have hge := plan_gext hs ev
  by_cases hev : isDeleteBranchEv ev = false
  · -- no tag operation: branches as in `applyOps`
    have hpt : planT s tags ev = (plan s ev).ops.map OpT.br := by
      cases ev with
      | deleteBranch d => cases hev
      | _ => rfl
    simp only [hpt, ← List.map_take, applyT_br]
    rcases hc with ⟨d, t, ht, hle⟩ | ⟨d, t, ht, hle⟩
    · obtain ⟨n, hn, hln⟩ := C08_dest_kept s hs ev hev rej k d t ht
      exact Or.inl ⟨d, n, hn, le_trans hge.wf (hge.ext.le (hs.valid _ _ ht) hle) hln⟩
    · exact Or.inr ⟨d, t, ht, hge.ext.le (htags d t ht) hle⟩
  · obtain ⟨d0, rfl⟩ := eq_deleteBranch hev
    obtain ⟨h1, h2, h3⟩ := applyT_deleteBranch s d0 s.g rej rejTag tags k
    show Kept s.g _ _ c
    rcases hc with ⟨d, t, ht, hle⟩ | ⟨d, t, ht, hle⟩
    · by_cases hd : d = d0
      · subst hd
        rcases h3 t ht with h | ⟨_, h⟩
        · exact Or.inl ⟨d, t, h, hle⟩
        · exact Or.inr ⟨d, t, h, hle⟩
      · exact Or.inl ⟨d, t, (h1 (.dest d) (fun he => nomatch he) (fun he => hd (Ref.dest.inj he))).trans ht, hle⟩
    · exact Or.inr ⟨d, t, h2 d t ht, hle⟩

/-! ### Table obligations: how the source pushes and deletes (`Gen/GitFlags.lean`, regenerated on every run) -/

open BertE.Gen.GitFlags in
/-- a call of `delete_branch` that runs unconditionally, or is skipped only when the deletion is resumed
    (`if not archived:`); the unforced deletions (queue branches) are looked at separately -/
def inMain (c : Call) : Bool :=
  (c.guard == "" || c.guard == "not archived") && (c.kind != "delete" || c.forced)

open BertE.Gen.GitFlags in
/-- how `archived` may be assigned when it guards the tag: `False` unconditionally, `True` only under a test under
    which the branch to delete is checked out (its local head is what the tagged commit is compared with) -/
def assignOK (calls : List Call) (a : String × String) : Bool :=
  (a.1 == "False" && a.2 == "") ||
  (a.1 == "True" && a.2 != "" && calls.any (fun c => c.kind == "checkout" && c.guard == a.2))

open BertE.Gen.GitFlags in
/-- what C08 needs of the source: no function that builds a `git push` carries a forcing flag or a `+refspec`;
    the push of all heads is atomic; `Branch.remove` refuses names outside robot prefixes unless forced; only the
    delete-branch job passes `force`; the local `git branch -D` lives in `Branch.remove` only; in `delete_branch`
    the tag is created on the checked-out branch and pushed (alone: no refspec with a colon) before the forced,
    unconditional deletion of that same branch, a failed tag push ends the job, and nothing else is pushed there;
    the tag and its push are either unconditional (the job before it could resume a deletion) or skipped together
    under `archived`, a flag that starts as `False` and becomes `True` only after the commit of the existing archive
    tag was compared with the tip of the checked-out branch (`resume`: different commits raise). -/
structure TableOK (pushFns : List PushFn) (forceFlags : List String) (removeGuarded : Bool)
    (removablePrefixes : List String) (removeCalls : List RemoveCall) (localDeletes : List (String × String × String))
    (calls : List Call) (assigns : List (String × String)) (resume : Bool) (tagAborts : Bool) : Prop where
  noForce : pushFns.all (fun f => !f.plusRefspec && f.flags.all (fun t => !forceFlags.contains t)) = true
  forceKnown : (forceFlags.contains "--force" && forceFlags.contains "-f") = true
  allAtomic : pushFns.all (fun f => !f.flags.contains "--all" || f.flags.contains "--atomic") = true
  guarded : removeGuarded = true
  prefixes : removablePrefixes.all (fun p => ["w/", "q/", "tmp/"].contains p) = true
  onlyDeleteForces : removeCalls.all (fun c => c.force == "" || c.force == "False" ||
      (c.file == "bert_e/jobs/delete_branch.py" && c.func == "do_delete")) = true
  localDelete : localDeletes.all (fun x => x.1 == "bert_e/lib/git.py" && x.2.1 == "Branch.remove") = true
  /-- checkout, tag, push of the tag alone, forced deletion: in this order -/
  order : ((calls.filter inMain).map (fun c => (c.kind, c.forced))) =
      [("checkout", false), ("tag", false), ("push", false), ("delete", true)]
  /-- under any other condition: checkouts and unforced deletions only -/
  nothingElse : (calls.filter (fun c => !inMain c)).all (fun c => c.kind == "checkout" || (c.kind == "delete" && !c.forced)) = true
  /-- the deletion of the branch is unconditional … -/
  deleteUnguarded : (calls.filter (·.forced)).all (fun c => c.guard == "") = true
  /-- … the tag and its push are skipped together or not at all; the checkout before them is not skipped alone -/
  tagPushTogether : ((calls.filter (fun c => c.kind == "tag" || c.kind == "push")).map (·.guard)).eraseDups.length = 1
  checkoutWithTag : (calls.filter inMain).all (fun c => c.kind != "checkout" || c.guard == "" ||
      (calls.filter (·.kind == "tag")).all (fun t => t.guard == c.guard)) = true
  /-- skipped only when the archive tag was found on the tip of the branch -/
  resumed : ((calls.filter (·.kind == "tag")).all (fun c => c.guard == "") ||
      (resume && assigns.head? == some ("False", "") && assigns.all (assignOK calls))) = true
  sameBranch : ((calls.filter (fun c => c.kind == "checkout" || c.forced)).map (·.target)).eraseDups.length = 1
  unforcedAreQueue : (calls.filter (fun c => c.kind == "delete" && !c.forced)).all (fun c => c.target == "del_queue") = true
  aborts : tagAborts = true

theorem C08_table : TableOK BertE.Gen.GitFlags.pushFns BertE.Gen.GitFlags.forceFlags
    BertE.Gen.GitFlags.removeGuarded BertE.Gen.GitFlags.removablePrefixes BertE.Gen.GitFlags.removeCalls
    BertE.Gen.GitFlags.localDeletes BertE.Gen.GitFlags.deleteBranchCalls BertE.Gen.GitFlags.archivedAssignments
    BertE.Gen.GitFlags.resumeChecksTip BertE.Gen.GitFlags.tagPushFailureAborts := by
  constructor <;> decide +kernel

/-- the remote operations of the source's `delete_branch`, as the model names them -/
def callKind (c : BertE.Gen.GitFlags.Call) : Option String :=
  if c.kind == "delete" then some (if c.forced then "delete-branch" else "delete-queue")
  else if c.kind == "push" then some "push-tag" else none

/-- **The model's delete-branch job lists its operations in the order of the source** (whatever the state and the
    tags: the full job, the resumed deletion without the tag, the refused job without anything). -/
theorem C08_delete_order_is_source (s : Sys) (tags : Tags) (d : Dest) :
    ((planDeleteBranchT s tags d).map kindT).Sublist (BertE.Gen.GitFlags.deleteBranchCalls.filterMap callKind) := by
  have hsrc : BertE.Gen.GitFlags.deleteBranchCalls.filterMap callKind =
      ["delete-queue", "push-tag", "delete-branch"] := by decide +kernel
  rw [hsrc]
  -- every plan is the optional deletion of the queue followed by a sublist of `tag; delete`
  have happ : ∀ tail : List OpT, (tail.map kindT).Sublist ["push-tag", "delete-branch"] →
      (((if s.remote.has (.q d) then [OpT.br (.delete (.q d))] else []) ++ tail).map kindT).Sublist
        ["delete-queue", "push-tag", "delete-branch"] := by
    intro tail ht
    rw [List.map_append]
    refine List.Sublist.append (l₂ := ["delete-queue"]) ?_ ht
    split
    · exact List.Sublist.refl _
    · exact List.nil_sublist _
  unfold planDeleteBranchT
  cases s.remote.get (.dest d) with
  | none =>
    have := happ [] (List.nil_sublist _)
    rwa [List.append_nil] at this
  | some c =>
    simp only
    cases Tags.get tags d with
    | none => exact happ _ (List.Sublist.refl _)
    | some t =>
      simp only
      split
      · exact happ _ (List.Sublist.cons _ (List.Sublist.refl _))
      · exact List.nil_sublist _

/-! ### The table obligation on the shapes it must accept and reject (independent of the current source) -/

section Shapes
open BertE.Gen.GitFlags

/-- the part of `TableOK` that looks at `delete_branch` only -/
def deleteShapeOK (calls : List Call) (assigns : List (String × String)) (resume : Bool) : Prop :=
  TableOK [] ["--force", "-f"] true [] [] [] calls assigns resume true

private def tagTest := "archive_tag in repo.cmd('git tag').split('\\n')[:-1]"

/-- before the resumed deletion existed: checkout, tag, push, delete — unconditional -/
example : deleteShapeOK
    [⟨"delete", "del_queue", false, "job.settings.use_queue"⟩, ⟨"checkout", "del_branch", false, ""⟩,
     ⟨"tag", "git tag %s", false, ""⟩, ⟨"push", "git push origin %s", false, ""⟩, ⟨"delete", "del_branch", true, ""⟩]
    [] false := by constructor <;> decide +kernel

/-- with the resumed deletion -/
example : deleteShapeOK
    [⟨"checkout", "del_branch", false, tagTest⟩, ⟨"delete", "del_queue", false, "job.settings.use_queue"⟩,
     ⟨"checkout", "del_branch", false, "not archived"⟩, ⟨"tag", "git tag %s", false, "not archived"⟩,
     ⟨"push", "git push origin %s", false, "not archived"⟩, ⟨"delete", "del_branch", true, ""⟩]
    [("False", ""), ("True", tagTest)] true := by constructor <;> decide +kernel

/-- rejected: the tip comparison dropped (`archived = True` whenever the tag exists) -/
example : ¬ deleteShapeOK
    [⟨"checkout", "del_branch", false, tagTest⟩, ⟨"delete", "del_queue", false, "job.settings.use_queue"⟩,
     ⟨"checkout", "del_branch", false, "not archived"⟩, ⟨"tag", "git tag %s", false, "not archived"⟩,
     ⟨"push", "git push origin %s", false, "not archived"⟩, ⟨"delete", "del_branch", true, ""⟩]
    [("False", ""), ("True", tagTest)] false := fun h => absurd h.resumed (by decide +kernel)

/-- rejected: `archived` starts as `True` -/
example : ¬ deleteShapeOK
    [⟨"checkout", "del_branch", false, tagTest⟩,
     ⟨"checkout", "del_branch", false, "not archived"⟩, ⟨"tag", "git tag %s", false, "not archived"⟩,
     ⟨"push", "git push origin %s", false, "not archived"⟩, ⟨"delete", "del_branch", true, ""⟩]
    [("True", ""), ("True", tagTest)] true := fun h => absurd h.resumed (by decide +kernel)

/-- rejected: another branch is checked out when the tag is created -/
example : ¬ deleteShapeOK
    [⟨"checkout", "other_branch", false, ""⟩, ⟨"tag", "git tag %s", false, ""⟩,
     ⟨"push", "git push origin %s", false, ""⟩, ⟨"delete", "del_branch", true, ""⟩]
    [] false := fun h => absurd h.sameBranch (by decide +kernel)

/-- rejected: the branch is deleted before the tag is pushed -/
example : ¬ deleteShapeOK
    [⟨"checkout", "del_branch", false, ""⟩, ⟨"delete", "del_branch", true, ""⟩, ⟨"tag", "git tag %s", false, ""⟩,
     ⟨"push", "git push origin %s", false, ""⟩]
    [] false := fun h => absurd h.order (by decide +kernel)

/-- rejected: the tag and the deletion pushed in one command (the extractor marks a refspec with a colon as forced) -/
example : ¬ deleteShapeOK
    [⟨"checkout", "del_branch", false, ""⟩, ⟨"tag", "git tag %s", false, ""⟩,
     ⟨"push", "git push origin %s :%s", true, ""⟩, ⟨"delete", "del_branch", true, ""⟩]
    [] false := fun h => absurd h.order (by decide +kernel)

/-- rejected: the deletion of the branch under a condition of its own, the tag skipped under another one -/
example : ¬ deleteShapeOK
    [⟨"checkout", "del_branch", false, ""⟩, ⟨"tag", "git tag %s", false, "job.settings.archive"⟩,
     ⟨"push", "git push origin %s", false, "job.settings.archive"⟩, ⟨"delete", "del_branch", true, ""⟩]
    [] false := fun h => absurd h.nothingElse (by decide +kernel)

end Shapes

/-! ### Non-vacuity -/

/-- the witness state is well-formed: the hypotheses `WF` of the theorems above are met by a state in which
    jobs really push (`C08_prune_race_witness` shows its plan: a push and a pruning atomic push) -/
example : witnessSys.WF := wfCheck_wf (by decide +kernel)

/-- `C08_ff` / `C08_dest_kept` / `C08_foreign_seq` on it: the merge moves both destinations forward, the source
    branch stays -/
example :
    let s' := (step witnessSys witnessEv).1
    (witnessSys.remote.get (.dest (.dev 5 (some 1))), s'.remote.get (.dest (.dev 5 (some 1)))) = (some 2, some 4) ∧
    s'.g.le 2 4 = true ∧ s'.remote.get (.other "feature/x") = witnessSys.remote.get (.other "feature/x") ∧
    isRobotEv witnessEv = true := by decide +kernel

/-- `C08_foreign_sched_partial`: the hypothesis holds for an `advance` at any point (and the atomic push is then
    refused: the destination does not move), and for a `create` before the last operation's successor -/
example :
    let p := plan witnessSys witnessEv
    (Third.advance "feature/x").isCreate = false ∧
    (applyOpsWith p.g noRej witnessSys.remote p.ops 1 (.advance "feature/x")).2.get (.dest (.dev 4 (some 3))) = some 1 ∧
    (applyOpsWith p.g noRej witnessSys.remote p.ops 1 (.advance "feature/x")).2.get (.other "feature/x") = some 5 ∧
    (∀ op ∈ p.ops.drop 2, pruning op = false) := by decide +kernel

/-- … and `hp` for a force-push of `feature/x` (on 3) to the tip of development/5.1 (2, not an ancestor of 3): the
    atomic push is refused, `feature/x` stays where the third party put it -/
example :
    let p := plan witnessSys witnessEv
    p.g.le 2 3 = false ∧
    (applyOpsWith p.g noRej witnessSys.remote p.ops 1 (.point "feature/x" 2)).2.get (.other "feature/x") = some 2 ∧
    (applyOpsWith p.g noRej witnessSys.remote p.ops 1 (.point "feature/x" 2)).2.get (.dest (.dev 4 (some 3))) = some 1 := by
  decide +kernel

example : ∀ n c, Third.advance "feature/x" ≠ .point n c := fun _ _ h => nomatch h

/-- `C08_delete_tags_first` / `C08_reachable`: deleting development/4.3 of the witness state leaves the tag on its tip -/
example :
    let st := applyT witnessSys.g noRej false (witnessSys.remote, []) (planT witnessSys [] (.deleteBranch (.dev 4 (some 3))))
    witnessSys.remote.get (.dest (.dev 4 (some 3))) = some 1 ∧ st.1.get (.dest (.dev 4 (some 3))) = none ∧
    Tags.get st.2 (.dev 4 (some 3)) = some 1 := by decide +kernel

/-- the resumed deletion (`C08_delete_tags_first_order`, right-hand alternative): the archive tag of development/4.3
    is already on its tip (commit 1) — the plan is the deletion alone, the tag is still there afterwards; and when
    the server refuses the deletion nothing changes -/
example :
    let d := Dest.dev 4 (some 3)
    let tags : Tags := [(d, 1)]
    let st := applyT witnessSys.g noRej false (witnessSys.remote, tags) (planT witnessSys tags (.deleteBranch d))
    witnessSys.remote.get (.dest d) = some 1 ∧
    (planT witnessSys tags (.deleteBranch d)).map kindT = ["delete-branch"] ∧
    st.1.get (.dest d) = none ∧ Tags.get st.2 d = some 1 ∧
    (applyT witnessSys.g (fun _ => true) false (witnessSys.remote, tags) (planT witnessSys tags (.deleteBranch d))).1.get
      (.dest d) = some 1 := by decide +kernel

/-- `C08_delete_refused`: the archive tag of development/4.3 is on the root commit 0, not on the tip 1 — no operation -/
example :
    let d := Dest.dev 4 (some 3)
    witnessSys.remote.get (.dest d) = some 1 ∧ Tags.get [(d, 0)] d = some 0 ∧ (0 : Commit) ≠ 1 ∧
    planT witnessSys [(d, 0)] (.deleteBranch d) = [] := by decide +kernel


/-! ### The clone-snapshot premise of the pruning push (tied to the code by `harness/c08_faults.py`)

Every plan of the model offers, in its `push --all --atomic --prune`, the remote's own refs as the clone saw them
(`delRefs s.remote …`). That the clone really IS the remote at clone time — also when one of the read-side git
commands of the job fails transiently — is what the fault block of the C08 tie checks on the real code. The two
statements below say what that premise buys and that it is needed. -/

/-- **A pruning push from a complete snapshot keeps every foreign ref**: if the clone holds every ref of the remote
    that is not the robot's own with the remote's value, then — accepted or refused, whatever the server refuses —
    the atomic pruning push leaves each of them exactly where it is. -/
theorem C08_snapshot_keeps_foreign (g : Graph) (rej : Ref → Bool) (remote loc : RefMap)
    (hsnap : ∀ r, r.robotOwned = false → ∀ c, remote.get r = some c → loc.get r = some c)
    (r : Ref) (hr : r.robotOwned = false) (c : Commit) (hc : remote.get r = some c) :
    (applyOp g rej remote (.pushAll loc true)).get r = some c := by
  rw [applyOp_pushAll_eq]
  split
  · simp only [if_true]
    exact hsnap r hr c hc
  · exact hc

/-- **…and the premise is needed** (what the seeded change C08-3 breaks): a clone taken from a stale mirror lacks a
    branch that somebody created before the job even started; the pruning push deletes it. -/
theorem C08_stale_clone_witness :
    let g : Graph := (Graph.empty.addCommit []).1
    let remote0 : RefMap := [(.dest (.dev 4 (some 3)), 0)]
    let remote : RefMap := remote0.set (.other "feature/new") 0
    remote.get (.other "feature/new") = some 0 ∧
    (applyOp g (fun _ => false) remote (.pushAll remote0 true)).get (.other "feature/new") = none := by
  decide +kernel

example :
    let remote : RefMap := [(.other "feature/new", 0), (.dest (.dev 4 (some 3)), 0), (.w (.dev 5 (some 1)) "bugfix/x", 0)]
    let loc : RefMap := remote.del (.w (.dev 5 (some 1)) "bugfix/x")
    (∀ r, r.robotOwned = false → ∀ c, remote.get r = some c → loc.get r = some c) ∧
    (applyOp (Graph.empty.addCommit []).1 (fun _ => false) remote (.pushAll loc true)).get
      (.w (.dev 5 (some 1)) "bugfix/x") = none := by
  refine ⟨?_, by decide +kernel⟩
  intro r hr c hc
  rw [RefMap.get_del]
  split
  · next h => subst h; cases hr
  · exact hc

end BertE.C08
