import BertE.Lemmas.Full
import BertE.Lemmas.Full2Anomaly
import BertE.Lemmas.Full2C03
import BertE.Props.C03
import BertE.Props.C06
import BertE.Drv.C09
import BertE.Drv.C20
import BertE.Props.C20
/-
C01 and C03 over the closed system (`Model/Full.lean`): ONE transition system whose events carry only what comes from
outside and whose only oracle are the answers of git's content merges. No admissibility hypothesis is left: what
`C01_step` asks of an event (`Flow.Adm`, `Close.AdmC`) is discharged from the decision the model computes —
queue selections are closed downwards (`Select.downClosed_selectOf`; `Select.Validated` follows from the invariant, the
guard is the modelled `validate()` ALONE); pull-request ids are positive; a pull request held as queued is found already
queued (`FullInv.link`); `create_branch` publishes only after `cascadeCheck` accepted the clone that holds the new branch
(`cascadeCheck_spec`) and then ends with JobSuccess (`createBranch_success_of_inv`); `delete_branch` is refused while
`has_version_queued_prs` or while a stabilization branch of the development branch is alive; third-party pushes are
built from existing commits and go to branches that are not the robot's.
-/
namespace BertE.Full
open BertE.Git BertE.Flow

theorem full_step_inv {w : World} (h : FullInv w) (ev : FullEvent) (orc : List Bool) (hna : ¬ AdminAnomaly w ev) :
    FullInv (step w ev orc).1 := by
  have hhost : ∀ h', HostExt w.host h' → FullInv (hostOnly w h').1 := fun _ hh => (h.host hh).refresh
  have hmap : ∀ i f, (∀ p, (f p).id = p.id ∧ (f p).src = p.src ∧ (f p).dst = p.dst) →
      FullInv (hostOnly w (mapPr w.host i f)).1 := fun i f hf => hhost _ (hostExt_mapPr _ i f hf)
  have hprs : ∀ b i, FullInv (hostOnly w ⟨w.host.prs, b, i⟩).1 :=
    fun _ _ => hhost _ ⟨fun _ p hp => ⟨p, hp, rfl, rfl⟩, fun hp => hp⟩
  cases ev with
  | prEvent id => exact prJob_inv h id orc
  | commitEvent c =>
    unfold step
    simp only
    split
    · exact queuesJob_inv h false
    · exact evalOne_inv h _ orc
    · exact h
  | createBranch name from_ => exact createJob_inv h name from_ orc
  | deleteBranch name => exact deleteJob_inv h name hna
  | rebuildQueues => exact dropJob_inv h true orc
  | deleteQueues => exact dropJob_inv h false orc
  | forceMergeQueues =>
    unfold step
    simp only
    split
    · exact queuesJob_inv h true
    · exact h
  | push name parents onTop =>
    refine external_inv h _ _ (fun hok p hp => ?_) trivial rfl
    simp only [Bool.and_eq_true, List.all_eq_true, decide_eq_true_eq] at hok
    exact hok.2 p hp
  | pushTo name c =>
    refine external_inv h _ _ (fun hok => ?_) trivial rfl
    simp only [Bool.and_eq_true, decide_eq_true_eq] at hok
    exact hok.2
  | deleteRef name => exact external_inv h _ _ (fun _ => trivial) trivial rfl
  | wCommit d src =>
    refine external_inv h _ _ (fun _ => trivial) trivial ?_
    simp only [Flow.step]
    split <;> rfl
  | openPr author src dst facts =>
    refine hhost _ (HostExt.of_append _ _ (fun p hp => ?_) _ _)
    rw [List.mem_singleton.mp hp]
    exact nextId_ne_zero _
  | comment id author text => exact hmap _ _ fun _ => ⟨rfl, rfl, rfl⟩
  | approve id user => exact hmap _ _ fun _ => ⟨rfl, rfl, rfl⟩
  | requestChanges id user => exact hmap _ _ fun _ => ⟨rfl, rfl, rfl⟩
  | buildStatus c st => exact hprs _ _
  | decline id => exact hmap _ _ fun _ => ⟨rfl, rfl, rfl⟩
  | setIssue key issue => exact hprs _ _

/-- C01 over the closed system, one event. For every world that satisfies the invariant, EVERY event — a
    pull-request or commit webhook, an admin job with any request parameters, any third-party action on the
    repository or on the host — and EVERY list of content-merge answers: forward-port inclusion holds after the
    event and the invariant is kept. The only hypothesis on the event is `¬ AdminAnomaly` (known finding D19, see
    `AdminAnomaly`); what holds after that exit: `C01_full_step_anomaly`. -/
theorem C01_full_step (w : World) (h : FullInv w) (ev : FullEvent) (orc : List Bool) (hna : ¬ AdminAnomaly w ev) :
    (step w ev orc).1.sys.Incl ∧ FullInv (step w ev orc).1 :=
  ⟨(full_step_inv h ev orc hna).inv.incl, full_step_inv h ev orc hna⟩

/-- C01 after the excluded exit (D19). In a world that satisfies the invariant, after a successful
    `delete_branch hotfix/x.y.z` while `q/x.y.z` exists: forward-port inclusion STILL holds, and so does every conjunct
    of `FullInv` except the queue invariant `Inv.q` / `QSync` (`Full2.AfterAnomaly`: well-formedness, inclusion,
    Close's `VX`, commit numbering, distinct ref keys, host link, positive ids, cascade settings). The queue
    bookkeeping is unchanged and `q/x.y.z` is gone, so `QInv` (clause `qhas`) is LOST exactly when a pull request is
    queued on stabilization/x.y.z. -/
theorem C01_full_step_anomaly (w : World) (h : FullInv w) (name : Ref) (orc : List Bool)
    (ha : AdminAnomaly w (.deleteBranch name)) :
    (step w (.deleteBranch name) orc).1.sys.Incl ∧ BertE.Full2.AfterAnomaly (step w (.deleteBranch name) orc).1 ∧
    ∃ M m u, name = .dest (.hotfix M m u) ∧
      (step w (.deleteBranch name) orc).1.sys.remote.get (.q (.stab M m u)) = none ∧
      (step w (.deleteBranch name) orc).1.sys.queue = w.sys.queue ∧
      ((∃ e ∈ w.sys.queue, Dest.stab M m u ∈ e.targets) → ¬ QInv (step w (.deleteBranch name) orc).1.sys) :=
  ⟨(BertE.Full2.full2_deleteJob_anomaly h name ha).1.incl, (BertE.Full2.full2_deleteJob_anomaly h name ha).1,
    (BertE.Full2.full2_deleteJob_anomaly h name ha).2⟩

/-- no event of the history is the anomalous exit of `delete_branch` (D19), in the world it is applied to -/
def NoAnomaly (w : World) : List (FullEvent × List Bool) → Prop
  | [] => True
  | e :: es => ¬ AdminAnomaly w e.1 ∧ NoAnomaly (step w e.1 e.2).1 es

theorem full_run_inv : ∀ (evs : List (FullEvent × List Bool)) {w : World}, FullInv w → NoAnomaly w evs →
    FullInv (run w evs)
  | [], _, h, _ => h
  | e :: es, _, h, hna => full_run_inv es (full_step_inv h e.1 e.2 hna.1) hna.2

theorem noAnomaly_take : ∀ (evs : List (FullEvent × List Bool)) (w : World), NoAnomaly w evs → ∀ k,
    NoAnomaly w (evs.take k)
  | [], _, _, k => by simp [NoAnomaly]
  | e :: es, w, hna, k => by
    cases k with
    | zero => simp [NoAnomaly]
    | succ k => exact ⟨hna.1, noAnomaly_take es _ hna.2 k⟩

/-- C01 over the closed system, every finite history: inclusion holds after every single event, whatever the
    events are and whatever git's content merges answer. -/
theorem C01_full_run (w : World) (h : FullInv w) (evs : List (FullEvent × List Bool)) (hna : NoAnomaly w evs) :
    ∀ k, (run w (evs.take k)).sys.Incl :=
  fun k => (full_run_inv _ h (noAnomaly_take evs w hna k)).inv.incl

end BertE.Full

namespace BertE.Full
open BertE.Git BertE.Flow BertE.Full2

private theorem queuesJob_c03 {w : World} (h : FullInv w) (d : Dest) (new : Commit)
    (hnew : (queuesJob w false).1.sys.remote.get (.dest d) = some new)
    (hmoved : w.sys.remote.get (.dest d) ≠ some new) : w.host.status new = .successful := by
  unfold queuesJob at hnew
  split at hnew
  · exact absurd hnew hmoved
  · exact BertE.C03.C03_step_closed w.sys h.inv h.validated w.host.status d new hnew hmoved

/-- C03 over the closed system, queue evaluations. For every world that
    satisfies the invariant and every commit webhook that `handle_commit` resolves to a queue evaluation (a build
    report on a `q/` tip): every destination branch that moved in the event is on a commit whose status in the host's
    build map at the time of the event is SUCCESSFUL. No hypothesis on the selection, none on the statuses: the
    selection is `Select.selectOf` on the host's own table behind the validation guard (`C03_step_closed`).
    `_partial`: this statement covers the queue evaluations only, and needs neither the build-gate table nor
    `useQueue`; every event — a pull-request evaluation that finds the pull request already queued, the direct merge,
    the admin jobs, with `force_merge_queues`, `create_branch` and a bypassed build check as the stated exceptions —
    is `C03_full_step` below. -/
theorem C03_full_step_partial (w : World) (h : FullInv w) (c : Commit) (orc : List Bool)
    (hq : resolveCommit w c = .queues) (d : Dest) (new : Commit)
    (hnew : (step w (.commitEvent c) orc).1.sys.remote.get (.dest d) = some new)
    (hmoved : w.sys.remote.get (.dest d) ≠ some new) : w.host.status new = .successful := by
  unfold step at hnew
  simp only [hq] at hnew
  exact queuesJob_c03 h d new hnew hmoved

/-- ... and along every history without admin anomaly: at every queue evaluation of the history -/
theorem C03_full_run_partial (w : World) (h : FullInv w) (evs : List (FullEvent × List Bool)) (hna : NoAnomaly w evs)
    (k : Nat) (c : Commit) (orc : List Bool) (hq : resolveCommit (run w (evs.take k)) c = .queues) (d : Dest)
    (new : Commit)
    (hnew : (step (run w (evs.take k)) (.commitEvent c) orc).1.sys.remote.get (.dest d) = some new)
    (hmoved : (run w (evs.take k)).sys.remote.get (.dest d) ≠ some new) :
    (run w (evs.take k)).host.status new = .successful :=
  C03_full_step_partial _ (full_run_inv _ h (noAnomaly_take evs w hna k)) c orc hq d new hnew hmoved

/-- the build check of the evaluation of pull request `id` is bypassed: the option `bypass_build_status` (comment of
    a privileged user / command line), the per-author setting, or no build key is configured — the exception the
    property text makes -/
def EvalBypassed (w : World) (id : Nat) : Prop :=
  ∃ p st, w.host.pr id = some p ∧
    BertE.Reactor.handleComments w.cfg.eval.reg (BertE.Eval.envFor w.cfg.eval p) (BertE.Eval.seenComments w.cfg.eval p) = .ok st ∧
    BertE.C06.e2eBypassed w.cfg.eval p st

theorem planDeclined_dest (s : Sys) (pr : PrInfo) (cd : Bool) (d : Dest) :
    (Flow.step s (.evalDeclined pr cd)).1.remote.get (.dest d) = s.remote.get (.dest d) := by
  show (applyOps (planDeclined s pr cd).g noRej s.remote (planDeclined s pr cd).ops).get _ = _
  unfold planDeclined
  simp only
  split
  · rfl
  · apply dropW_other
    · intro r hr
      obtain ⟨d', _, hd'⟩ := List.mem_map.mp (List.mem_filter.mp hr).1
      exact ⟨d', pr.src, hd'.symm⟩
    · intro _ _ he; cases he

/-- C03 for ONE pull-request evaluation of the closed system (queues on): a destination branch that is
    somewhere else after the evaluation is on a commit whose status in the host's build table is SUCCESSFUL, unless
    the build check of this pull request is bypassed. Covers both ways an evaluation moves destinations: the pull
    request is found already queued (the queue merge on the selection computed from the host's table behind
    `validate()`), and the direct merge when the queue is not needed (`full2_directMerge_moves`: exactly the tips the
    build gate read). -/
theorem evalOne_c03 {w : World} (h : FullInv w) {msgs : List BertE.Gen.Messages.Msg}
    (hT : BertE.C06.TblOK w.cfg.eval.build msgs) (huq : w.sys.useQueue = true) (id : Nat) (orc : List Bool)
    (d : Dest) (new : Commit) (hnew : (evalOne w id orc).1.sys.remote.get (.dest d) = some new)
    (hmoved : w.sys.remote.get (.dest d) ≠ some new) :
    w.host.status new = .successful ∨ EvalBypassed w id := by
  rw [evalOne_sys] at hnew
  rcases evalEvent_cases w id orc with he | ⟨pr, cd, he⟩ | ⟨p, st, dst, stg, _, _, he, hdecl, hprq, hfinal⟩
  · -- stopped before the clone: nothing happens
    rw [he] at hnew
    exact absurd hnew hmoved
  · -- a declined pull request: integration branches are removed
    rw [he, planDeclined_dest] at hnew
    exact absurd hnew hmoved
  · -- the post-clone part
    rw [he] at hnew
    have hnew2 : (applyOps (planPr w.sys ⟨p.id, p.src, dst, BertE.Eval.opt st "no_octopus"⟩ stg orc (selOf w false)).g noRej
        w.sys.remote (planPr w.sys ⟨p.id, p.src, dst, BertE.Eval.opt st "no_octopus"⟩ stg orc (selOf w false)).ops).get
        (.dest d) = some new := hnew
    rcases full2_planPr_dest w.sys _ stg orc (selOf w false) d (by rw [hnew2]; exact fun he => hmoved he.symm) with
      ⟨_, hplan⟩ | ⟨hfin, hnq, sc, dc, l4, pushW, hsc, hdc, hprep, hneed, hplan⟩
    · -- already queued: the queue merge on the computed selection
      left
      rw [hplan] at hnew2
      unfold selOf at hnew2
      split at hnew2
      · exact BertE.C03.C03_step_closed w.sys h.inv h.validated w.host.status d new hnew2 hmoved
      · exact absurd (by simpa [planQueues, applyOps] using hnew2) hmoved
    · -- every gate passed and the queue is skipped: the direct merge, on the clone the build gate read
      subst hfin
      obtain ⟨p', st', src', pr', sc', dc', l4', pushW', he⟩ :=
        BertE.Eval.evalPr_entered hdecl (hfinal rfl) (by rw [hprq]; exact hnq)
      cases he.name.1.symm.trans hprq
      cases he.past.srcTip.symm.trans hsc
      cases he.past.dstTip.symm.trans hdc
      cases he.updated.symm.trans hprep
      rw [hplan] at hnew2
      obtain ⟨hd, hw⟩ := full2_directMerge_moves h.inv.wf h.sys.mono _ hsc hdc hprep huq hneed d new hnew2 hmoved
      rcases BertE.C06.e2e_build_pass hT he.build with hb | hg
      · exact Or.inr ⟨p', st', he.found, he.options, hb⟩
      · obtain ⟨cm, hcm, hst⟩ := hg d hd
        cases hw.symm.trans hcm
        exact Or.inl hst

theorem step_useQueue (s : Sys) (ev : Event) : (Flow.step s ev).1.useQueue = s.useQueue := by
  cases ev with
  | createBranch d c => cases d <;> rfl
  | deleteBranch d => cases d <;> rfl
  | extW d src => simp only [Flow.step]; split <;> rfl
  | _ => rfl

def SameFrame (w w' : World) : Prop := w'.cfg = w.cfg ∧ w'.sys.useQueue = w.sys.useQueue

private theorem SameFrame.refl (w : World) : SameFrame w w := ⟨rfl, rfl⟩

private theorem SameFrame.trans {a b c : World} (h1 : SameFrame a b) (h2 : SameFrame b c) : SameFrame a c :=
  ⟨h2.1.trans h1.1, h2.2.trans h1.2⟩

private theorem sameFrame_job (w : World) (ev : Event) (h : BertE.Eval.Host) (tags : BertE.Admin.Tags) (parents : List (Nat × Nat)) :
    SameFrame w (refresh ⟨(Flow.step w.sys ev).1, h, tags, parents, w.cfg⟩) := ⟨rfl, step_useQueue _ _⟩

private theorem prJob_sameFrame (w : World) (id : Nat) (orc : List Bool) : SameFrame w (prJob w id orc).1 := by
  unfold prJob
  split
  · exact sameFrame_job w _ _ _ _
  · exact SameFrame.refl w

private theorem resubmit_sameFrame (orc : List Bool) : ∀ (ids : List Nat) (k : Nat) (w : World), SameFrame w (resubmit orc ids k w).1
  | [], _, w => SameFrame.refl w
  | id :: ids, k, w => (prJob_sameFrame w id _).trans (resubmit_sameFrame orc ids (k + 1) _)

private theorem queuesJob_sameFrame (w : World) (force : Bool) : SameFrame w (queuesJob w force).1 := by
  unfold queuesJob
  split
  · exact SameFrame.refl w
  · exact sameFrame_job w _ _ _ _

theorem postMerged_builds (w : World) : ∀ (ids : List Nat) (h : BertE.Eval.Host), (postMerged w h ids).builds = h.builds
  | [], _ => rfl
  | _ :: ids, _ => postMerged_builds w ids _

theorem postFailed_builds (w : World) : ∀ (ids : List Nat) (h : BertE.Eval.Host), (postFailed w h ids).builds = h.builds
  | [], _ => rfl
  | _ :: ids, _ => postFailed_builds w ids _

theorem newChildren_builds (w : World) (pr : PrInfo) : ∀ (ds : List Dest) (acc : BertE.Eval.Host × List (Nat × Nat)),
    (ds.foldl (childStep w pr) acc).1.builds = acc.1.builds
  | [], _ => rfl
  | d :: ds, acc => by
    simp only [List.foldl_cons]
    rw [newChildren_builds w pr ds]
    unfold childStep
    split <;> rfl

private theorem evalOne_builds (w : World) (id : Nat) (orc : List Bool) : (evalOne w id orc).1.host.builds = w.host.builds := by
  have hc : ∀ (b : Bool) (x : BertE.Eval.Host) (pr : PrInfo) (ds : List Dest),
      (if b then newChildren w x pr ds else (x, [])).1.builds = x.builds := fun b x pr ds => by
    cases b
    · rfl
    · exact newChildren_builds w pr ds (x, [])
  have hd : ∀ (b : Bool) (x : BertE.Eval.Host) (pr : PrInfo) (ds : List Dest),
      (if b then declineChildren x pr ds else x).builds = x.builds := fun b x pr ds => by cases b <;> rfl
  show (if _ then declineChildren _ _ _ else _).builds = _
  rw [hd, hc, postFailed_builds, postMerged_builds]
  rfl

private theorem prJob_builds (w : World) (id : Nat) (orc : List Bool) : (prJob w id orc).1.host.builds = w.host.builds := by
  unfold prJob
  split
  · exact evalOne_builds w _ orc
  · rfl

theorem status_of_builds {h h' : BertE.Eval.Host} (hb : h'.builds = h.builds) (c : Commit) : h'.status c = h.status c := by
  unfold BertE.Eval.Host.status; rw [hb]

/-- the pull request a job is about, when it is one: is its build check bypassed? -/
def TargetBypassed (w : World) : BertE.Prs.Target → Prop
  | .pr p => EvalBypassed w p
  | _ => False

theorem prJob_c03 {w : World} (h : FullInv w) {msgs : List BertE.Gen.Messages.Msg}
    (hT : BertE.C06.TblOK w.cfg.eval.build msgs) (huq : w.sys.useQueue = true) (id : Nat) (orc : List Bool)
    (d : Dest) (new : Commit) (hnew : (prJob w id orc).1.sys.remote.get (.dest d) = some new)
    (hmoved : w.sys.remote.get (.dest d) ≠ some new) :
    w.host.status new = .successful ∨ TargetBypassed w (resolvePr w id) := by
  unfold prJob at hnew
  split at hnew
  · rename_i p hp
    rw [hp]
    exact evalOne_c03 h hT huq p orc d new hnew hmoved
  · exact absurd hnew hmoved

/-- one of the evaluations a queue rebuild re-submits has its build check bypassed -/
def ResubBypassed (orc : List Bool) : List Nat → Nat → World → Prop
  | [], _, _ => False
  | id :: ids, k, w => TargetBypassed w (resolvePr w id) ∨
      ResubBypassed orc ids (k + 1) (prJob w id (orc.drop (16 * k))).1

theorem resubmit_c03 {msgs : List BertE.Gen.Messages.Msg} (orc : List Bool) : ∀ (ids : List Nat) (k : Nat) {w : World},
    FullInv w → BertE.C06.TblOK w.cfg.eval.build msgs → w.sys.useQueue = true → ∀ (d : Dest) (new : Commit),
    (resubmit orc ids k w).1.sys.remote.get (.dest d) = some new → w.sys.remote.get (.dest d) ≠ some new →
    w.host.status new = .successful ∨ ResubBypassed orc ids k w
  | [], _, _, _, _, _, d, new, hnew, hmoved => absurd hnew hmoved
  | id :: ids, k, w, h, hT, huq, d, new, hnew, hmoved => by
    unfold resubmit at hnew
    simp only at hnew
    obtain ⟨hcfg, hu⟩ := prJob_sameFrame w id (orc.drop (16 * k))
    have hb := prJob_builds w id (orc.drop (16 * k))
    by_cases h1 : (prJob w id (orc.drop (16 * k))).1.sys.remote.get (.dest d) = some new
    · rcases prJob_c03 h hT huq id _ d new h1 hmoved with hs | hs
      · exact Or.inl hs
      · exact Or.inr (Or.inl hs)
    · rcases resubmit_c03 orc ids (k + 1) (prJob_inv h id _) (by rw [hcfg]; exact hT) (by rw [hu]; exact huq) d new hnew h1
        with hs | hs
      · left; rw [← status_of_builds hb]; exact hs
      · exact Or.inr (Or.inr hs)

theorem dropQueues_dest (s : Sys) (d : Dest) :
    (Flow.step s .dropQueues).1.remote.get (.dest d) = s.remote.get (.dest d) := by
  show (applyOps (planDropQueues s).g noRej s.remote (planDropQueues s).ops).get _ = _
  unfold planDropQueues
  simp only
  split
  · rfl
  · simp only [applyOps, List.foldl_cons, List.foldl_nil]
    rcases pushAll_apply s.g s.remote (delRefs s.remote (allQRefs s.remote)) with h | h
    · rw [h]; exact drop_other _ _ ⟨(fun _ he => by cases he), (fun _ _ _ he => by cases he)⟩
    · rw [h]

theorem deleteBranch_dest (s : Sys) (d0 d : Dest) (new : Commit)
    (h : (Flow.step s (.deleteBranch d0)).1.remote.get (.dest d) = some new) : s.remote.get (.dest d) = some new := by
  rw [step_deleteBranch_get] at h
  split at h
  · cases h
  · exact h

theorem deleteJob_dest (w : World) (name : Ref) (d : Dest) (new : Commit)
    (h : (deleteJob w name).1.sys.remote.get (.dest d) = some new) : w.sys.remote.get (.dest d) = some new := by
  unfold deleteJob at h
  simp only at h
  have h' := (get_delRefs_eq_some.mp h).2
  split at h'
  · exact deleteBranch_dest _ _ _ _ h'
  · exact h'

theorem deleteQueues_resubmit (st : BertE.Admin.Repo) : (BertE.Admin.deleteQueues st).resubmit = [] := by
  unfold BertE.Admin.deleteQueues
  split
  · rfl
  · dsimp only
    split
    · rfl
    · split <;> rfl

theorem external_dest (w : World) (ok : Bool) (ev : Event)
    (hev : ∀ d, (Flow.step w.sys ev).1.remote.get (.dest d) = w.sys.remote.get (.dest d)) (d : Dest) :
    (external w ok ev).1.sys.remote.get (.dest d) = w.sys.remote.get (.dest d) := by
  unfold external
  split
  · exact hev d
  · rfl

/-- the exceptions the property text makes: the admin force merge, `create_branch` (a new branch starts where the
    admin says), and a pull request whose build check is bypassed (option, per-author setting, no build key) — for the
    evaluation the event is, or for one of the evaluations a queue rebuild re-submits -/
def C03Exempt (w : World) (ev : FullEvent) (orc : List Bool) : Prop :=
  match ev with
  | .forceMergeQueues => True
  | .createBranch _ _ => True
  | .prEvent id => TargetBypassed w (resolvePr w id)
  | .commitEvent c => TargetBypassed w (resolveCommit w c)
  | .rebuildQueues =>
    ResubBypassed orc (BertE.Admin.rebuildQueues w.cfg.cascade (repoOf w)).resubmit 0
      (refresh { w with sys := (Flow.step w.sys .dropQueues).1 })
  | _ => False

/-- C03 over the closed system, EVERY event. With queues on, for every world that satisfies the invariant, every
    event — webhook, admin job, third-party action on the repository or the host — and every list of content-merge
    answers: every destination branch that is on another commit after the event than before is on a commit whose
    status in the host's build table AT THE TIME OF THE EVENT is SUCCESSFUL, unless the event is exempt
    (`C03Exempt`: `force_merge_queues`, a `create_branch`, or the build check of the evaluated pull request — for a
    queue rebuild: of one of the re-submitted pull requests — is bypassed by option, per-author setting or missing
    build key). No hypothesis on selections, statuses, integration branches: `chained` of `C03_direct_e2e_partial` is
    derived from the evaluation itself (`full2_prepare_chained`), `hfirst` is not needed (with antisymmetric commit
    inclusion — part of the invariant — the direct merge lands EXACTLY on the tips the build gate read:
    `full2_directMerge_exact`). `hT`: the build-gate table is well-formed (`C06_table` for the source's).
    (`¬ AdminAnomaly` is not needed for one event: D19's exit only deletes.) -/
theorem C03_full_step (w : World) (h : FullInv w) {msgs : List BertE.Gen.Messages.Msg}
    (hT : BertE.C06.TblOK w.cfg.eval.build msgs) (huq : w.sys.useQueue = true) (ev : FullEvent) (orc : List Bool)
    (d : Dest) (new : Commit) (hnew : (step w ev orc).1.sys.remote.get (.dest d) = some new)
    (hmoved : w.sys.remote.get (.dest d) ≠ some new) :
    w.host.status new = .successful ∨ C03Exempt w ev orc := by
  -- a third party does not write to a destination branch
  have hext : ∀ ok e, (∀ d, (Flow.step w.sys e).1.remote.get (.dest d) = w.sys.remote.get (.dest d)) →
      (external w ok e).1.sys.remote.get (.dest d) = some new → w.host.status new = .successful ∨ C03Exempt w ev orc :=
    fun ok e he hn => absurd (external_dest w ok e he d ▸ hn) hmoved
  cases ev with
  | prEvent id => exact prJob_c03 h hT huq id orc d new hnew hmoved
  | commitEvent c =>
    unfold step at hnew
    simp only at hnew
    split at hnew
    · exact .inl (queuesJob_c03 h d new hnew hmoved)
    · rename_i p hp
      show _ ∨ TargetBypassed w (resolveCommit w c)
      rw [hp]
      exact evalOne_c03 h hT huq p orc d new hnew hmoved
    · exact absurd hnew hmoved
  | createBranch name from_ => exact Or.inr trivial
  | forceMergeQueues => exact Or.inr trivial
  | deleteBranch name => exact absurd (deleteJob_dest w name d new hnew) hmoved
  | rebuildQueues =>
    have hnew' : (dropJob w true orc).1.sys.remote.get (.dest d) = some new := hnew
    unfold dropJob at hnew'
    simp only [if_true] at hnew'
    split at hnew'
    · exact resubmit_c03 orc _ 0 (dropWorld_inv h) hT ((step_useQueue _ _).trans huq) d new hnew'
        (fun hh => hmoved ((dropQueues_dest w.sys d).symm.trans hh))
    · exact absurd hnew' hmoved
  | deleteQueues =>
    have hnew' : (dropJob w false orc).1.sys.remote.get (.dest d) = some new := hnew
    unfold dropJob at hnew'
    simp only [Bool.false_eq_true, if_false] at hnew'
    split at hnew'
    · rw [deleteQueues_resubmit] at hnew'
      exact absurd ((dropQueues_dest w.sys d).symm.trans hnew') hmoved
    · exact absurd hnew' hmoved
  | push name parents onTop => exact hext _ (.extSet name parents onTop) (fun d => RefMap.get_set_ne _ _ (fun he => nomatch he)) hnew
  | pushTo name c => exact hext _ (.extPoint name c) (fun d => RefMap.get_set_ne _ _ (fun he => nomatch he)) hnew
  | deleteRef name => exact hext _ (.extDelete name) (fun d => RefMap.get_del_ne _ (fun he => nomatch he)) hnew
  | wCommit d0 src =>
    refine hext _ (.extW d0 src) (fun d => ?_) hnew
    simp only [Flow.step]
    split
    · exact RefMap.get_set_ne _ _ (fun he => nomatch he)
    · rfl
  | _ => exact absurd hnew hmoved   -- an event on the host leaves the repository alone

theorem step_sameFrame (w : World) (ev : FullEvent) (orc : List Bool) : SameFrame w (step w ev orc).1 := by
  have hext : ∀ ok e, SameFrame w (external w ok e).1 := by
    intro ok e
    unfold external
    split
    · exact sameFrame_job w _ _ _ _
    · exact SameFrame.refl w
  have hdrop : ∀ b, SameFrame w (dropJob w b orc).1 := by
    intro b
    unfold dropJob
    generalize (if b then BertE.Admin.rebuildQueues w.cfg.cascade (repoOf w) else BertE.Admin.deleteQueues (repoOf w)) = r
    dsimp only
    split
    · exact (sameFrame_job w .dropQueues _ _ _).trans (resubmit_sameFrame orc _ 0 _)
    · exact SameFrame.refl w
  cases ev with
  | prEvent id => exact prJob_sameFrame w id orc
  | commitEvent c =>
    unfold step
    simp only
    split
    · exact queuesJob_sameFrame w false
    · exact sameFrame_job w _ _ _ _
    · exact SameFrame.refl w
  | createBranch name from_ =>
    show SameFrame w (createJob w name from_ orc).1
    unfold createJob
    simp only
    split
    · split
      · split
        · exact (sameFrame_job w (.createBranch _ _) _ _ _).trans (resubmit_sameFrame orc _ 0 _)
        · rename_i d c _ _ _ _
          exact ⟨rfl, by cases d <;> rfl⟩
      · exact SameFrame.refl w
    · exact SameFrame.refl w
  | deleteBranch name =>
    show SameFrame w (deleteJob w name).1
    unfold deleteJob
    simp only
    refine ⟨rfl, ?_⟩
    show (match name, _ with | .dest d, true => (Flow.step w.sys (.deleteBranch d)).1 | _, _ => w.sys).useQueue = _
    split
    · exact step_useQueue _ _
    · rfl
  | rebuildQueues => exact hdrop true
  | deleteQueues => exact hdrop false
  | forceMergeQueues =>
    unfold step
    simp only
    split
    · exact queuesJob_sameFrame w true
    · exact SameFrame.refl w
  | push name parents onTop => exact hext _ _
  | pushTo name c => exact hext _ _
  | deleteRef name => exact hext _ _
  | wCommit d src => exact hext _ _
  | _ => exact SameFrame.refl w

private theorem run_sameFrame : ∀ (evs : List (FullEvent × List Bool)) (w : World), SameFrame w (run w evs)
  | [], w => SameFrame.refl w
  | e :: es, w => (step_sameFrame w e.1 e.2).trans (run_sameFrame es _)

/-- C03 over the closed system, every finite history: with queues on, after EVERY event of EVERY history without
    the anomalous exit D19 (whatever the events are, whatever git's content merges answer), every destination branch
    that moved in that event is on a commit whose status in the host's build table at that time is SUCCESSFUL, unless
    the event is exempt (`C03Exempt`). `k` = the number of events before, `e` = the next event of the history. -/
theorem C03_full_run (w : World) (h : FullInv w) {msgs : List BertE.Gen.Messages.Msg}
    (hT : BertE.C06.TblOK w.cfg.eval.build msgs) (huq : w.sys.useQueue = true)
    (evs : List (FullEvent × List Bool)) (hna : NoAnomaly w evs) (k : Nat) (e : FullEvent × List Bool)
    (d : Dest) (new : Commit)
    (hnew : (step (run w (evs.take k)) e.1 e.2).1.sys.remote.get (.dest d) = some new)
    (hmoved : (run w (evs.take k)).sys.remote.get (.dest d) ≠ some new) :
    (run w (evs.take k)).host.status new = .successful ∨ C03Exempt (run w (evs.take k)) e.1 e.2 := by
  obtain ⟨hc, hu⟩ := run_sameFrame (evs.take k) w
  exact C03_full_step _ (full_run_inv _ h (noAnomaly_take evs w hna k)) (by rw [hc]; exact hT) (by rw [hu]; exact huq)
    e.1 e.2 d new hnew hmoved

def exCfg : Cfg := ⟨BertE.C06.exCfg, BertE.Drv.C09.genCfg, BertE.Drv.C20.genLits⟩

/-- the repository the history starts from: one commit, development/4.3 and development/5.1 on it, queues off -/
def exBase : Sys :=
  Flow.run ⟨Graph.empty, [], [], [], [], false, false⟩
    [.extSet "seed" [] false, .createBranch (.dev 4 (some 3)) 0, .createBranch (.dev 5 (some 1)) 0]

def exWorld : World := ⟨exBase, ⟨[], [], []⟩, [], [], exCfg⟩

/-- both initial worlds (`exWorld`: queues off, `exWorldQ`: queues on and skipped when not needed) -/
private theorem exSeed_inv (b : Bool) : FullInv ⟨Flow.run ⟨Graph.empty, [], [], [], [], b, b⟩
    [.extSet "seed" [] false, .createBranch (.dev 4 (some 3)) 0, .createBranch (.dev 5 (some 1)) 0],
    ⟨[], [], []⟩, [], [], exCfg⟩ := by
  cases b
  all_goals
    refine ⟨?_, fun e he => ?_, fun p hp => (nomatch hp), BertE.C20.C20_table.1⟩
    · apply BertE.Full2.full2_run_sysInv _ (BertE.Full2.full2_sysInv_init _ _)
      refine ⟨⟨fun p hp => (nomatch hp), trivial⟩, ⟨⟨by decide, by decide, ?_⟩, trivial⟩, ⟨⟨by decide, by decide, ?_⟩, trivial⟩,
        trivial⟩
      · exact BertE.Select.inclOn_const (c0 := 0) (by decide +kernel) (by decide +kernel)
      · exact BertE.Select.inclOn_const (c0 := 0) (by decide +kernel) (by decide +kernel)
    · exact absurd he (List.eq_nil_iff_forall_not_mem.mp (by decide +kernel) e)

theorem exWorld_inv : FullInv exWorld := exSeed_inv false

/-- somebody pushes a feature branch, opens a pull request, an approval and a comment arrive, the build of the tip is
    reported; the webhook evaluates: the integration branch is created and the pull request is merged into both
    branches (queues off); then admin jobs: the deletion of a branch that is not a destination is refused,
    development/4.3 is deleted (archive tag), a second deletion finds nothing, the queue jobs are not for a robot
    without queues. (`create_branch` runs the C09 cascade model, which the kernel does not evaluate by `decide`; it is
    exercised by the tie.) -/
def exHistory : List (FullEvent × List Bool) :=
  [(.push "feature/TEST-1" [0] false, []),
   (.openPr "contrib" "feature/TEST-1" "development/4.3" {}, []),
   (.prEvent 1, []),
   (.approve 1 "admin", []),
   (.comment 1 "admin" "hello".toList, []),
   (.buildStatus 1 .successful, []),
   (.prEvent 1, []),
   (.deleteBranch (.other "feature/TEST-1"), []),
   (.deleteBranch (.dest (.dev 4 (some 3))), []),
   (.deleteBranch (.dest (.dev 4 (some 3))), []),
   (.rebuildQueues, []),
   (.forceMergeQueues, [])]

/-- the classes the events of a history end with -/
def classes (w : World) : List (FullEvent × List Bool) → List String
  | [] => []
  | e :: es => (step w e.1 e.2).2.cls :: classes (step w e.1 e.2).1 es

/-- Non-vacuity: the invariant holds of `exWorld`; the 12 events run through `Full.step` end as listed; the
    merge really moves both branches to the source tip (commit 1), whose status in the host's table is SUCCESSFUL;
    the pull request is MERGED on the host; the deleted branch is gone and its archive tag is there. -/
example : classes exWorld exHistory =
      ["external", "host", "BuildNotStarted", "host", "host", "host", "SuccessMessage", "JobFailure", "JobSuccess",
       "NothingToDo", "NotMyJob", "NotMyJob"] ∧
    (run exWorld (exHistory.take 7)).sys.remote.get (.dest (.dev 4 (some 3))) = some 1 ∧
    (run exWorld (exHistory.take 7)).sys.remote.get (.dest (.dev 5 (some 1))) = some 1 ∧
    exWorld.sys.remote.get (.dest (.dev 5 (some 1))) = some 0 ∧
    (run exWorld (exHistory.take 7)).host.status 1 = .successful ∧
    (run exWorld exHistory).host.prs.map (·.status) = ["MERGED"] ∧
    (run exWorld exHistory).sys.remote.get (.dest (.dev 4 (some 3))) = none ∧
    (run exWorld exHistory).tags = [("4.3", 1)] := by decide +kernel

example := C01_full_step exWorld exWorld_inv (.prEvent 1) [] (fun h => h)

/-! Non-vacuity of `C03_full_step` / `C03_full_run`: the same repository with queues ON and
    `skip_queue_when_not_needed`. -/

def exBaseQ : Sys :=
  Flow.run ⟨Graph.empty, [], [], [], [], true, true⟩
    [.extSet "seed" [] false, .createBranch (.dev 4 (some 3)) 0, .createBranch (.dev 5 (some 1)) 0]

def exWorldQ : World := ⟨exBaseQ, ⟨[], [], []⟩, [], [], exCfg⟩

theorem exWorldQ_inv : FullInv exWorldQ := exSeed_inv true

/-- a feature branch, a pull request, a first evaluation (integration branch `w/5.1/feature/TEST-1` created, build not
    started), an approval, the build of commit 1 reported SUCCESSFUL; the next webhook merges DIRECTLY (nothing is
    queued, every integration branch contains its target: the queue is skipped) -/
def exHistoryQ : List (FullEvent × List Bool) :=
  [(.push "feature/TEST-1" [0] false, []),
   (.openPr "contrib" "feature/TEST-1" "development/4.3" {}, []),
   (.prEvent 1, []),
   (.approve 1 "admin", []),
   (.buildStatus 1 .successful, []),
   (.prEvent 1, [])]

/-- the history runs as described: the last event is a direct merge with queues on that moves BOTH development
    branches from commit 0 to commit 1. ONE kernel evaluation for both examples below: the last conjunct is the fourth
    in the syntactic form in which `C03_full_run` asks for it (otherwise the elaborator re-runs the history). -/
private theorem exHistoryQ_runs :
    (classes exWorldQ exHistoryQ = ["external", "host", "BuildNotStarted", "host", "host", "SuccessMessage"] ∧
    exWorldQ.sys.useQueue = true ∧
    (run exWorldQ (exHistoryQ.take 5)).sys.remote.get (.dest (.dev 5 (some 1))) = some 0 ∧
    (run exWorldQ exHistoryQ).sys.remote.get (.dest (.dev 5 (some 1))) = some 1 ∧
    (run exWorldQ exHistoryQ).sys.remote.get (.dest (.dev 4 (some 3))) = some 1) ∧
    (step (run exWorldQ (exHistoryQ.take 5)) (FullEvent.prEvent 1, ([] : List Bool)).1
      (FullEvent.prEvent 1, ([] : List Bool)).2).1.sys.remote.get (.dest (.dev 5 (some 1))) = some 1 := by decide +kernel

example : classes exWorldQ exHistoryQ = ["external", "host", "BuildNotStarted", "host", "host", "SuccessMessage"] ∧
    exWorldQ.sys.useQueue = true ∧
    (run exWorldQ (exHistoryQ.take 5)).sys.remote.get (.dest (.dev 5 (some 1))) = some 0 ∧
    (run exWorldQ exHistoryQ).sys.remote.get (.dest (.dev 5 (some 1))) = some 1 ∧
    (run exWorldQ exHistoryQ).sys.remote.get (.dest (.dev 4 (some 3))) = some 1 := exHistoryQ_runs.1

/-- ... and `C03_full_run` applied to it: commit 1 is SUCCESSFUL in the host's table at that time, or the evaluation
    is exempt -/
example : (run exWorldQ (exHistoryQ.take 5)).host.status 1 = .successful ∨
    C03Exempt (run exWorldQ (exHistoryQ.take 5)) (.prEvent 1) [] :=
  C03_full_run exWorldQ exWorldQ_inv BertE.C06.C06_table rfl exHistoryQ
    ⟨fun h => h, fun h => h, fun h => h, fun h => h, fun h => h, fun h => h, trivial⟩ 5 (.prEvent 1, [])
    (.dev 5 (some 1)) 1 exHistoryQ_runs.2 (fun h => nomatch exHistoryQ_runs.1.2.2.1.symm.trans h)

example := C03_full_step exWorldQ exWorldQ_inv BertE.C06.C06_table rfl (.prEvent 1) []

end BertE.Full
