import BertE.Gen.Dispatcher
import BertE.Model.Dispatcher
import BertE.Lemmas.Dispatcher
import BertE.Drv.C13
/-
C13 — no lost event, the worker never dies.

"Every webhook or API request that the server accepts is followed by an evaluation of the corresponding
pull request, commit or admin job that starts after the request was accepted: duplicate suppression drops
a job only while an equal job is still waiting, never because an equal job is currently running or already
done. Whatever a job raises, the worker keeps serving, records the job as finished with its status, and
clears the current-job marker."

The theorems are about ALL traces of the transition system of `Model/Dispatcher` (any number of request
threads, requests and keys, any interleaving; induction on the trace), from ANY start state where a start
state is not named. They are parametric in the data of the dispatcher (`Cfg`); `CfgOK` is the decidable
predicate that says what the property needs of that data and `C13_cfg` discharges it on the tables
regenerated from the source.

Reading guide: `accept t j` = thread `t` enters `put_job(j)` (the request has been received and turned
into job object `j`); `put t j` / `skip t j` = `put_job` returns normally (the request is answered 200/202),
`checkFail t` = `put_job` raises (the request is answered 500: not accepted); `get j` = the worker starts
the evaluation of `j`.
-/
namespace BertE.C13
open BertE.Dispatcher

/-- the outcomes the property quantifies over: no exception, or an `Exception` of one of the families
    silent / template / internal / API-job failure / any other `Exception`. (`Family.exit` is a
    `BaseException` that is not an `Exception` — SystemExit, KeyboardInterrupt, i.e. a request to stop the
    process — and is outside the property; the model still says what happens: `C13_scope_exit`.) -/
def Out.isException : Out → Bool
  | .ok => true
  | .raised f _ => f != .exit

def jobFamilies : List Family := [.silent, .template, .internal, .failure, .other]

/-- What the property needs of the source's data:
    * the membership test of `put_job` looks neither at the running job nor at the finished jobs
      (whether it looks at the waiting jobs is free);
    * a job class's `__eq__` accepts only its own class and compares what the job is about, and jobs
      without a key have no `__eq__`;
    * in `process_task`: `self.process(job)` is the only effectful statement of the `try` body; the handler
      catches every family and records the status; the `finally` block appends to `tasks_done` and pops the
      current-job marker, once each (in either order; other statements are free); nothing effectful after it;
      `tasks_done` holds at least one entry. -/
def CfgOK (cfg : Cfg) : Prop :=
  cfg.dedupCurrent = false ∧ cfg.dedupDone = false ∧
  cfg.eqs.all (fun e => [Kind.pr, Kind.commit, Kind.admin].all (fun k =>
      e.1 != k.cls || (e.2.1 == k.cls && e.2.2.contains k.keyPath && k != .admin))) = true ∧
  cfg.tryOps.filter Op.eff = [.process] ∧
  jobFamilies.all (fun f => caught cfg f) = true ∧
  cfg.handlerOps.filter Op.effH = [.setStatus] ∧
  (cfg.finallyOps.filter Op.eff = [.appendDone, .popCurrent] ∨
   cfg.finallyOps.filter Op.eff = [.popCurrent, .appendDone]) ∧
  cfg.afterOps.filter Op.eff = [] ∧
  1 ≤ cfg.doneMax

instance (cfg : Cfg) : Decidable (CfgOK cfg) := by unfold CfgOK; infer_instance

/-- Table obligation: the dispatcher found in the current source is well-formed. -/
theorem C13_cfg : CfgOK BertE.Drv.C13.genCfg := by decide +kernel

section
variable {cfg : Cfg}

private theorem Kind.cls_inj {a b : Kind} (h : a.cls = b.cls) : a = b := by
  cases a <;> cases b <;> simp [Kind.cls] at h <;> rfl

private theorem eq_entry (h : CfgOK cfg) {a : Job} {c inst : String} {paths : List String}
    (hf : cfg.eqs.find? (fun e => e.1 == a.kind.cls) = some (c, inst, paths)) :
    a.kind ≠ .admin ∧ inst = a.kind.cls ∧ a.kind.keyPath ∈ paths := by
  obtain ⟨_, _, heq, _⟩ := h
  have hc : c = a.kind.cls := by simpa using List.find?_some hf
  have hk : a.kind ∈ [Kind.pr, .commit, .admin] := by cases a.kind <;> simp
  have := List.all_eq_true.mp (List.all_eq_true.mp heq _ (List.mem_of_find?_eq_some hf)) _ hk
  simp only [hc, bne_self_eq_false, Bool.false_or, Bool.and_eq_true, beq_iff_eq, bne_iff_ne, ne_eq,
    List.contains_eq_mem, decide_eq_true_eq] at this
  exact ⟨this.2, this.1.1, this.1.2⟩

/-- "the corresponding pull request, commit or admin job": two jobs that `__eq__` identifies are the same
    object, or are of the same keyed kind and about the same pull request / commit. -/
theorem C13_same_target (h : CfgOK cfg) {a b : Job} (hs : same cfg a b = true) :
    a.id = b.id ∨ (a.kind = b.kind ∧ a.kind ≠ .admin ∧ a.key = b.key) := by
  unfold same at hs
  split at hs
  · exact Or.inl (by simpa using hs)
  · rename_i c inst paths hf
    obtain ⟨hna, hi, hp⟩ := eq_entry h hf
    simp only [Bool.and_eq_true, beq_iff_eq, Bool.or_eq_true, Bool.not_eq_true', List.contains_eq_mem,
      decide_eq_false_iff_not] at hs
    obtain ⟨hb, hk⟩ := hs
    refine Or.inr ⟨(Kind.cls_inj (hb.trans hi)).symm, hna, ?_⟩
    rcases hk with hk | hk
    · exact absurd hp hk
    · exact hk

private theorem same_refl (h : CfgOK cfg) (a : Job) : same cfg a a = true := by
  unfold same
  split
  · simp
  · rename_i c inst paths hf
    obtain ⟨_, hi, _⟩ := eq_entry h hf
    simp [hi]

private theorem found_pending (h : CfgOK cfg) {s : State} {j : Job} (hf : found cfg s j = true) :
    ∃ j' ∈ s.pending, same cfg j' j = true := by
  obtain ⟨hc, hd, _⟩ := h
  simp only [found, hc, hd, Bool.false_and, Bool.or_false, Bool.and_eq_true, List.any_eq_true] at hf
  exact hf.2

private def Served (cfg : Cfg) (tr : List Act) (st : State) (j : Job) : Prop :=
  (∃ (m : Nat) (j' : Job), tr[m]? = some (.get j') ∧ same cfg j' j = true)
    ∨ (∃ j' ∈ st.pending, same cfg j' j = true)

private theorem Served.cons {tr : List Act} {st : State} {j : Job} (a : Act) (hs : Served cfg tr st j) :
    Served cfg (a :: tr) st j :=
  hs.imp_left fun ⟨m, j', hm, hs⟩ => ⟨m + 1, j', by simpa using hm, hs⟩

private theorem served_of_waiting {s st : State} {tr : List Act} {j : Job} (hr : run cfg s tr = some st)
    (hw : ∃ j' ∈ s.pending, same cfg j' j = true) : Served cfg tr st j := by
  obtain ⟨j', hj', hsame⟩ := hw
  exact (pending_persist hr hj').imp (fun ⟨m, hm⟩ => ⟨m, j', hm, hsame⟩) (fun hm => ⟨j', hm, hsame⟩)

/-- `C13_no_lost` from any state; the last hypothesis covers a thread that had already seen an equal waiting job
    at the start -/
private theorem served (h : CfgOK cfg) {tr : List Act} : ∀ {s st : State} {k t : Nat} {j : Job},
    run cfg s tr = some st →
    (tr[k]? = some (.put t j) ∨ tr[k]? = some (.skip t j)) →
    (s.pc t = .checked j true → ∃ j' ∈ s.pending, same cfg j' j = true) →
    Served cfg tr st j := by
  induction tr with
  | nil => intro s st k t j _ hk; simp at hk
  | cons a tr ih =>
    intro s st k t j hr hk hw
    obtain ⟨s1, h1, h2⟩ := run_cons hr
    cases k with
    | zero =>
      simp only [List.getElem?_cons_zero, Option.some.injEq] at hk
      rcases hk with rfl | rfl
      · -- put: j itself waits from now on
        exact (served_of_waiting h2 ⟨j, by rw [(step_some h1).2]; simp, same_refl h j⟩).cons _
      · exact served_of_waiting hr (hw (step_some h1).1)
    | succ k =>
      simp only [List.getElem?_cons_succ] at hk
      by_cases hpc : s.pc t = .checked j true
      · exact served_of_waiting hr (hw hpc)
      · refine (ih h2 hk fun hpc1 => ?_).cons _
        by_cases hta : a.thread? = some t
        · obtain ⟨_, _, hf, hp⟩ := step_thread_checked h1 hta hpc1
          rw [hp]
          exact found_pending h hf
        · exact absurd (by rw [← step_pc_other h1 hta]; exact hpc1) hpc

/-- No lost event. In every trace, from any state: if thread `t` entered `put_job(j)` at position `i`
    and `put_job(j)` returned normally at a later position (the job was enqueued, or skipped as a duplicate),
    then the worker starts a job equal to `j` at a position AFTER `i`, or such a job is still waiting in the
    final state (and is then started by a later `get`: `C13_fifo_progress`, `C13_worker`). -/
theorem C13_no_lost (h : CfgOK cfg) {s0 st : State} {tr : List Act} (hr : run cfg s0 tr = some st)
    {i k t : Nat} {j : Job} (ha : tr[i]? = some (.accept t j)) (hik : i < k)
    (hret : tr[k]? = some (.put t j) ∨ tr[k]? = some (.skip t j)) :
    (∃ (m : Nat) (j' : Job), i < m ∧ tr[m]? = some (.get j') ∧ same cfg j' j = true)
      ∨ (∃ j' ∈ st.pending, same cfg j' j = true) := by
  obtain ⟨hi, hget⟩ := List.getElem?_eq_some_iff.mp ha
  have hsplit : tr = tr.take i ++ (Act.accept t j :: tr.drop (i + 1)) := by
    rw [← hget, List.getElem_cons_drop, List.take_append_drop]
  rw [hsplit] at hr
  obtain ⟨si, _, hr2⟩ := run_append hr
  obtain ⟨s1, h1, h2⟩ := run_cons hr2
  have hpc : s1.pc t = .accepted j := by rw [(step_some h1).2.2]; simp [setPc]
  have hk : ∀ a, tr[k]? = some a → (tr.drop (i + 1))[k - (i + 1)]? = some a := by
    intro a hka
    rw [List.getElem?_drop, show i + 1 + (k - (i + 1)) = k by omega]
    exact hka
  rcases served h h2 (hret.imp (hk _) (hk _)) (by intro hc; rw [hpc] at hc; cases hc) with ⟨m, j', hm, hs⟩ | hp
  · refine Or.inl ⟨i + 1 + m, j', by omega, ?_, hs⟩
    rw [List.getElem?_drop] at hm
    exact hm
  · exact Or.inr hp

/-- what the membership test answers depends on the waiting jobs only: an equal job that is running
    (`current`) or finished (`done`) never makes it answer "found" -/
theorem C13_check_ignores_running_and_done (h : CfgOK cfg) (s s' : State) (j : Job)
    (hp : s.pending = s'.pending) : found cfg s j = found cfg s' j := by
  obtain ⟨hc, hd, _⟩ := h
  simp [found, hc, hd, hp]

private theorem skip_traced {tr : List Act} : ∀ {s st : State} {k t : Nat} {j : Job},
    run cfg s tr = some st → tr[k]? = some (.skip t j) →
    (s.pc t = .checked j true ∧ ∀ (m : Nat) (a : Act), m < k → tr[m]? = some a → a.thread? ≠ some t) ∨
    (∃ (c : Nat) (sc : State), c < k ∧ run cfg s (tr.take c) = some sc ∧ tr[c]? = some (.check t true) ∧
        sc.pc t = .accepted j ∧ found cfg sc j = true ∧
        ∀ (m : Nat) (a : Act), c < m → m < k → tr[m]? = some a → a.thread? ≠ some t) := by
  induction tr with
  | nil => intro s st k t j _ hk; simp at hk
  | cons a tr ih =>
    intro s st k t j hr hk
    obtain ⟨s1, h1, h2⟩ := run_cons hr
    cases k with
    | zero =>
      simp only [List.getElem?_cons_zero, Option.some.injEq] at hk
      subst hk
      exact Or.inl ⟨(step_some h1).1, by intro m a hm; omega⟩
    | succ k =>
      simp only [List.getElem?_cons_succ] at hk
      rcases ih h2 hk with ⟨hpc1, hno⟩ | ⟨c, sc, hck, hrun, hc, hpc, hf, hno⟩
      · by_cases hta : a.thread? = some t
        · obtain ⟨rfl, hpc, hf, _⟩ := step_thread_checked h1 hta hpc1
          refine Or.inr ⟨0, s, by omega, rfl, rfl, hpc, hf, ?_⟩
          intro m a hm0 hmk hma
          cases m with
          | zero => omega
          | succ m => exact hno m a (by omega) (by simpa using hma)
        · refine Or.inl ⟨by rw [← step_pc_other h1 hta]; exact hpc1, ?_⟩
          intro m a' hmk hma
          cases m with
          | zero => simp only [List.getElem?_cons_zero, Option.some.injEq] at hma; subst hma; exact hta
          | succ m => exact hno m a' (by omega) (by simpa using hma)
      · refine Or.inr ⟨c + 1, sc, by omega, by simp only [List.take_succ_cons, run, h1, hrun],
          by simpa using hc, hpc, hf, ?_⟩
        intro m a' hcm hmk hma
        cases m with
        | zero => omega
        | succ m => exact hno m a' (by omega) (by omega) (by simpa using hma)

/-- Duplicate suppression only against waiting jobs. Whenever `put_job(j)` of thread `t` returns without
    enqueuing (position `k`), the membership test of that call (position `c`, the last action of `t` before
    `k`) was made in a state `sc` where a job equal to `j` was WAITING; by
    `C13_check_ignores_running_and_done` nothing else in `sc` matters. -/
theorem C13_dedup_only_pending (h : CfgOK cfg) {tr : List Act} {st : State} (hr : run cfg init tr = some st)
    {k t : Nat} {j : Job} (hk : tr[k]? = some (.skip t j)) :
    ∃ (c : Nat) (sc : State), c < k ∧ run cfg init (tr.take c) = some sc ∧ tr[c]? = some (.check t true) ∧
      sc.pc t = .accepted j ∧ (∃ j' ∈ sc.pending, same cfg j' j = true) ∧
      ∀ (m : Nat) (a : Act), c < m → m < k → tr[m]? = some a → a.thread? ≠ some t := by
  rcases skip_traced hr hk with ⟨hpc, _⟩ | ⟨c, sc, hck, hrun, hc, hpc, hf, hno⟩
  · simp [init] at hpc
  · exact ⟨c, sc, hck, hrun, hc, hpc, found_pending h hf, hno⟩

/-- ... and conversely: when no equal job is waiting — whatever is running or done — the test can only answer
    "not found", and the job is then enqueued. -/
theorem C13_put_when_not_pending (h : CfgOK cfg) {s : State} {t : Nat} {j : Job} (hpc : s.pc t = .accepted j)
    (hno : ∀ j' ∈ s.pending, same cfg j' j = false) :
    step cfg s (.check t true) = none ∧
    ∃ s1, step cfg s (.check t false) = some s1 ∧
      ∃ s2, step cfg s1 (.put t j) = some s2 ∧ s2.pending = s.pending ++ [j] := by
  have hf : found cfg s j = false := by
    cases hfd : found cfg s j with
    | false => rfl
    | true =>
      obtain ⟨j', hj', hs⟩ := found_pending h hfd
      rw [hno j' hj'] at hs; cases hs
  refine ⟨by simp [step, hpc, hf], setPc s t (.checked j false), by simp [step, hpc, hf], ?_⟩
  refine ⟨{ setPc (setPc s t (.checked j false)) t .idle with pending := s.pending ++ [j] }, ?_, rfl⟩
  simp [step, setPc]

/-- The queue is first-in first-out (law of the whole trace, from any state): the jobs that were waiting,
    followed by the jobs enqueued, are the jobs started, followed by the jobs still waiting. -/
theorem C13_fifo {s st : State} {tr : List Act} (hr : run cfg s tr = some st) :
    s.pending ++ putsOf tr = getsOf tr ++ st.pending := fifo_law hr

/-- Progress in queue order: the job waiting at position `i` is the one started by the `(i+1)`-th `get`
    of the rest of the trace; if there are fewer `get`s it is still waiting, `i - #gets` from the head. -/
theorem C13_fifo_progress {s st : State} {tr : List Act} (hr : run cfg s tr = some st) {i : Nat} {j : Job}
    (hj : s.pending[i]? = some j) :
    (i < (getsOf tr).length → (getsOf tr)[i]? = some j) ∧
    ((getsOf tr).length ≤ i → st.pending[i - (getsOf tr).length]? = some j) := by
  have law := fifo_law hr
  have hi : i < s.pending.length := (List.getElem?_eq_some_iff.mp hj).1
  have hl : (s.pending ++ putsOf tr)[i]? = some j := by rw [List.getElem?_append_left hi]; exact hj
  rw [law] at hl
  constructor
  · intro hlt; rw [List.getElem?_append_left hlt] at hl; exact hl
  · intro hge; rw [List.getElem?_append_right hge] at hl; exact hl

/-- the current-job marker is set exactly while the worker runs a job -/
def WInv (s : State) : Prop :=
  match s.worker with
  | .idle => s.current = none
  | .running j => s.current = some j
  | .dead => True

/-- the exception of the job (if any) leaves `process_task` -/
private def escapes (cfg : Cfg) : Out → Bool
  | .ok => false
  | .raised f _ => !caught cfg f

private theorem not_escapes (h : CfgOK cfg) {out : Out} (hout : Out.isException out = true) :
    escapes cfg out = false := by
  cases out with
  | ok => rfl
  | raised f c =>
    have hf : f ∈ jobFamilies := by cases f <;> simp_all [jobFamilies, Out.isException]
    simp [escapes, List.all_eq_true.mp h.2.2.2.2.1 f hf]

private theorem take_cons_head {α : Type} (x : α) (l : List α) {n : Nat} (hn : 1 ≤ n) :
    ((x :: l).take n).head? = some x := by
  cases n with
  | zero => omega
  | succ n => simp

private theorem finish_eval (h : CfgOK cfg) (j cur : Job) (done : List (Job × String)) (out : Out) :
    finishWS cfg j out ⟨some cur, done, "", none⟩ =
      match out with
      | .ok => ⟨none, ((j, "") :: done).take cfg.doneMax, "", none⟩
      | .raised f c =>
        if caught cfg f then ⟨none, ((j, c) :: done).take cfg.doneMax, c, none⟩
        else ⟨none, ((j, "") :: done).take cfg.doneMax, "", some (f, c)⟩ := by
  obtain ⟨_, _, _, htry, _, hh, hfin, haft, _⟩ := h
  -- the `finally` block records the job with its status and pops the marker, in either order
  have hfinally : ∀ st, execOps cfg j out ⟨some cur, done, st, none⟩ cfg.finallyOps
      = ⟨none, ((j, st) :: done).take cfg.doneMax, st, none⟩ := by
    intro st
    rw [execOps_filter _ _ cfg.finallyOps _ rfl]
    rcases hfin with hfin | hfin <;> rw [hfin] <;> rfl
  have hafter : ∀ ws : WS, ws.exc = none → execOps cfg j out ws cfg.afterOps = ws := by
    intro ws hws
    rw [execOps_filter _ _ cfg.afterOps _ hws, haft]
    rfl
  unfold finishWS
  rw [execOps_filter _ _ cfg.tryOps _ rfl, htry]
  cases out with
  | ok =>
    simp only [execOps, execOp, Option.isSome_none, Bool.false_eq_true, if_false, hfinally]
    exact hafter _ rfl
  | raised f c =>
    simp only [execOps, execOp, Option.isSome_some, if_true]
    cases hc : caught cfg f with
    | true =>
      simp only [if_true]
      rw [execHandler_filter _ _ _ cfg.handlerOps _ rfl, hh]
      simp only [execHandler, if_true, Option.isSome_none, Bool.false_eq_true, if_false, hfinally]
      exact hafter _ rfl
    | false => simp only [Bool.false_eq_true, if_false, hfinally, Option.isSome_none, Option.isSome_some, if_true]

private theorem finish_step (h : CfgOK cfg) {s : State} {j : Job} (hi : WInv s) (hw : s.worker = .running j)
    (out : Out) :
    step cfg s (.finish out) =
      some { s with current := none,
                    done := ((j, if escapes cfg out then "" else statusOf out) :: s.done).take cfg.doneMax,
                    worker := if escapes cfg out then .dead else .idle } := by
  have hcur : s.current = some j := by simpa [WInv, hw] using hi
  simp only [step, hw, hcur, finish_eval h]
  cases out with
  | ok => rfl
  | raised f c => cases hc : caught cfg f <;> simp [escapes, hc, statusOf]

private theorem winv_step (h : CfgOK cfg) {s s' : State} {a : Act} (hi : WInv s) (hs : step cfg s a = some s') :
    WInv s' := by
  cases hta : a.thread? with
  | some t => obtain ⟨p, q, n, rfl⟩ := step_thread hs hta; exact hi
  | none =>
    have hs' := step_some hs
    cases a <;> simp only [Act.thread?, reduceCtorEq] at hta
    · obtain ⟨rest, _, rfl⟩ := hs'; rfl
    · obtain ⟨j, hw, _⟩ := hs'
      rw [finish_step h hi hw] at hs
      cases hs
      cases escapes cfg _ <;> simp [WInv]

private theorem winv_run (h : CfgOK cfg) {tr : List Act} {s st : State} (hi : WInv s) (hr : run cfg s tr = some st) :
    WInv st :=
  run_inv (fun _ _ _ _ hi hs => winv_step h hi hs) hi hr

/-- The worker survives every outcome. In every reachable state where the worker runs job `j`, for every
    outcome of the property's quantifier (no exception; silent, template, internal, API-job failure, any other
    `Exception`): `finish` is enabled and leaves the current-job marker cleared, `(j, status)` at the head of
    `tasks_done` with `status` the class name of the exception ('' when none), the queue and the request
    threads untouched, the worker back at the top of its loop — where it takes the head of the queue as soon
    as there is one. -/
theorem C13_worker (h : CfgOK cfg) {tr : List Act} {s : State} (hr : run cfg init tr = some s)
    {j : Job} (hw : s.worker = .running j) (out : Out) (hout : Out.isException out = true) :
    ∃ s', step cfg s (.finish out) = some s' ∧
      s'.current = none ∧ s'.done.head? = some (j, statusOf out) ∧ s'.worker = .idle ∧
      s'.pending = s.pending ∧ s'.pc = s.pc ∧
      ∀ j' rest, s'.pending = j' :: rest →
        ∃ s'', step cfg s' (.get j') = some s'' ∧ s''.worker = .running j' ∧ s''.current = some j' := by
  have hinv : WInv s := winv_run h (by simp [WInv, init]) hr
  refine ⟨_, finish_step h hinv hw out, rfl, ?_, ?_, rfl, rfl, ?_⟩
  · simp only [not_escapes h hout]
    exact take_cons_head _ _ h.2.2.2.2.2.2.2.2
  · simp only [not_escapes h hout]
    rfl
  · intro j' rest hp
    simp only [not_escapes h hout, Bool.false_eq_true, if_false] at hp ⊢
    exact ⟨_, by simp only [step, hp, if_true]; rfl, rfl, rfl⟩

private theorem alive_step (h : CfgOK cfg) {s s' : State} {a : Act}
    (hout : ∀ out, a = .finish out → Out.isException out = true) (hp : s.worker ≠ .dead ∧ WInv s)
    (hs : step cfg s a = some s') : s'.worker ≠ .dead ∧ WInv s' := by
  refine ⟨?_, winv_step h hp.2 hs⟩
  cases hta : a.thread? with
  | some t => obtain ⟨p, q, n, rfl⟩ := step_thread hs hta; exact hp.1
  | none =>
    have hs' := step_some hs
    cases a <;> simp only [Act.thread?, reduceCtorEq] at hta
    · obtain ⟨rest, _, rfl⟩ := hs'; nofun
    · obtain ⟨j, hw, _⟩ := hs'
      rw [finish_step h hp.2 hw] at hs
      cases hs
      simp [not_escapes h (hout _ rfl)]

/-- The worker never dies: along every trace from the initial state whose job outcomes are those of the
    property's quantifier, the worker thread is alive and the current-job marker is set exactly while a job
    runs. -/
theorem C13_worker_alive (h : CfgOK cfg) {tr : List Act} {st : State} (hr : run cfg init tr = some st)
    (hout : ∀ out, Act.finish out ∈ tr → Out.isException out = true) : st.worker ≠ .dead ∧ WInv st :=
  run_inv (fun _ ha _ _ hp hs => alive_step h (fun out e => hout out (e ▸ ha)) hp hs)
    ⟨by simp [init], by simp [WInv, init]⟩ hr

/-- The worker keeps serving: in every such state the worker is waiting on an empty queue, or can take
    the head of the queue, or is running a job that can finish with any outcome. -/
theorem C13_worker_progress (h : CfgOK cfg) {tr : List Act} {st : State} (hr : run cfg init tr = some st)
    (hout : ∀ out, Act.finish out ∈ tr → Out.isException out = true) :
    (st.worker = .idle ∧ st.pending = []) ∨
    (∃ j rest, st.worker = .idle ∧ st.pending = j :: rest ∧ (step cfg st (.get j)).isSome = true) ∨
    (∃ j, st.worker = .running j ∧ ∀ out, (step cfg st (.finish out)).isSome = true) := by
  obtain ⟨hd, hinv⟩ := C13_worker_alive h hr hout
  cases hw : st.worker with
  | idle =>
    cases hp : st.pending with
    | nil => exact Or.inl ⟨rfl, rfl⟩
    | cons j rest => exact Or.inr (Or.inl ⟨j, rest, rfl, rfl, by simp [step, hw, hp]⟩)
  | running j => exact Or.inr (Or.inr ⟨j, rfl, fun out => by rw [finish_step h hinv hw out]; rfl⟩)
  | dead => exact absurd hw hd

end

open BertE.Drv.C13 (genCfg)

theorem C13_no_lost_gen {s0 st : State} {tr : List Act} (hr : run genCfg s0 tr = some st)
    {i k t : Nat} {j : Job} (ha : tr[i]? = some (.accept t j)) (hik : i < k)
    (hret : tr[k]? = some (.put t j) ∨ tr[k]? = some (.skip t j)) :
    (∃ (m : Nat) (j' : Job), i < m ∧ tr[m]? = some (.get j') ∧ same genCfg j' j = true)
      ∨ (∃ j' ∈ st.pending, same genCfg j' j = true) :=
  C13_no_lost C13_cfg hr ha hik hret

/-- Scope (not part of the property): a `BaseException` that is not an `Exception` (SystemExit,
    KeyboardInterrupt) raised by a job is not caught by `except Exception`; the `finally` block still records
    the job and clears the marker, then the worker thread ends. The model says so too. -/
theorem C13_scope_exit {tr : List Act} {s : State} (hr : run genCfg init tr = some s) {j : Job}
    (hw : s.worker = .running j) (c : String) :
    ∃ s', step genCfg s (.finish (.raised .exit c)) = some s' ∧
      s'.worker = .dead ∧ s'.current = none ∧ s'.done.head? = some (j, "") := by
  have hinv : WInv s := winv_run C13_cfg (by simp [WInv, init]) hr
  have hesc : escapes genCfg (.raised .exit c) = true := by
    show (!caught genCfg .exit) = true
    decide +kernel
  refine ⟨_, finish_step C13_cfg hinv hw _, ?_, rfl, ?_⟩
  · simp only [hesc, if_true]
  · simp only [hesc, if_true]
    exact take_cons_head _ _ C13_cfg.2.2.2.2.2.2.2.2

/-! ### Non-vacuity: concrete traces -/

private def j0 : Job := ⟨0, .pr, 7⟩
private def j1 : Job := ⟨1, .pr, 7⟩
private def j2 : Job := ⟨2, .commit, 7⟩
private def j3 : Job := ⟨3, .admin, 0⟩

/-- thread 1 sees the equal job `j0` waiting, the worker takes `j0` before thread 1 returns; `j0` ends with a
    ValueError, a commit job with the same number is not a duplicate; an admin job ends with a template
    exception -/
private def trA : List Act :=
  [.accept 0 j0, .check 0 false, .put 0 j0, .accept 1 j1, .check 1 true, .get j0, .skip 1 j1,
   .accept 2 j2, .check 2 false, .finish (.raised .other "ValueError"), .put 2 j2, .accept 0 j3,
   .check 0 false, .put 0 j3, .get j2, .finish .ok, .get j3, .finish (.raised .template "BuildFailed")]

private theorem trA_runs : ∃ st, run genCfg init trA = some st :=
  Option.isSome_iff_exists.mp (by decide +kernel)

example : (run genCfg init trA).map (fun s => (s.pending, s.current, s.done, s.worker))
    = some ([], none, [(j3, "BuildFailed"), (j2, ""), (j0, "ValueError")], .idle) := by decide +kernel

/-- an equal job that is RUNNING (or done) does not suppress the new one -/
private def trB : List Act :=
  [.accept 0 j0, .check 0 false, .put 0 j0, .get j0, .accept 1 j1, .check 1 false, .put 1 j1,
   .finish (.raised .silent "NothingToDo"), .accept 2 ⟨2, .pr, 7⟩, .check 2 true, .skip 2 ⟨2, .pr, 7⟩]

example : (run genCfg init trB).map (fun s => (s.pending, s.current, s.done, s.worker))
    = some ([j1], none, [(j0, "NothingToDo")], .idle) := by decide +kernel
-- the wrong answers of the membership test are not traces of the model
example : run genCfg init [.accept 0 j0, .check 0 false, .put 0 j0, .get j0, .accept 1 j1, .check 1 true]
    |>.isNone := by decide +kernel

/-- `C13_no_lost` applied: the skipped request of thread 1 (accepted at 3, returned at 6) is served by the
    start of `j0` at 5 -/
example : ∃ st, run genCfg init trA = some st ∧
    ((∃ (m : Nat) (j' : Job), 3 < m ∧ trA[m]? = some (.get j') ∧ same genCfg j' j1 = true)
      ∨ (∃ j' ∈ st.pending, same genCfg j' j1 = true)) := by
  obtain ⟨st, hst⟩ := trA_runs
  exact ⟨st, hst, C13_no_lost_gen hst (i := 3) (k := 6) (t := 1) (j := j1) (by decide +kernel) (by decide +kernel)
    (Or.inr (by decide +kernel))⟩

/-- `C13_dedup_only_pending` applied to the skip at position 6 of `trA` -/
example : ∃ (c : Nat) (sc : State), c < 6 ∧ run genCfg init (trA.take c) = some sc ∧
    (∃ j' ∈ sc.pending, same genCfg j' j1 = true) := by
  obtain ⟨st, hst⟩ := trA_runs
  obtain ⟨c, sc, hc, hrun, _, _, hw, _⟩ := C13_dedup_only_pending C13_cfg hst (k := 6) (t := 1) (j := j1) (by decide +kernel)
  exact ⟨c, sc, hc, hrun, hw⟩

/-- `C13_worker` applied after the first six actions of `trA` (the worker runs `j0`), for an internal exception -/
example : ∃ s s', run genCfg init (trA.take 6) = some s ∧ s.worker = .running j0 ∧
    step genCfg s (.finish (.raised .internal "InternalException")) = some s' ∧
    s'.current = none ∧ s'.done.head? = some (j0, "InternalException") ∧ s'.worker = .idle := by
  obtain ⟨s, hs⟩ := Option.isSome_iff_exists.mp (show (run genCfg init (trA.take 6)).isSome = true by decide +kernel)
  have hw : s.worker = .running j0 := by
    have : (run genCfg init (trA.take 6)).map (·.worker) = some (.running j0) := by decide +kernel
    rw [hs] at this; exact Option.some.inj this
  obtain ⟨s', h1, h2, h3, h4, _⟩ := C13_worker C13_cfg hs hw (.raised .internal "InternalException") (by decide +kernel)
  exact ⟨s, s', hs, hw, h1, h2, h3, h4⟩

/-- `C13_same_target`: the two requests for pull request 7 are equal jobs, the commit job is not -/
example : same genCfg j0 j1 = true ∧ same genCfg j0 j2 = false ∧ same genCfg j3 j3 = true ∧
    same genCfg j3 ⟨4, .admin, 0⟩ = false := by decide +kernel

/-- `C13_worker_alive` / `C13_worker_progress` applied to `trA` (all its outcomes are in the quantifier) -/
example : ∃ st, run genCfg init trA = some st ∧ st.worker ≠ .dead := by
  obtain ⟨st, hst⟩ := trA_runs
  refine ⟨st, hst, (C13_worker_alive C13_cfg hst ?_).1⟩
  intro out ho
  have : out = .raised .other "ValueError" ∨ out = .ok ∨ out = .raised .template "BuildFailed" := by
    simpa [trA] using ho
  rcases this with rfl | rfl | rfl <;> rfl

/-- `C13_fifo_progress` applied: from the state after the first three actions of `trA` -/
example : ∃ s st, run genCfg init (trA.take 3) = some s ∧ run genCfg s (trA.drop 3) = some st ∧
    s.pending[0]? = some j0 ∧ (getsOf (trA.drop 3))[0]? = some j0 := by
  obtain ⟨st, hst⟩ := trA_runs
  have hsplit : trA = trA.take 3 ++ trA.drop 3 := (List.take_append_drop 3 trA).symm
  rw [hsplit] at hst
  obtain ⟨s, hs, hrest⟩ := run_append hst
  have hp : s.pending[0]? = some j0 := by
    have : (run genCfg init (trA.take 3)).map (·.pending[0]?) = some (some j0) := by decide +kernel
    rw [hs] at this; exact Option.some.inj this
  exact ⟨s, st, hs, hrest, hp, (C13_fifo_progress hrest hp).1 (by decide +kernel)⟩

end BertE.C13
