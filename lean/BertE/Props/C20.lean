import BertE.Gen.Admin
import BertE.Lemmas.Admin
import BertE.Lemmas.PlanPr
import BertE.Drv.C20
import BertE.Lemmas.CloseC20Ex
import BertE.Lemmas.Full2Inv
/-
C20 — admin jobs keep the repository well-formed or do nothing.

`Model/Admin.lean` follows the five job handlers exit by exit: `createBranch`, `deleteBranch`, `rebuildQueues`,
`deleteQueues`, `forceMergeQueues` return the status of the job, the ordered remote operations it performs and
the pull-request jobs it leaves on the task queue, from what the job sees in its clone (heads, tags, commit graph,
`use_queue`). The cascade of the repository is the C09 model driven as the jobs drive it (`build` without
destination, then `validate`); ancestry is `Model/Git`.

Parameters regenerated from the source on every run: the cascade constants (`Drv.C09.genCfg`, as in C09) and the
tag-name literals of create_branch / delete_branch (`Drv.C20.genLits`); `C20_table` is what the property needs of
them. Hypotheses `st.g.WF` (ancestry is reflexive and transitive) and `KeysNodup st.heads` (one branch per name)
are well-formedness of the representation of a repository.
-/
namespace BertE.C20
open BertE.Git BertE.Flow BertE.Admin

/-- Table obligation: the cascade constants of the current source are those the cascade theorems are about, and
    the archive tag `delete_branch` leaves on a branch of each class is one of the tags `create_branch` looks for
    (before 43aaedb the hotfix suffix was missing on the create side: this `decide` then fails). -/
theorem C20_table : BertE.Drv.C09.genCfg = Cascade.Cfg.std ∧ LitsOK BertE.Drv.C20.genLits := by decide +kernel

/-- C20 (create) — for every state, every requested name and every branching point: either nothing is done
    (no remote operation, no follow-up job, and the job does not report success), or the first operation publishes
    the requested destination branch `d` at `c`, and then
      * the branch did not exist;
      * the repository including it satisfies the cascade rules (`CascadeOK`: one stabilization branch per line, with
        its development branch, on the next patch of its line; the C09 specification, `C20_cascade_spec`);
      * forward-port inclusion (the invariant of C01) holds of the remote including it — of ALL its destination
        branches, whatever held before;
      * with queues on, if an existing development branch is newer than `d` (queued pull requests would need new
        intermediate integration branches), `queued_prs` is empty;
      * none of the archive tags of the version exists. -/
theorem C20_create {cfg : Cascade.Cfg} (hcfg : cfg = Cascade.Cfg.std) (lits : Lits) (st : Repo) (hg : st.g.WF)
    (hk : KeysNodup st.heads) (name : Ref) (recognized : Bool) (from_ : Option Rev) :
    ((createBranch cfg lits st name recognized from_).ops = [] ∧
      (createBranch cfg lits st name recognized from_).resubmit = [] ∧
      (createBranch cfg lits st name recognized from_).outcome ≠ .success) ∨
    ∃ d c rest, name = .dest d ∧
      (createBranch cfg lits st name recognized from_).ops = .ref (.push [(.dest d, c)]) :: rest ∧
      st.heads.get (.dest d) = none ∧
      CascadeOK (branchesOf (st.heads.set (.dest d) c)) (cascadeTags st.tags) ∧
      InclOn st.g (st.heads.set (.dest d) c) ∧
      (st.useQueue = true → ∀ M m M' m' c', d = .dev M m → st.heads.get (.dest (.dev M' m')) = some c' →
        keyLt (M, m) (M', m') = true → queuedPrs (queuesOf st.g st.heads) = []) ∧
      (∀ t ∈ createArchiveTags lits d, hasTag st.tags t = false) := by
  subst hcfg
  rcases createBranch_inv Cascade.Cfg.std lits st name recognized from_ with h | ⟨d, c, casc, hn, hex, htag, hb, hq, hcc, h1, h2⟩
  · exact Or.inl h
  · right
    obtain ⟨hincl, hok⟩ := cascadeCheck_spec hg (keysNodup_set hk (.dest d) c) hcc
    obtain ⟨rest, hrest⟩ : ∃ rest, (createBranch Cascade.Cfg.std lits st name recognized from_).ops =
        .ref (.push [(.dest d, c)]) :: rest := by
      cases hc : (!st.useQueue || !d.isDev) with
      | true => rw [h1 hc]; exact ⟨[], rfl⟩
      | false => rw [h2 hc]; exact ⟨_, rfl⟩
    refine ⟨d, c, rest, hn, hrest, ?_, hok, hincl, ?_, ?_⟩
    · subst hn
      exact RefMap.has_eq_false.mp hex
    · rintro huq M m M' m' c' rfl hc' hlt
      exact queuedDataCheck_none hk hb hq huq hc' hlt
    · intro t ht
      simpa using List.find?_eq_none.mp htag t ht

/-- C20 (a create job that refuses leaves the remote untouched) — a `JobFailure`, `NothingToDo` (or `NotMyJob`)
    ending comes with no remote operation and no follow-up job. (An exception escaping the nested queue rebuild
    AFTER the publication is not a refusal: see `C20_create_nested_crash`.) -/
theorem C20_create_refused (cfg : Cascade.Cfg) (lits : Lits) (st : Repo) (name : Ref) (recognized : Bool)
    (from_ : Option Rev)
    (h : (∃ w, (createBranch cfg lits st name recognized from_).outcome = .failure w) ∨
         (createBranch cfg lits st name recognized from_).outcome = .nothingToDo ∨
         (createBranch cfg lits st name recognized from_).outcome = .notMyJob) :
    (createBranch cfg lits st name recognized from_).ops = [] ∧
    (createBranch cfg lits st name recognized from_).resubmit = [] := by
  rcases createBranch_inv cfg lits st name recognized from_ with h' | ⟨d, c, casc, hn, hex, htag, hb, hq, hcc, h1, h2⟩
  · exact ⟨h'.1, h'.2.1⟩
  · -- a job that published the branch ends with JobSuccess or with the exception of the nested rebuild
    have hout : (createBranch cfg lits st name recognized from_).outcome = .success ∨
        ∃ e, (createBranch cfg lits st name recognized from_).outcome = .raised e := by
      cases hc : (!st.useQueue || !d.isDev) with
      | true => rw [h1 hc]; exact Or.inl rfl
      | false =>
        rw [h2 hc]
        simp only [Bool.or_eq_false_iff, Bool.not_eq_false'] at hc
        rcases (rebuildQueues_shape cfg { st with heads := st.heads.set (.dest d) c }).outcome with hs | hs | hs
        · exact Or.inl hs
        · have := rebuildQueues_notMyJob hs
          exact absurd (hc.1.symm.trans this) (by decide)
        · exact Or.inr hs
    rcases hout with hs | ⟨e, hs⟩ <;> simp [hs] at h

/-- C20 (an archived version is never re-created) — whatever else holds, when the archive tag that
    `delete_branch` leaves for `d` exists, `create_branch d` does nothing. -/
theorem C20_create_archived {cfg : Cascade.Cfg} {lits : Lits} (hl : LitsOK lits) (st : Repo) (d : Dest)
    (recognized : Bool) (from_ : Option Rev) (h : hasTag st.tags (archiveTag lits d) = true) :
    (createBranch cfg lits st (.dest d) recognized from_).ops = [] ∧
    (createBranch cfg lits st (.dest d) recognized from_).outcome ≠ .success := by
  rcases createBranch_inv cfg lits st (.dest d) recognized from_ with h' | ⟨d', c, casc, hn, hex, htag, _⟩
  · exact ⟨h'.1, h'.2.2⟩
  · exfalso
    simp only [Ref.dest.injEq] at hn
    subst hn
    have := List.find?_eq_none.mp htag _ (archiveTag_mem hl d)
    exact this h

/-- Relation with the system model (C01) — the operations of a successful `create_branch` are those of the
    `Flow` event `createBranch d c` ("once its checks passed": the checks are `C20_create`). -/
theorem C20_create_flow (cfg : Cascade.Cfg) (lits : Lits) (st : Repo) (name : Ref) (recognized : Bool)
    (from_ : Option Rev) (s : Sys) (hr : s.remote = st.heads) (hu : s.useQueue = st.useQueue)
    (h : (createBranch cfg lits st name recognized from_).outcome = .success) :
    ∃ d c, name = .dest d ∧
      refOps (createBranch cfg lits st name recognized from_).ops = (plan s (.createBranch d c)).ops := by
  rcases createBranch_inv cfg lits st name recognized from_ with h' | ⟨d, c, casc, hn, hex, htag, hb, hq, hcc, h1, h2⟩
  · exact absurd h h'.2.2
  · refine ⟨d, c, hn, ?_⟩
    simp only [plan, planCreateBranch, hr, hu]
    have hand : (st.useQueue && d.isDev) = !(!st.useQueue || !d.isDev) := by
      cases st.useQueue <;> cases d.isDev <;> rfl
    rw [hand]
    cases hc : (!st.useQueue || !d.isDev) with
    | true =>
      rw [h1 hc]
      rfl
    | false =>
      rw [h2 hc] at h ⊢
      exact congrArg (Op.push [(.dest d, c)] :: ·) (dropShape_refOps (rebuildQueues_shape cfg _) h)

/-- Admissibility (C01 at every crash point) — if inclusion held before, it holds of the remote as it can be
    observed after any prefix of the ref operations of `create_branch`, whatever refs the server refuses. -/
theorem C20_create_observable {cfg : Cascade.Cfg} (hcfg : cfg = Cascade.Cfg.std) (lits : Lits) (st : Repo)
    (hg : st.g.WF) (hk : KeysNodup st.heads) (hincl : InclOn st.g st.heads) (name : Ref) (recognized : Bool)
    (from_ : Option Rev) (rej : Ref → Bool) (k : Nat) :
    InclOn st.g (applyOps st.g rej st.heads
      ((refOps (createBranch cfg lits st name recognized from_).ops).take k)) := by
  subst hcfg
  rcases createBranch_inv Cascade.Cfg.std lits st name recognized from_ with h | ⟨d, c, casc, hn, hex, htag, hb, hq, hcc, h1, h2⟩
  · rw [h.1]; simpa [refOps, applyOps] using hincl
  · obtain ⟨hincl1, _⟩ := cascadeCheck_spec hg (keysNodup_set hk (.dest d) c) hcc
    have hpush : InclOn st.g (applyOp st.g rej st.heads (.push [(.dest d, c)])) := by
      simp only [applyOp, List.foldl_cons, List.foldl_nil]
      split
      · exact hincl1
      · exact hincl
    have hrest : ∀ rest : List Op, (∀ op ∈ rest, op.Safe st.g) →
        InclOn st.g (applyOps st.g rej st.heads ((Op.push [(.dest d, c)] :: rest).take k)) := by
      intro rest hs
      cases k with
      | zero => simpa [applyOps] using hincl
      | succ k =>
        simp only [List.take_succ_cons, applyOps, List.foldl_cons]
        exact applyOps_incl rej _ hpush (fun op hop => hs op (List.mem_of_mem_take hop))
    cases hc : (!st.useQueue || !d.isDev) with
    | true =>
      rw [h1 hc]
      exact hrest [] (fun _ h => nomatch h)
    | false =>
      rw [h2 hc]
      rcases dropShape_ops (rebuildQueues_shape Cascade.Cfg.std { st with heads := st.heads.set (.dest d) c }) with
        ho | ho
      · simp only [ho, refOps, List.filterMap_cons, List.filterMap_nil]
        exact hrest [] (fun _ h => nomatch h)
      · simp only [ho, refOps, List.filterMap_cons, List.filterMap_nil]
        refine hrest [_] fun op hop => ?_
        cases List.mem_singleton.mp hop
        exact ⟨rfl, InclOn.delRefs hincl1 _⟩

/-- C20 (delete) — a deletion is performed only of an existing destination branch `d` with tip `tip`, and then
      * with queues on, no queue branch (`q/<version>`, `q/w/<id>/<version>/...`) of its version exists — a fortiori
        no pull request is queued on it;
      * for `development/M.m`, no `stabilization/M.m.*` is alive;
    WHATEVER the state of the archive tag: the two refusals also guard the completion of a deletion that was
    interrupted after the tag was pushed (f819c35). The operations are (the deletion of an empty queue branch, then)
      * when the archive tag does not exist: the push of the archive tag on `tip`, THEN the deletion of the branch;
      * when it exists, it is on `tip` (a tag anywhere else is a refusal): the deletion of the branch alone. -/
theorem C20_delete (cfg : Cascade.Cfg) (lits : Lits) (st : Repo) (name : Ref) (recognized : Bool)
    (h : (deleteBranch cfg lits st name recognized).outcome = .success) :
    ∃ d tip pre, name = .dest d ∧ st.heads.get (.dest d) = some tip ∧
      ((hasTag st.tags (archiveTag lits d) = false ∧
          (deleteBranch cfg lits st name recognized).ops =
            pre ++ [.pushTag (archiveTag lits d) tip, .ref (.delete (.dest d))]) ∨
        (tagCommit st.tags (archiveTag lits d) = some tip ∧
          (deleteBranch cfg lits st name recognized).ops = pre ++ [.ref (.delete (.dest d))])) ∧
      (∀ op ∈ pre, ∃ q, op = .ref (.delete q) ∧ isQRef q = true) ∧
      (st.useQueue = true → ∀ r c, (r, c) ∈ st.heads → qDest r ≠ some d) ∧
      (∀ M m u, d = .dev M (some m) → st.heads.get (.dest (.stab M m u)) = none) := by
  obtain ⟨d, tip, hn, htip, hstab, hq, htag, hops⟩ := (deleteBranch_inv cfg lits st name recognized).1 h
  refine ⟨d, tip, (if st.useQueue && st.heads.has (delQueueRef d) then [.ref (.delete (delQueueRef d))] else []),
    hn, htip, ?_, ?_, ?_, ?_⟩
  · rw [hops]
    cases ht : hasTag st.tags (archiveTag lits d) with
    | false => exact Or.inl ⟨rfl, rfl⟩
    | true => exact Or.inr ⟨htag ht, rfl⟩
  · intro op hop
    split at hop
    · refine ⟨_, List.mem_singleton.mp hop, ?_⟩
      cases d <;> rfl
    · cases hop
  · intro huq r c hm hr
    have := hasVersionQueuedPrs_iff (g := st.g).mpr (mem_queueKeys.mpr ⟨r, c, hm, hr⟩)
    rw [hq huq] at this
    cases this
  · rintro M m u rfl
    refine Option.eq_none_iff_forall_ne_some.mpr fun c hs => ?_
    have := stabAlive_of_stab hs
    rw [hstab rfl] at this
    cases this

/-- C20 (the delete job refuses while ...), in the direction the property states it: while a queue branch of the
    version of `d` exists (queues on) — so while a pull request is queued on it — or, for `development/M.m`, while a
    `stabilization/M.m.u` is alive, `delete_branch d` does not succeed and performs no operation; in particular
    when the archive tag already sits on the tip of `d`. -/
theorem C20_delete_refuses (cfg : Cascade.Cfg) (lits : Lits) (st : Repo) (d : Dest) (recognized : Bool)
    (h : (st.useQueue = true ∧ ∃ r c, (r, c) ∈ st.heads ∧ qDest r = some d) ∨
         (∃ M m u c, d = .dev M (some m) ∧ st.heads.get (.dest (.stab M m u)) = some c)) :
    (deleteBranch cfg lits st (.dest d) recognized).outcome ≠ .success ∧
    (deleteBranch cfg lits st (.dest d) recognized).ops = [] ∧
    (deleteBranch cfg lits st (.dest d) recognized).resubmit = [] := by
  have hne : (deleteBranch cfg lits st (.dest d) recognized).outcome ≠ .success := by
    intro hs
    obtain ⟨d', tip, pre, hn, _, _, _, hq, hstab⟩ := C20_delete cfg lits st (.dest d) recognized hs
    simp only [Ref.dest.injEq] at hn
    subst hn
    rcases h with ⟨huq, r, c, hm, hr⟩ | ⟨M, m, u, c, hd, hc⟩
    · exact hq huq r c hm hr
    · rw [hstab M m u hd] at hc
      cases hc
  exact ⟨hne, (deleteBranch_inv cfg lits st (.dest d) recognized).2.1 hne,
    (deleteBranch_inv cfg lits st (.dest d) recognized).2.2⟩

/-- C20 (a delete job that refuses leaves the remote untouched) — every state, every exit that is not a success:
    no operation, no follow-up job. (Before f819c35 one exit was excepted: `git tag` failing on an archive tag that
    existed, after the queue branch was deleted; the archive tag is now looked at before anything is touched, for
    hotfix branches too, and `git tag` only runs when the tag does not exist.) -/
theorem C20_delete_refused (cfg : Cascade.Cfg) (lits : Lits) (st : Repo) (name : Ref) (recognized : Bool)
    (h : (deleteBranch cfg lits st name recognized).outcome ≠ .success) :
    (deleteBranch cfg lits st name recognized).ops = [] ∧ (deleteBranch cfg lits st name recognized).resubmit = [] :=
  ⟨(deleteBranch_inv cfg lits st name recognized).2.1 h, (deleteBranch_inv cfg lits st name recognized).2.2⟩

/-- an archive tag that is not on the tip of the branch is a refusal -/
theorem C20_delete_tag_elsewhere (cfg : Cascade.Cfg) (lits : Lits) (st : Repo) (d : Dest) (recognized : Bool)
    (tip : Commit) (htip : st.heads.get (.dest d) = some tip) (ht : hasTag st.tags (archiveTag lits d) = true)
    (hne : tagCommit st.tags (archiveTag lits d) ≠ some tip) :
    (deleteBranch cfg lits st (.dest d) recognized).outcome = .failure (.archiveTag (archiveTag lits d)) ∧
    (deleteBranch cfg lits st (.dest d) recognized).ops = [] := by
  have hb : (tagCommit st.tags (archiveTag lits d) != some tip) = true := by
    simpa [bne_iff_ne] using hne
  constructor <;> simp [deleteBranch, classOf, htip, ht, hb, fail]

/-- the interrupted deletion of hotfix/4.2.17 (archive tag on its tip) while pull request 1 is queued on the hotfix
    line, and the same state without the queue -/
def exResume (queued : Bool) : Repo :=
  { g := ⟨[[0], [1, 0]]⟩, useQueue := true, tags := [("4.2.17.archived_hotfix_branch", 0)],
    heads := [(.dest (.hotfix 4 2 17), 0)] ++
      (if queued then [(.q (.hotfix 4 2 17), 1), (.qw 1 (.hotfix 4 2 17) "bugfix/x", 1)] else []) }

/-- the remote after the operations of a successful deletion, nothing refused: the archive tag points to the
    deleted tip (pushed by this job, or already there), the branch is gone, no other destination branch moved -/
theorem C20_delete_result (cfg : Cascade.Cfg) (lits : Lits) (st : Repo) (name : Ref) (recognized : Bool)
    (h : (deleteBranch cfg lits st name recognized).outcome = .success) :
    ∃ d tip, name = .dest d ∧ st.heads.get (.dest d) = some tip ∧
      let after := applyAs st.g noRej (fun _ => false) (st.heads, st.tags) (deleteBranch cfg lits st name recognized).ops
      ((hasTag st.tags (archiveTag lits d) = false ∧ after.2 = st.tags ++ [(archiveTag lits d, tip)]) ∨
        (tagCommit st.tags (archiveTag lits d) = some tip ∧ after.2 = st.tags)) ∧
      after.1.get (.dest d) = none ∧
      ∀ x, isQRef x = false → x ≠ .dest d → after.1.get x = st.heads.get x := by
  obtain ⟨d, tip, hn, htip, _, _, htag, hops⟩ := (deleteBranch_inv cfg lits st name recognized).1 h
  refine ⟨d, tip, hn, htip, ?_⟩
  have hafter : applyAs st.g noRej (fun _ => false) (st.heads, st.tags) (deleteBranch cfg lits st name recognized).ops =
      ((if st.useQueue && st.heads.has (delQueueRef d) then st.heads.del (delQueueRef d) else st.heads).del (.dest d),
       if hasTag st.tags (archiveTag lits d) then st.tags else st.tags ++ [(archiveTag lits d, tip)]) := by
    rw [hops]
    cases ht : hasTag st.tags (archiveTag lits d) <;> cases (st.useQueue && st.heads.has (delQueueRef d)) <;>
      simp [applyAs, applyA, applyOp, noRej, ht]
  simp only [hafter]
  refine ⟨?_, RefMap.get_del_eq _ _, fun x hx hxd => ?_⟩
  · cases ht : hasTag st.tags (archiveTag lits d) with
    | false => exact Or.inl ⟨rfl, rfl⟩
    | true => exact Or.inr ⟨htag ht, rfl⟩
  · rw [RefMap.get_del_ne _ hxd]
    split
    · refine RefMap.get_del_ne _ fun he => ?_
      subst he
      cases d <;> cases hx
    · rfl

/-- Relation with the system model (C01) — the ref operations of a successful `delete_branch` are those of the
    `Flow` event `deleteBranch d`, for a development or stabilization branch in queue mode (the `Flow` event deletes
    `q/<version>`; for a hotfix branch the job looks for `q/x.y.z`, which is not the queue of the hotfix line). -/
theorem C20_delete_flow (cfg : Cascade.Cfg) (lits : Lits) (st : Repo) (d : Dest) (recognized : Bool) (s : Sys)
    (hr : s.remote = st.heads) (huq : st.useQueue = true) (hd : Dest.isHotfix d = false)
    (h : (deleteBranch cfg lits st (.dest d) recognized).outcome = .success) :
    refOps (deleteBranch cfg lits st (.dest d) recognized).ops = (plan s (.deleteBranch d)).ops := by
  obtain ⟨d', tip, hn, _, _, _, _, hops⟩ := (deleteBranch_inv cfg lits st (.dest d) recognized).1 h
  simp only [Ref.dest.injEq] at hn
  subst hn
  rw [hops]
  have hq : delQueueRef d = .q d := by cases d <;> first | rfl | cases hd
  simp only [plan, hr, huq, hq, Bool.true_and]
  split <;> split <;> simp [refOps]

/-- C20 (queues) — `rebuild_queues` and `delete_queues`: the job ends with `JobSuccess`, `NotMyJob` or a crash;
    without success it has done nothing; whatever the server refuses, every branch that is not a `q/*` branch is
    as it was and no tag changed; on success, nothing being refused, every `q/*` branch is gone; the ref
    operations are those of the `Flow` event `dropQueues`. -/
theorem C20_queues (cfg : Cascade.Cfg) (st : Repo) (r : Result)
    (hr : r = rebuildQueues cfg st ∨ r = deleteQueues st) :
    (r.outcome ≠ .success → r.ops = [] ∧ r.resubmit = []) ∧
    (∀ rej rejTag x, isQRef x = false →
      (applyAs st.g rej rejTag (st.heads, st.tags) r.ops).1.get x = st.heads.get x) ∧
    (∀ rej rejTag, (applyAs st.g rej rejTag (st.heads, st.tags) r.ops).2 = st.tags) ∧
    (r.outcome = .success → ∀ x, isQRef x = true →
      (applyAs st.g noRej (fun _ => false) (st.heads, st.tags) r.ops).1.get x = none) ∧
    (r.outcome = .success → ∀ s : Sys, s.remote = st.heads → refOps r.ops = (plan s .dropQueues).ops) := by
  obtain ⟨queued, hsh⟩ : ∃ queued, DropShape st r queued := by
    rcases hr with rfl | rfl
    · exact ⟨_, rebuildQueues_shape cfg st⟩
    · exact ⟨_, deleteQueues_shape st⟩
  have hflow : r.outcome = .success → ∀ s : Sys, s.remote = st.heads → refOps r.ops = (plan s .dropQueues).ops := by
    intro hs s hsr
    rw [dropShape_refOps hsh hs, ← hsr]
    simp only [plan, planDropQueues]
    split <;> rfl
  refine ⟨fun hne => ?_, fun rej rejTag x hx => ?_, fun rej rejTag => ?_, fun hs x hx => ?_, hflow⟩
  · rcases hsh.cases with ⟨_, ho, hrs⟩ | ⟨hs, _⟩ | ⟨hs, _⟩
    · exact ⟨ho, hrs⟩
    · exact absurd hs hne
    · exact absurd hs hne
  · rcases dropShape_ops hsh with ho | ho
    · rw [ho]; rfl
    · rw [ho]
      simp only [applyAs, List.foldl_cons, List.foldl_nil, applyA]
      rcases applyOp_prune st.g rej st.heads (allQRefs st.heads) with h | h
      · rw [h, get_dropQueues, if_neg (by rw [hx]; exact Bool.false_ne_true)]
      · rw [h]
  · rcases dropShape_ops hsh with ho | ho <;> rw [ho] <;> rfl
  · rcases hsh.cases with ⟨hne, _⟩ | ⟨_, hq0, ho, _⟩ | ⟨_, _, ho, _⟩
    · exact absurd hs hne
    · rw [ho]
      have := get_dropQueues st.heads x
      rwa [hq0, if_pos hx] at this
    · rw [ho]
      simp only [applyAs, List.foldl_cons, List.foldl_nil, applyA]
      rw [applyOp_prune_noRej, get_dropQueues, if_pos hx]

/-- C20 (re-submission) — a successful `rebuild_queues` puts on the task queue exactly `queued_prs` of the
    queue collection it read (the nested rebuild of `create_branch` likewise, `C20_create_flow`), `delete_queues`
    nothing. -/
theorem C20_resubmit (cfg : Cascade.Cfg) (st : Repo) (h : (rebuildQueues cfg st).outcome = .success) :
    (rebuildQueues cfg st).resubmit = queuedPrs (queuesOf st.g st.heads) ∧ (deleteQueues st).resubmit = [] := by
  constructor
  · rcases (rebuildQueues_shape cfg st).cases with ⟨hne, _⟩ | ⟨_, hq0, _, hrs⟩ | ⟨_, _, _, hrs⟩
    · exact absurd h hne
    · rw [hrs, queuesOf_nil hq0]; rfl
    · exact hrs
  · rcases (deleteQueues_shape st).cases with ⟨_, _, hrs⟩ | ⟨_, _, _, hrs⟩ | ⟨_, _, _, hrs⟩ <;> exact hrs

/-- C20 (exactly the queued pull requests, in queue order) — on a queue collection as the robot's own queueing
    leaves it (`QueuesWF`, what `QueueCollection.validate` checks), `queued_prs` — hence what `rebuild_queues` re-submits — holds exactly the pull requests that have a
    queue-integration branch, each once, and for every queue its pull requests oldest first.
    (`_partial`: `QueuesWF` is an invariant of the reachable states, assumed here.) -/
theorem C20_resubmit_order_partial (st : Repo) (hw : QueuesWF (queuesOf st.g st.heads))
    (hn : ∀ l, lastDev (queuesOf st.g st.heads) = some l → l.2.Nodup) :
    (∀ p, p ∈ queuedPrs (queuesOf st.g st.heads) ↔ Queued st.heads p) ∧
    (queuedPrs (queuesOf st.g st.heads)).Nodup ∧
    (∀ e ∈ queuesOf st.g st.heads, e.2.reverse.Sublist (queuedPrs (queuesOf st.g st.heads))) := by
  refine ⟨?_, queuedPrs_nodup _ hn, fun e he => queuedPrs_order hw he⟩
  intro p
  rw [mem_queuedPrs hw, mem_queuesOf]

/-- C20 (create, queued pull requests) — with `C20_resubmit_order_partial`: when a development branch older
    than an existing one is published in queue mode, no pull request has a queue-integration branch. -/
theorem C20_create_no_queued_partial {cfg : Cascade.Cfg} (hcfg : cfg = Cascade.Cfg.std) (lits : Lits) (st : Repo)
    (hg : st.g.WF) (hk : KeysNodup st.heads) (hw : QueuesWF (queuesOf st.g st.heads))
    (M : Nat) (m : Option Nat) (recognized : Bool) (from_ : Option Rev)
    (hpub : (createBranch cfg lits st (.dest (.dev M m)) recognized from_).ops ≠ [])
    (huq : st.useQueue = true) {M' : Nat} {m' : Option Nat} {c' : Commit}
    (hc' : st.heads.get (.dest (.dev M' m')) = some c') (hlt : keyLt (M, m) (M', m') = true) :
    ∀ p, ¬ Queued st.heads p := by
  rcases C20_create hcfg lits st hg hk (.dest (.dev M m)) recognized from_ with h | ⟨d, c, rest, hn, _, _, _, _, hq, _⟩
  · exact absurd h.1 hpub
  · simp only [Ref.dest.injEq] at hn
    subst hn
    intro p hp
    have hempty := hq huq M m M' m' c' rfl hc' hlt
    have := (mem_queuedPrs hw p).mpr (mem_queuesOf.mpr hp)
    rw [hempty] at this
    cases this

/-- C20 (cascade rules = C09) — `CascadeOK`, established by `C20_create` for the repository including the new
    branch, holds exactly when every development and stabilization branch of the repository is a destination that
    the declarative cascade of C09 (`Cascade.Spec.error`) accepts. -/
theorem C20_cascade_spec (bs : List Cascade.Branch) (tags : List Cascade.Tag) :
    CascadeOK bs tags ↔ ∀ dst ∈ bs, dst.isHotfix = false → Cascade.Spec.error bs tags dst = none :=
  cascadeOK_iff_spec

/-- A residual exit, stated on the model: in queue mode, when the destination branch of the first `q/*` branch of
    the repository does not exist, a `create_branch` of a development branch that passes every check pushes the
    branch and then ends with the exception of the nested `rebuild_queues` (`CheckoutFailedException`) — the queues
    are not rebuilt. Not a refusal in the sense of the property; the jobs themselves do not produce such a state
    (`delete_branch` refuses while the queue of the branch exists). Before commit 3c3a048 the same happened with
    `UnrecognizedBranchPattern` whenever a hotfix or stabilization queue came first: found by this tie, see the
    corpus case 02. -/
theorem C20_create_nested_crash {cfg : Cascade.Cfg} (lits : Lits) (st : Repo) (d : Dest) (recognized : Bool)
    (from_ : Option Rev) (hpub : (createBranch cfg lits st (.dest d) recognized from_).ops ≠ [])
    (huq : st.useQueue = true) (hdev : d.isDev = true) {first : Ref} {d0 : Dest}
    (hfirst : (allQRefs st.heads).head? = some first) (hq : qDest first = some d0) (hne : d0 ≠ d)
    (hmiss : st.heads.has (.dest d0) = false) :
    (createBranch cfg lits st (.dest d) recognized from_).outcome = .raised .checkoutFailed ∧
    ∃ c, (createBranch cfg lits st (.dest d) recognized from_).ops = [.ref (.push [(.dest d, c)])] :=
  createBranch_nested_crash lits st d recognized from_ hpub huq hdev hfirst hq hne hmiss

/-- three commits in a line: 0 ← 1 ← 2 -/
def exG : Graph := ((Graph.empty.addCommit []).1.addCommit [0]).1.addCommit [1] |>.1

private theorem exG_WF : exG.WF := by
  unfold exG
  apply addCommit_WF
  · apply addCommit_WF
    · exact addCommit_WF empty_WF (fun _ h => nomatch h)
    · intro p hp; simp only [List.mem_cons, List.not_mem_nil, or_false] at hp; subst hp; decide
  · intro p hp; simp only [List.mem_cons, List.not_mem_nil, or_false] at hp; subst hp; decide

/-- development/4.3 and development/5.1, a stabilization branch, one pull request queued on both development
    branches and one on a hotfix queue -/
def exRepo (useQueue : Bool) : Repo :=
  { g := exG, useQueue := useQueue, tags := [],
    heads := [(.dest (.dev 4 (some 3)), 0), (.dest (.stab 5 1 0), 1), (.dest (.dev 5 (some 1)), 2),
              (.dest (.hotfix 4 2 17), 0), (.q (.hotfix 4 2 17), 1), (.q (.dev 4 (some 3)), 1), (.q (.dev 5 (some 1)), 2),
              (.qw 7 (.hotfix 4 2 17) "bugfix/x", 1), (.qw 8 (.dev 4 (some 3)) "bugfix/y", 1),
              (.qw 8 (.dev 5 (some 1)) "bugfix/y", 2)] }

/-- the same after somebody removed hotfix/4.2.17 by hand: the destination of the first queue branch is missing -/
def exRepoNoHf : Repo :=
  { exRepo true with heads := (exRepo true).heads.filter (fun rc => rc.1 != .dest (.hotfix 4 2 17)) }

/-- the hypotheses of `C20_create`, `C20_create_observable` (well-formed graph, one branch per name, the table) hold
    on a concrete repository with queued pull requests; inclusion holds on it -/
example : (exRepo true).g.WF ∧ KeysNodup (exRepo true).heads ∧ BertE.Drv.C09.genCfg = Cascade.Cfg.std ∧
    (exRepo true).g.le 0 2 = true ∧ (exRepo true).g.le 1 2 = true :=
  ⟨exG_WF, by unfold KeysNodup; decide +kernel, C20_table.1, by decide +kernel⟩

/-- `C20_create_archived`: the tag literals of the current source satisfy `LitsOK`, and the tag that makes the
    re-creation of hotfix/4.2.17 refuse is the one `delete_branch` leaves -/
example : LitsOK BertE.Drv.C20.genLits ∧
    archiveTag BertE.Drv.C20.genLits (.hotfix 4 2 17) = "4.2.17.archived_hotfix_branch" ∧
    archiveTag BertE.Drv.C20.genLits (.dev 4 (some 3)) = "4.3" := by decide +kernel

/-- `C20_delete`, `C20_delete_result`, `C20_delete_flow`: with queues off the stabilization branch of the example is
    deleted (tag first, then the branch), and with queues on the development branch with a queue is refused -/
example : (deleteBranch Cascade.Cfg.std Lits.std (exRepo false) (.dest (.stab 5 1 0)) true).outcome = .success ∧
    (deleteBranch Cascade.Cfg.std Lits.std (exRepo false) (.dest (.stab 5 1 0)) true).ops.length = 2 := by decide +kernel

/-- `C20_delete`, `C20_delete_refuses`, `C20_delete_tag_elsewhere` on the resumed path: with the archive tag on the tip
    of hotfix/4.2.17 and nothing queued the deletion is completed by the removal of the branch alone; with pull
    request 1 queued on the hotfix line the job refuses and does nothing; with the tag on another commit it refuses -/
example : (deleteBranch Cascade.Cfg.std Lits.std (exResume false) (.dest (.hotfix 4 2 17)) true).outcome = .success ∧
    (deleteBranch Cascade.Cfg.std Lits.std (exResume false) (.dest (.hotfix 4 2 17)) true).ops.length = 1 ∧
    (deleteBranch Cascade.Cfg.std Lits.std (exResume true) (.dest (.hotfix 4 2 17)) true).outcome
      = .failure .queuedData ∧
    (deleteBranch Cascade.Cfg.std Lits.std (exResume true) (.dest (.hotfix 4 2 17)) true).ops.length = 0 ∧
    (deleteBranch Cascade.Cfg.std Lits.std { exResume true with tags := [("4.2.17.archived_hotfix_branch", 1)] }
      (.dest (.hotfix 4 2 17)) true).outcome = .failure (.archiveTag "4.2.17.archived_hotfix_branch") := by decide +kernel

/-- `C20_delete_refused`, `C20_create_refused`: refusals exist (a name outside the grammar, an absent branch) -/
example : (deleteBranch Cascade.Cfg.std Lits.std (exRepo true) (.other "master2") false).outcome = .failure .notGwf ∧
    (deleteBranch Cascade.Cfg.std Lits.std (exRepo true) (.dest (.dev 9 (some 9))) true).outcome = .nothingToDo ∧
    (createBranch Cascade.Cfg.std Lits.std (exRepo true) (.dest (.dev 4 (some 3))) true none).outcome = .nothingToDo ∧
    (createBranch Cascade.Cfg.std Lits.std (exRepo true) (.other "feature/x") true none).outcome
      = .failure .notDestination := by decide +kernel

/-- `C20_queues`: `delete_queues` succeeds on the example and its single operation drops the six queue branches (the
    first one is a hotfix queue); when the destination of the first queue branch is missing the job crashes before
    doing anything — the situation of `C20_create_nested_crash` -/
example : (deleteQueues (exRepo true)).outcome = .success ∧ (deleteQueues (exRepo true)).ops.length = 1 ∧
    (allQRefs (exRepo true).heads).length = 6 ∧
    (allQRefs (exRepo true).heads).head? = some (.q (.hotfix 4 2 17)) ∧
    (deleteQueues exRepoNoHf).outcome = .raised .checkoutFailed ∧ (deleteQueues exRepoNoHf).ops.length = 0 ∧
    (allQRefs exRepoNoHf.heads).head? = some (.q (.hotfix 4 2 17)) ∧
    exRepoNoHf.heads.has (.dest (.hotfix 4 2 17)) = false := by decide +kernel

/-- `C20_resubmit_order_partial`: a queue collection with a hotfix queue satisfies `QueuesWF`, and `queued_prs`
    puts the hotfix pull request first, then the others oldest first -/
example : QueuesWF [(.hotfix 4 2 17, [7]), (.dev 4 (some 3), [9, 8]), (.dev 5 (some 1), [10, 9, 8])] ∧
    queuedPrs [(.hotfix 4 2 17, [7]), (.dev 4 (some 3), [9, 8]), (.dev 5 (some 1), [10, 9, 8])] = [7, 8, 9, 10] :=
  ⟨⟨by decide +kernel, by decide +kernel, by decide +kernel, by decide +kernel⟩, by decide +kernel⟩

/-- C20 (the collection read from the heads is the bookkeeping's) — in every state that satisfies the
    strengthened invariant `Close.InvV` (every reachable state: `Close.close_stepV_inv`), without two queue-integration
    branches of one version on the same commit (`Close.NoTies`), the queue collection the admin jobs compute from the
    heads holds, for each version that has a queue branch, exactly the pull requests the robot queued on it, newest
    first. `KeysNodup`: one branch per name (`qintsOf` walks every pair of the association list, a shadowed one
    included; the ref maps of the model are built by `RefMap.set`, which keeps the names distinct, but `Inv` does not
    say so). -/
theorem C20_queues_of_inv (s : Sys) (h : BertE.Close.InvV s) (hnt : BertE.Close.NoTies s) (hk : KeysNodup s.remote) :
    queuesOf s.g s.remote = (queueKeys s.remote).map fun d => (d, BertE.Select.idsOn s d) :=
  BertE.Close.close_queuesOf_eq h hnt hk

/-- C20 (`QueuesWF` is an invariant) — the hypothesis of `C20_resubmit_order_partial` and
    `C20_create_no_queued_partial` holds of every state that satisfies the strengthened invariant, has no tie and one
    branch per name — PROVIDED the sort of the keys leaves the greatest development queue as the last non-hotfix key
    (`hlast`). That proviso cannot be dropped: `C20_queuesWF_counterexample`. The statement without it,
      `theorem C20_queuesWF_of_inv (s : Sys) (h : InvV s) (hnt : NoTies s) : QueuesWF (queuesOf s.g s.remote)`,
    is false in the model (and, for `hlast`, in the Python: `compare_queues` is not transitive when a hotfix, a
    stabilization and a development queue share major.minor). -/
theorem C20_queuesWF_of_inv_partial (s : Sys) (h : BertE.Close.InvV s) (hnt : BertE.Close.NoTies s)
    (hk : KeysNodup s.remote)
    (hlast : ∀ l, lastDev (queuesOf s.g s.remote) = some l → ∀ g, BertE.Select.gDev s = some g →
      l.1 = BertE.Select.devDest g) :
    QueuesWF (queuesOf s.g s.remote) :=
  BertE.Close.close_queuesWF h hnt hk hlast

private theorem exSys_noTies : BertE.Close.NoTies BertE.Select.exSys := by decide +kernel

private theorem exSys_keysNodup : KeysNodup BertE.Select.exSys.remote := by unfold KeysNodup; decide +kernel

private theorem exSys_hlast : ∀ l, lastDev (queuesOf BertE.Select.exSys.g BertE.Select.exSys.remote) = some l →
    ∀ g, BertE.Select.gDev BertE.Select.exSys = some g → l.1 = BertE.Select.devDest g := by decide +kernel

/-- `C20_queues_of_inv`, `C20_queuesWF_of_inv_partial`: the hypotheses hold of the state with two queued pull
    requests of `Lemmas/SelectEx.lean`, on which the collection is the one stated -/
example : BertE.Close.InvV BertE.Select.exSys ∧ BertE.Close.NoTies BertE.Select.exSys ∧
    KeysNodup BertE.Select.exSys.remote ∧
    queuesOf BertE.Select.exSys.g BertE.Select.exSys.remote = [(.dev 4 (some 3), [1]), (.dev 5 (some 1), [2, 1])] ∧
    (∀ l, lastDev (queuesOf BertE.Select.exSys.g BertE.Select.exSys.remote) = some l →
      ∀ g, BertE.Select.gDev BertE.Select.exSys = some g → l.1 = BertE.Select.devDest g) ∧
    QueuesWF (queuesOf BertE.Select.exSys.g BertE.Select.exSys.remote) :=
  ⟨BertE.Close.close_exSys_invV, exSys_noTies, exSys_keysNodup, by decide +kernel, exSys_hlast,
    C20_queuesWF_of_inv_partial _ BertE.Close.close_exSys_invV exSys_noTies exSys_keysNodup exSys_hlast⟩

/-- C20 (exactly the queued pull requests, in queue order — on the reachable states) —
    `C20_resubmit_order_partial` with its `QueuesWF` and `Nodup` hypotheses discharged by the invariant: when the
    job's clone mirrors a state `s` of the system model (`hg`, `hh`), `queued_prs` holds exactly the pull requests that
    have a queue-integration branch, each once, and for every queue its pull requests oldest first. Same proviso
    `hlast` as `C20_queuesWF_of_inv_partial` (the second conjunct does not depend on it). -/
theorem C20_resubmit_order_inv_partial (s : Sys) (h : BertE.Close.InvV s) (hnt : BertE.Close.NoTies s)
    (hk : KeysNodup s.remote)
    (hlast : ∀ l, lastDev (queuesOf s.g s.remote) = some l → ∀ g, BertE.Select.gDev s = some g →
      l.1 = BertE.Select.devDest g)
    (st : Repo) (hg : st.g = s.g) (hh : st.heads = s.remote) :
    (∀ p, p ∈ queuedPrs (queuesOf st.g st.heads) ↔ Queued st.heads p) ∧
    (queuedPrs (queuesOf st.g st.heads)).Nodup ∧
    (∀ e ∈ queuesOf st.g st.heads, e.2.reverse.Sublist (queuedPrs (queuesOf st.g st.heads))) := by
  apply C20_resubmit_order_partial st
  · rw [hg, hh]; exact BertE.Close.close_queuesWF h hnt hk hlast
  · rw [hg, hh]; exact BertE.Close.close_lastDev_nodup h hnt hk

/-- `C20_resubmit_order_inv_partial` on the state with two queued pull requests: both are re-submitted, oldest first -/
example : queuedPrs (queuesOf BertE.Select.exSys.g BertE.Select.exSys.remote) = [1, 2] ∧
    (∀ p, p ∈ queuedPrs (queuesOf BertE.Select.exSys.g BertE.Select.exSys.remote) ↔
      Queued BertE.Select.exSys.remote p) :=
  ⟨by decide +kernel,
   (C20_resubmit_order_inv_partial _ BertE.Close.close_exSys_invV exSys_noTies exSys_keysNodup exSys_hlast
      ⟨BertE.Select.exSys.g, BertE.Select.exSys.remote, [], true⟩ rfl rfl).1⟩

/-- Known finding (candidate): the proviso `hlast` fails on a reachable state. hotfix/5.1.0, stabilization/5.1.2 and
    development/5.1 exist; pull request 1 is queued on the stabilization branch (and development/5.1), 2 on the hotfix
    branch, 3 on development/5.1. The state satisfies the strengthened invariant, has no tie and one branch per name;
    the keys are discovered in the order 5.1, 5.1.0, 5.1.2 and the sort by `compare_queues` (hotfix = development,
    hotfix = stabilization on major.minor, stabilization < development) leaves them so: the last non-hotfix queue is the
    stabilization queue, the collection is not `QueuesWF`, and `queued_prs` — what `rebuild_queues` re-submits — is
    `[2, 1]`: pull request 3, which has a queue-integration branch, is lost. -/
theorem C20_queuesWF_counterexample :
    BertE.Close.InvV BertE.Close.close_cxSys ∧ BertE.Close.NoTies BertE.Close.close_cxSys ∧
    KeysNodup BertE.Close.close_cxSys.remote ∧
    queuesOf BertE.Close.close_cxSys.g BertE.Close.close_cxSys.remote =
      [(.dev 5 (some 1), [3, 1]), (.hotfix 5 1 0, [2]), (.stab 5 1 2, [1])] ∧
    ¬ QueuesWF (queuesOf BertE.Close.close_cxSys.g BertE.Close.close_cxSys.remote) ∧
    queuedPrs (queuesOf BertE.Close.close_cxSys.g BertE.Close.close_cxSys.remote) = [2, 1] ∧
    Queued BertE.Close.close_cxSys.remote 3 := by
  refine ⟨BertE.Close.close_cxSys_invV, BertE.Close.close_cxSys_noTies, BertE.Close.close_cxSys_keysNodup,
    BertE.Close.close_cxSys_queues, ?_, ?_, ⟨.dev 5 (some 1), "feature/c", 4, by decide +kernel⟩⟩
  · rw [BertE.Close.close_cxSys_queues]
    intro hw
    have := hw.vertical (.dev 5 (some 1), [3, 1]) (by decide +kernel) rfl (.stab 5 1 2, [1]) (by decide +kernel)
    revert this
    decide +kernel
  · rw [BertE.Close.close_cxSys_queues]
    decide +kernel

/-! `Full2.SysInv` carries `KeysNodup s.remote` (every `RefMap.set` / `del` keeps it: `full2_step_keys`); the hypothesis
`hk` of the theorems above is discharged. `hlast` stays: without it the statement is false (D20,
`C20_queuesWF_counterexample`). -/

theorem C20_queues_of_inv2 (s : Sys) (h : BertE.Full2.SysInv s) (hnt : BertE.Close.NoTies s) :
    queuesOf s.g s.remote = (queueKeys s.remote).map fun d => (d, BertE.Select.idsOn s d) :=
  C20_queues_of_inv s h.invV hnt h.keys

/-- `C20_queuesWF_of_inv_partial` without `KeysNodup` (`_partial`: `hlast` remains — D20) -/
theorem C20_queuesWF_of_inv2_partial (s : Sys) (h : BertE.Full2.SysInv s) (hnt : BertE.Close.NoTies s)
    (hlast : ∀ l, lastDev (queuesOf s.g s.remote) = some l → ∀ g, BertE.Select.gDev s = some g →
      l.1 = BertE.Select.devDest g) :
    QueuesWF (queuesOf s.g s.remote) :=
  C20_queuesWF_of_inv_partial s h.invV hnt h.keys hlast

/-- `C20_resubmit_order_inv_partial` without `KeysNodup` (`_partial`: `hlast` remains — D20) -/
theorem C20_resubmit_order_inv2_partial (s : Sys) (h : BertE.Full2.SysInv s) (hnt : BertE.Close.NoTies s)
    (hlast : ∀ l, lastDev (queuesOf s.g s.remote) = some l → ∀ g, BertE.Select.gDev s = some g →
      l.1 = BertE.Select.devDest g)
    (st : Repo) (hg : st.g = s.g) (hh : st.heads = s.remote) :
    (∀ p, p ∈ queuedPrs (queuesOf st.g st.heads) ↔ Queued st.heads p) ∧
    (queuedPrs (queuesOf st.g st.heads)).Nodup ∧
    (∀ e ∈ queuesOf st.g st.heads, e.2.reverse.Sublist (queuedPrs (queuesOf st.g st.heads))) :=
  C20_resubmit_order_inv_partial s h.invV hnt h.keys hlast st hg hh

example := C20_queues_of_inv2 BertE.Select.exSys BertE.Full2.full2_exSys_sysInv exSys_noTies
example := C20_queuesWF_of_inv2_partial BertE.Select.exSys BertE.Full2.full2_exSys_sysInv exSys_noTies exSys_hlast
example := C20_resubmit_order_inv2_partial BertE.Select.exSys BertE.Full2.full2_exSys_sysInv exSys_noTies exSys_hlast
  ⟨BertE.Select.exSys.g, BertE.Select.exSys.remote, [], true⟩ rfl rfl

end BertE.C20
