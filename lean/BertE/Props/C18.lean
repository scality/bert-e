import BertE.Gen.Names
import BertE.Model.Names
import BertE.Lemmas.Names
import BertE.Drv.C18
/-
C18 — branch names classify unambiguously, and the names the robot builds parse back.

`Form P k s p` is the documented naming grammar: one clause per name form, saying which
kind `k` a name `s` has and which attributes `p` it carries; `P` is the list of feature
prefixes. `Grammar` adds the one priority rule of the documentation: `hotfix/x.y.z` is a
hotfix branch and everything else under `hotfix/` a legacy hotfix branch.
The theorems are parametric in the data of the source (`Tbl`: order of `branch_factory`,
feature prefixes) under the decidable well-formedness predicate `TblOK`, which demands only
what the property needs: every class is tried, `HotfixBranch` before `LegacyHotfixBranch`,
and no feature prefix contains `/` or equals a reserved first word. `C18_table` discharges
it - and the equality of the pattern texts, flags and format strings found in the source
with the ones the model implements - on the regenerated tables.
No bound on the length of names, labels or digit runs.
-/
namespace BertE.C18
open BertE.Names

inductive Form (P : List (List Char)) : Kind → List Char → Parsed → Prop
  /-- `stabilization/x.y.z` -/
  | stabilization (a b c : List Char) : Digits a → Digits b → Digits c →
      Form P .stabilization ("stabilization/".toList ++ (Ver.v3 a b c).text)
        { kind := .stabilization, version := some (Ver.v3 a b c).text, major := some (digitsVal a),
          minor := some (digitsVal b), micro := some (digitsVal c) }
  /-- `development/x` -/
  | development1 (a : List Char) : Digits a →
      Form P .development ("development/".toList ++ a)
        { kind := .development, version := some a, major := some (digitsVal a), minor := none }
  /-- `development/x.y` -/
  | development2 (a b : List Char) : Digits a → Digits b →
      Form P .development ("development/".toList ++ (Ver.v2 a b).text)
        { kind := .development, version := some (Ver.v2 a b).text, major := some (digitsVal a),
          minor := some (digitsVal b) }
  /-- `release/x.y` -/
  | release (a b : List Char) : Digits a → Digits b →
      Form P .release ("release/".toList ++ (Ver.v2 a b).text)
        { kind := .release, version := some (Ver.v2 a b).text, major := some (digitsVal a),
          minor := some (digitsVal b) }
  /-- `q/<version>` with 1 to 4 components; it stands for the destination `queueDst v` -/
  | queue (v : Ver) : v.WF →
      Form P .queue ("q/".toList ++ v.text)
        { kind := .queue, version := some v.text, major := some v.major, minor := v.minor,
          micro := v.micro, hfrev := v.hfrev, dst := some (queueDst v) }
  /-- `q/w/<pr id>/<version>/<feature branch name>` (key and project as written) -/
  | queueIntegration (n : List Char) (v : Ver) (f : Feat) : Digits n → v.WF → IsFeat P f →
      Form P .queueIntegration ("q/w/".toList ++ n ++ '/' :: (v.text ++ '/' :: f.name))
        { kind := .queueIntegration, prId := some (digitsVal n),
          version := some v.text, major := some v.major, minor := v.minor, micro := v.micro,
          hfrev := v.hfrev, featureBranch := some f.name, pfx := some f.pfx, label := some f.label,
          jiraKey := f.key, jiraProject := f.project }
  /-- `<known prefix>/<label>`; ticket key and project upper-cased -/
  | feature (f : Feat) : IsFeat P f →
      Form P .feature f.name
        { kind := .feature, featureBranch := some f.name, pfx := some f.pfx, label := some f.label,
          jiraKey := f.key.map upper, jiraProject := f.project.map upper }
  /-- `hotfix/x.y.z` -/
  | hotfix (a b c : List Char) : Digits a → Digits b → Digits c →
      Form P .hotfix ("hotfix/".toList ++ (Ver.v3 a b c).text)
        { kind := .hotfix, version := some (Ver.v3 a b c).text, major := some (digitsVal a),
          minor := some (digitsVal b), micro := some (digitsVal c) }
  /-- `hotfix/<anything>` -/
  | legacyHotfix (l : List Char) : l ≠ [] → noNewline l = true →
      Form P .legacyHotfix ("hotfix/".toList ++ l) { kind := .legacyHotfix, label := some l }
  /-- `w/<version>/<feature branch name>` (key and project as written) -/
  | integration (v : Ver) (f : Feat) : v.WF → IsFeat P f →
      Form P .integration ("w/".toList ++ v.text ++ '/' :: f.name)
        { kind := .integration,
          version := some v.text, major := some v.major, minor := v.minor, micro := v.micro,
          hfrev := v.hfrev, featureBranch := some f.name, pfx := some f.pfx, label := some f.label,
          jiraKey := f.key, jiraProject := f.project }
  /-- `user/<anything>` -/
  | user (l : List Char) : l ≠ [] → noNewline l = true →
      Form P .user ("user/".toList ++ l) { kind := .user, label := some l }

/-- The naming grammar: a name has the kind and attributes of a documented form; under `hotfix/`
    the form `x.y.z` makes it a hotfix branch, anything else a legacy hotfix branch. -/
def Grammar (P : List (List Char)) (s : List Char) (p : Parsed) : Prop :=
  ∃ k, Form P k s p ∧ (k = .legacyHotfix → ∀ p', ¬ Form P .hotfix s p')

/-- first word (before the first `/`) of the names of a class other than `FeatureBranch` -/
def word : Kind → List Char
  | .stabilization => "stabilization".toList
  | .development => "development".toList
  | .release => "release".toList
  | .queue | .queueIntegration => "q".toList
  | .feature => []
  | .hotfix | .legacyHotfix => "hotfix".toList
  | .integration => "w".toList
  | .user => "user".toList

def reserved : List (List Char) :=
  [word .stabilization, word .development, word .release, word .queue, word .hotfix,
   word .integration, word .user]

def PrefixesOK (P : List (List Char)) : Prop := ∀ w ∈ P, '/' ∉ w ∧ w ∉ reserved

structure TblOK (t : Tbl) : Prop where
  /-- every class is tried by the factory -/
  complete : ∀ k ∈ Kind.all, k ∈ t.order
  /-- `HotfixBranch` is tried before `LegacyHotfixBranch` -/
  hotfixFirst : Kind.hotfix ∈ t.order.takeWhile (fun k => k != .legacyHotfix)
  prefixes : PrefixesOK t.prefixes

instance (P) : Decidable (PrefixesOK P) := by unfold PrefixesOK; infer_instance

instance (t) : Decidable (TblOK t) :=
  decidable_of_iff ((∀ k ∈ Kind.all, k ∈ t.order) ∧
      Kind.hotfix ∈ t.order.takeWhile (fun k => k != .legacyHotfix) ∧ PrefixesOK t.prefixes)
    ⟨fun ⟨a, b, c⟩ => ⟨a, b, c⟩, fun h => ⟨h.complete, h.hotfixFirst, h.prefixes⟩⟩

/-- `can_be_destination` of a class in the generated table -/
def destFlag (rows : List BertE.Gen.Names.ClassRow) (k : Kind) : Option Bool :=
  (rows.find? (fun r => r.name == k.className)).map (·.canBeDestination)

def destinationKinds : List Kind := [.development, .stabilization, .hotfix]

/-- the flag of every class says: destination iff development, stabilization or hotfix -/
def FlagsOK (rows : List BertE.Gen.Names.ClassRow) : Prop :=
  ∀ k ∈ Kind.all, destFlag rows k = some (decide (k ∈ destinationKinds))

instance (rows) : Decidable (FlagsOK rows) := by unfold FlagsOK; infer_instance

/-- the construction site `site` builds its name with the format string and the number of
    arguments that `mkIntegration` / `mkQueue` / `mkQInt` implement -/
def expectedFormat : String → Option (String × Nat)
  | "integration.get_integration_branches" => some (fmtIntegration, 2)
  | "integration.create_integration_branches" => some (fmtIntegration, 2)
  | "queueing.get_queue_branch" => some (fmtQueue, 1)
  | "queueing.get_queue_integration_branch" => some (fmtQInt, 3)
  | _ => none

/-- literal in a regular expression (the prefixes are spliced into the patterns unescaped) -/
def regexLiteral (w : String) : Bool := w.toList.all (fun c => c.isAlphanum || c == '_' || c == '-')

/-- What is checked of the regenerated table beyond `TblOK`: the factory knows only classes the
    model has a parser for, the pattern text of each is the one its parser implements, the Jira
    pattern and the `re.match` call are the expected ones, the flags say "destination iff
    development/stabilization/hotfix", and the name construction sites use the format strings of
    `mkIntegration` / `mkQueue` / `mkQInt`. -/
structure SourceOK : Prop where
  order : BertE.Gen.Names.factoryOrder.mapM Kind.ofClassName? = some BertE.Drv.C18.genTbl.order
  rows : BertE.Gen.Names.classes.map (·.name) = BertE.Gen.Names.factoryOrder
  patterns : ∀ row ∈ BertE.Gen.Names.classes, ∃ k ∈ (Kind.ofClassName? row.name).toList,
      row.pattern = expectedPattern BertE.Gen.Names.allPrefixes k
  literal : ∀ w ∈ BertE.Gen.Names.allPrefixes, regexLiteral w = true
  jira : BertE.Gen.Names.jiraIssuePattern = jiraRe
  matchCall : BertE.Gen.Names.matchCall = expectedMatchCall
  flags : FlagsOK BertE.Gen.Names.classes
  formats : ∀ f ∈ BertE.Gen.Names.nameFormats, expectedFormat f.site = some (f.fmt, f.args.length)
  sites : BertE.Gen.Names.nameFormats.length = 4

instance : Decidable SourceOK :=
  decidable_of_iff
    ((BertE.Gen.Names.factoryOrder.mapM Kind.ofClassName? = some BertE.Drv.C18.genTbl.order) ∧
     (BertE.Gen.Names.classes.map (·.name) = BertE.Gen.Names.factoryOrder) ∧
     (∀ row ∈ BertE.Gen.Names.classes, ∃ k ∈ (Kind.ofClassName? row.name).toList,
        row.pattern = expectedPattern BertE.Gen.Names.allPrefixes k) ∧
     (∀ w ∈ BertE.Gen.Names.allPrefixes, regexLiteral w = true) ∧
     (BertE.Gen.Names.jiraIssuePattern = jiraRe) ∧
     (BertE.Gen.Names.matchCall = expectedMatchCall) ∧
     FlagsOK BertE.Gen.Names.classes ∧
     (∀ f ∈ BertE.Gen.Names.nameFormats, expectedFormat f.site = some (f.fmt, f.args.length)) ∧
     (BertE.Gen.Names.nameFormats.length = 4))
    ⟨fun ⟨a, b, c, d, e, f, g, h, i⟩ => ⟨a, b, c, d, e, f, g, h, i⟩,
     fun h => ⟨h.order, h.rows, h.patterns, h.literal, h.jira, h.matchCall, h.flags, h.formats, h.sites⟩⟩

section
variable {P : List (List Char)} {s : List Char} {p : Parsed}

private theorem stab_iff : parseStabilization s = some p ↔ Form P .stabilization s p := by
  constructor
  · intro h0
    obtain ⟨r, rfl, h⟩ := of_stripPrefix h0
    split at h
    · rename_i a b c hv
      obtain ⟨rfl, wf⟩ := version_nil hv
      cases h
      exact Form.stabilization a b c wf.1 wf.2.1 wf.2.2
    · cases h
  · intro h
    cases h with
    | stabilization a b c ha hb hc =>
      simp only [parseStabilization, stripPrefix_append, version_end (v := .v3 a b c) ⟨ha, hb, hc⟩]

private theorem hotfix_iff : parseHotfix s = some p ↔ Form P .hotfix s p := by
  constructor
  · intro h0
    obtain ⟨r, rfl, h⟩ := of_stripPrefix h0
    split at h
    · rename_i a b c hv
      obtain ⟨rfl, wf⟩ := version_nil hv
      cases h
      exact Form.hotfix a b c wf.1 wf.2.1 wf.2.2
    · cases h
  · intro h
    cases h with
    | hotfix a b c ha hb hc =>
      simp only [parseHotfix, stripPrefix_append, version_end (v := .v3 a b c) ⟨ha, hb, hc⟩]

private theorem release_iff : parseRelease s = some p ↔ Form P .release s p := by
  constructor
  · intro h0
    obtain ⟨r, rfl, h⟩ := of_stripPrefix h0
    split at h
    · rename_i a b hv
      obtain ⟨rfl, wf⟩ := version_nil hv
      cases h
      exact Form.release a b wf.1 wf.2
    · cases h
  · intro h
    cases h with
    | release a b ha hb =>
      simp only [parseRelease, stripPrefix_append, version_end (v := .v2 a b) ⟨ha, hb⟩]

private theorem dev_iff : parseDevelopment s = some p ↔ Form P .development s p := by
  constructor
  · intro h0
    obtain ⟨r, rfl, h⟩ := of_stripPrefix h0
    split at h
    · rename_i a hv
      obtain ⟨rfl, wf⟩ := version_nil hv
      cases h
      exact Form.development1 _ wf
    · rename_i a b hv
      obtain ⟨rfl, wf⟩ := version_nil hv
      cases h
      exact Form.development2 a b wf.1 wf.2
    · cases h
  · intro h
    cases h with
    | development1 a ha =>
      simp only [parseDevelopment, stripPrefix_append, show version a = _ from version_end (v := .v1 a) ha]
    | development2 a b ha hb =>
      simp only [parseDevelopment, stripPrefix_append, version_end (v := .v2 a b) ⟨ha, hb⟩]

private theorem queue_iff : parseQueue s = some p ↔ Form P .queue s p := by
  constructor
  · intro h0
    obtain ⟨r, rfl, h⟩ := of_stripPrefix h0
    split at h
    · rename_i v hv
      obtain ⟨rfl, wf⟩ := version_nil hv
      cases h
      exact Form.queue v wf
    · cases h
  · intro h
    cases h with
    | queue v hv =>
      simp only [parseQueue, stripPrefix_append, version_end hv, Parsed.ofVer]

private theorem legacy_iff : parseLegacyHotfix s = some p ↔ Form P .legacyHotfix s p := by
  constructor
  · intro h0
    obtain ⟨r, rfl, h⟩ := of_stripPrefix h0
    split at h
    · rename_i l hl
      obtain ⟨rfl, hne, hn⟩ := plainLabel_eq_some.mp hl
      cases h
      exact Form.legacyHotfix r hne hn
    · cases h
  · intro h
    cases h with
    | legacyHotfix l hl hn =>
      simp only [parseLegacyHotfix, stripPrefix_append, plainLabel_eq_some.mpr ⟨rfl, hl, hn⟩]

private theorem user_iff : parseUser s = some p ↔ Form P .user s p := by
  constructor
  · intro h0
    obtain ⟨r, rfl, h⟩ := of_stripPrefix h0
    split at h
    · rename_i l hl
      obtain ⟨rfl, hne, hn⟩ := plainLabel_eq_some.mp hl
      cases h
      exact Form.user r hne hn
    · cases h
  · intro h
    cases h with
    | user l hl hn =>
      simp only [parseUser, stripPrefix_append, plainLabel_eq_some.mpr ⟨rfl, hl, hn⟩]

private theorem feature_iff (hP : PrefixesOK P) : parseFeature P s = some p ↔ Form P .feature s p := by
  constructor
  · intro h
    unfold parseFeature at h
    split at h
    · rename_i ft hf
      obtain ⟨hi, hs⟩ := feature_some hf
      simp only [Option.some.injEq] at h
      subst h hs
      exact Form.feature ft hi
    · cases h
  · intro h
    cases h with
    | feature f hf =>
      simp only [parseFeature, feature_of_isFeat (fun w hw => (hP w hw).1) hf]
      rfl

private theorem vsf_iff (hP : PrefixesOK P) (k : Kind) (r : List Char) :
    versionSlashFeature P k r = some p ↔
      ∃ v f, v.WF ∧ IsFeat P f ∧ r = v.text ++ '/' :: f.name ∧ p = (Parsed.ofVer k v).withFeat f := by
  constructor
  · intro h
    unfold versionSlashFeature at h
    split at h
    · rename_i v fs hv
      obtain ⟨e, wf⟩ := version_some hv
      split at h
      · rename_i ft hf
        obtain ⟨hi, hs⟩ := feature_some hf
        simp only [Option.some.injEq] at h
        exact ⟨v, ft, wf, hi, by rw [e, hs], h.symm⟩
      · cases h
    · cases h
  · rintro ⟨v, f, hv, hf, rfl, rfl⟩
    simp only [versionSlashFeature, version_append hv (Or.inr ⟨_, rfl⟩),
      feature_of_isFeat (fun w hw => (hP w hw).1) hf]

private theorem integration_iff (hP : PrefixesOK P) :
    parseIntegration P s = some p ↔ Form P .integration s p := by
  constructor
  · intro h0
    obtain ⟨r, rfl, h⟩ := of_stripPrefix h0
    obtain ⟨v, f, hv, hf, rfl, rfl⟩ := (vsf_iff hP _ _).mp h
    have := Form.integration (P := P) v f hv hf
    simpa [Parsed.ofVer, Parsed.withFeat] using this
  · intro h
    cases h with
    | integration v f hv hf =>
      simp only [parseIntegration, List.append_assoc, stripPrefix_append]
      exact (vsf_iff hP _ _).mpr ⟨v, f, hv, hf, rfl, rfl⟩

private theorem qint_iff (hP : PrefixesOK P) :
    parseQueueIntegration P s = some p ↔ Form P .queueIntegration s p := by
  constructor
  · intro h0
    obtain ⟨r, rfl, h⟩ := of_stripPrefix h0
    split at h
    · rename_i n r2 hn
      obtain ⟨rfl, dn, _⟩ := digits1_some hn
      split at h
      · rename_i q hq
        obtain ⟨v, f, hv, hf, rfl, rfl⟩ := (vsf_iff hP _ _).mp hq
        cases h
        have := Form.queueIntegration (P := P) n v f dn hv hf
        simpa [Parsed.ofVer, Parsed.withFeat] using this
      · cases h
    · cases h
  · intro h
    cases h with
    | queueIntegration n v f hn hv hf =>
      simp only [parseQueueIntegration, List.append_assoc, stripPrefix_append,
        digits1_append hn stops_slash,
        (vsf_iff hP .queueIntegration _).mpr ⟨v, f, hv, hf, rfl, rfl⟩]
      rfl

private theorem parseClass_iff (hP : PrefixesOK P) (k : Kind) :
    parseClass P k s = some p ↔ Form P k s p := by
  cases k with
  | stabilization => exact stab_iff
  | development => exact dev_iff
  | release => exact release_iff
  | queue => exact queue_iff
  | queueIntegration => exact qint_iff hP
  | feature => exact feature_iff hP
  | hotfix => exact hotfix_iff
  | legacyHotfix => exact legacy_iff
  | integration => exact integration_iff hP
  | user => exact user_iff

private theorem form_seg_feature (hP : PrefixesOK P) (h : Form P .feature s p) : seg s ∈ P := by
  cases h with
  | feature f hf =>
    rw [Feat.name, seg_append (hP f.pfx hf.1).1]
    exact hf.1

/-- a name of any other kind starts with a literal that contains a `/` and whose first segment is the
    word of the kind -/
private theorem form_seg_word {k : Kind} (h : Form P k s p) (hk : k ≠ .feature) : seg s = word k := by
  cases h with
  | feature => exact absurd rfl hk
  | queueIntegration n v f =>
    rw [List.append_assoc]
    exact seg_lit (by decide +kernel) _
  | integration v f =>
    rw [List.append_assoc]
    exact seg_lit (by decide +kernel) _
  | _ => exact seg_lit (by decide +kernel) _

private theorem word_mem_reserved {k : Kind} (h : k ≠ .feature) : word k ∈ reserved :=
  (by decide +kernel : ∀ k ∈ Kind.all, k ≠ .feature → word k ∈ reserved) k k.mem_all h

private theorem word_inj {k k' : Kind} (e : word k = word k') :
    k = k' ∨ (k = .hotfix ∧ k' = .legacyHotfix) ∨ (k = .legacyHotfix ∧ k' = .hotfix) ∨
      (k = .queue ∧ k' = .queueIntegration) ∨ (k = .queueIntegration ∧ k' = .queue) :=
  (by decide +kernel : ∀ k ∈ Kind.all, ∀ k' ∈ Kind.all, word k = word k' →
    k = k' ∨ (k = .hotfix ∧ k' = .legacyHotfix) ∨ (k = .legacyHotfix ∧ k' = .hotfix) ∨
      (k = .queue ∧ k' = .queueIntegration) ∨ (k = .queueIntegration ∧ k' = .queue)) k k.mem_all k' k'.mem_all e

private theorem queue_third {p' : Parsed} (h1 : Form P .queue s p) (h2 : Form P .queueIntegration s p') :
    False := by
  cases h1 with
  | queue v hv =>
    obtain ⟨c, t, e, hc⟩ := Ver.text_head hv
    generalize hs : "q/".toList ++ v.text = s' at h2
    cases h2 with
    | queueIntegration n v' f =>
      rw [e] at hs
      simp at hs
      rw [hs.1] at hc
      revert hc; decide

private theorem form_disjoint (hP : PrefixesOK P) {k k' : Kind} {p' : Parsed}
    (h : Form P k s p) (h' : Form P k' s p') :
    k = k' ∨ (k = .hotfix ∧ k' = .legacyHotfix) ∨ (k = .legacyHotfix ∧ k' = .hotfix) := by
  by_cases hk : k = .feature
  · by_cases hk' : k' = .feature
    · exact Or.inl (hk.trans hk'.symm)
    · subst hk
      have m := form_seg_feature hP h
      rw [form_seg_word h' hk'] at m
      exact absurd (word_mem_reserved hk') (hP _ m).2
  · by_cases hk' : k' = .feature
    · subst hk'
      have m := form_seg_feature hP h'
      rw [form_seg_word h hk] at m
      exact absurd (word_mem_reserved hk) (hP _ m).2
    · have e : word k = word k' := by rw [← form_seg_word h hk, ← form_seg_word h' hk']
      rcases word_inj e with r | r | r | ⟨rfl, rfl⟩ | ⟨rfl, rfl⟩
      · exact Or.inl r
      · exact Or.inr (Or.inl r)
      · exact Or.inr (Or.inr r)
      · exact (queue_third h h').elim
      · exact (queue_third h' h).elim

private theorem mem_of_mem_takeWhile_append {α} {q : α → Bool} {l₁ l₂ : List α} {a x : α}
    (ha : q a = false) (hx : x ∈ (l₁ ++ a :: l₂).takeWhile q) : x ∈ l₁ := by
  induction l₁ with
  | nil => simp [ha] at hx
  | cons b bs ih =>
    simp only [List.cons_append, List.takeWhile_cons] at hx
    split at hx
    · rcases List.mem_cons.mp hx with rfl | hx
      · simp
      · exact List.mem_cons_of_mem _ (ih hx)
    · cases hx

end

section
variable {t : Tbl}

/-- when `LegacyHotfixBranch` is the first class that matches, `HotfixBranch` was tried before and did not -/
private theorem hotfix_failed (hT : TblOK t) {s : List Char} {l₁ l₂ : List Kind}
    (ho : t.order = l₁ ++ .legacyHotfix :: l₂) (hfail : ∀ a ∈ l₁, parseClass t.prefixes a s = none) :
    parseClass t.prefixes .hotfix s = none := by
  have hh := hT.hotfixFirst
  rw [ho] at hh
  exact hfail _ (mem_of_mem_takeWhile_append (by simp) hh)

/-- Classification. The factory recognises a name as `p` exactly when the naming grammar gives
    it the kind and attributes `p`; it rejects exactly the names the grammar has no form for.
    Names of any length. -/
theorem C18_classify (hT : TblOK t) (s : List Char) (p : Parsed) :
    classify t s = some p ↔ Grammar t.prefixes s p := by
  have hP := hT.prefixes
  unfold classify
  constructor
  · intro h
    obtain ⟨l₁, k, l₂, ho, hk, hfail⟩ := List.findSome?_eq_some_iff.mp h
    have hf := (parseClass_iff hP k).mp hk
    refine ⟨k, hf, ?_⟩
    rintro rfl p' hp'
    have := hotfix_failed hT ho hfail
    rw [(parseClass_iff hP .hotfix).mpr hp'] at this
    cases this
  · rintro ⟨k, hf, hleg⟩
    have hk := (parseClass_iff hP k).mpr hf
    have hmem : k ∈ t.order := hT.complete k k.mem_all
    cases hc : t.order.findSome? (fun k => parseClass t.prefixes k s) with
    | none =>
      have := List.findSome?_eq_none_iff.mp hc k hmem
      rw [hk] at this
      cases this
    | some p' =>
      obtain ⟨l₁, k', l₂, ho, hk', hfail⟩ := List.findSome?_eq_some_iff.mp hc
      have hf' := (parseClass_iff hP k').mp hk'
      rcases form_disjoint hP hf hf' with rfl | ⟨rfl, rfl⟩ | ⟨rfl, rfl⟩
      · rw [hk] at hk'; exact hk'.symm ▸ rfl
      · have := hotfix_failed hT ho hfail
        rw [hk] at this
        cases this
      · exact absurd hf' (hleg rfl p')

/-- Exactly one kind. The grammar gives a name at most one kind and one set of attributes. -/
theorem C18_disjoint (hT : TblOK t) (s : List Char) (p p' : Parsed)
    (h : Grammar t.prefixes s p) (h' : Grammar t.prefixes s p') : p = p' := by
  have a := (C18_classify hT s p).mpr h
  have b := (C18_classify hT s p').mpr h'
  rw [a] at b
  exact Option.some.inj b

/-- the kind reported is the kind of the form -/
theorem C18_kind (hT : TblOK t) (s : List Char) (p : Parsed) (h : classify t s = some p) :
    ∃ k, Form t.prefixes k s p ∧ p.kind = k := by
  obtain ⟨k, hf, _⟩ := (C18_classify hT s p).mp h
  exact ⟨k, hf, by cases hf <;> rfl⟩

/-- Destinations. With the class flags of the source (`FlagsOK`), a recognised name can be a
    destination iff it is a development, stabilization or hotfix name. -/
theorem C18_dest (rows : List BertE.Gen.Names.ClassRow) (hF : FlagsOK rows) (s : List Char) (p : Parsed)
    (_h : classify t s = some p) :
    destFlag rows p.kind = some true ↔ p.kind ∈ destinationKinds := by
  have := hF p.kind p.kind.mem_all
  rw [this]
  simp

/-- Round trip of `w/<version>/<source>`, for every version (1 to 4 digit runs of any length)
    and every feature-branch name (known prefix, `/`, any non-empty label without newline: digits,
    dots, slashes, ticket-like and version-like fragments included): the name parses back as an
    integration branch with the same version text and the same source branch. -/
theorem C18_rt_w (hT : TblOK t) (v : Ver) (hv : v.WF) (pfx label : List Char)
    (hp : pfx ∈ t.prefixes) (hl : label ≠ []) (hn : noNewline label = true) :
    ∃ key project, KeyOf label key project ∧
      classify t (mkIntegration v.text (pfx ++ '/' :: label)) = some
        { kind := .integration, version := some v.text, major := some v.major, minor := v.minor,
          micro := v.micro, hfrev := v.hfrev, featureBranch := some (pfx ++ '/' :: label),
          pfx := some pfx, label := some label, jiraKey := key, jiraProject := project } := by
  obtain ⟨key, project, hf⟩ := isFeat_total hp hl hn
  refine ⟨key, project, hf.2.2, ?_⟩
  exact (C18_classify hT _ _).mpr ⟨.integration, Form.integration v ⟨pfx, label, key, project⟩ hv hf,
    fun h => by cases h⟩

/-- Round trip of `q/w/<pr id>/<version>/<source>`, for every pull-request id, version and
    feature-branch name: same id, same version text, same source branch. -/
theorem C18_rt_qw (hT : TblOK t) (n : Nat) (v : Ver) (hv : v.WF) (pfx label : List Char)
    (hp : pfx ∈ t.prefixes) (hl : label ≠ []) (hn : noNewline label = true) :
    ∃ key project, KeyOf label key project ∧
      classify t (mkQInt n v.text (pfx ++ '/' :: label)) = some
        { kind := .queueIntegration, prId := some n,
          version := some v.text, major := some v.major, minor := v.minor,
          micro := v.micro, hfrev := v.hfrev, featureBranch := some (pfx ++ '/' :: label),
          pfx := some pfx, label := some label, jiraKey := key, jiraProject := project } := by
  obtain ⟨key, project, hf⟩ := isFeat_total hp hl hn
  refine ⟨key, project, hf.2.2, ?_⟩
  have := (C18_classify hT _ _).mpr ⟨.queueIntegration,
    Form.queueIntegration (natText n) v ⟨pfx, label, key, project⟩ (natText_digits n) hv hf,
    fun h => by cases h⟩
  rw [digitsVal_natText] at this
  exact this

/-- Round trip of `q/<version>`, for every version: same version text; the destination it
    stands for is `queueDst v`. -/
theorem C18_rt_q (hT : TblOK t) (v : Ver) (hv : v.WF) :
    classify t (mkQueue v.text) = some
      { kind := .queue, version := some v.text, major := some v.major, minor := v.minor,
        micro := v.micro, hfrev := v.hfrev, dst := some (queueDst v) } :=
  (C18_classify hT _ _).mpr ⟨.queue, Form.queue v hv, fun h => by cases h⟩

/-- the queue of a development branch `development/<x>` or `development/<x.y>` (whose `version`
    attribute is the text after the `/`) stands for that branch -/
theorem C18_rt_q_development (hT : TblOK t) (s : List Char) (p : Parsed)
    (h : classify t s = some p) (hk : p.kind = .development) :
    ∃ ver q, p.version = some ver ∧ classify t (mkQueue ver) = some q ∧ q.kind = .queue ∧
      q.version = some ver ∧ q.dst = some s := by
  obtain ⟨k, hf, _⟩ := (C18_classify hT s p).mp h
  cases hf with
  | development1 a ha =>
    exact ⟨a, _, rfl, C18_rt_q hT (.v1 a) ha, rfl, rfl, rfl⟩
  | development2 a b ha hb =>
    exact ⟨_, _, rfl, C18_rt_q hT (.v2 a b) ⟨ha, hb⟩, rfl, rfl, rfl⟩
  | _ => cases hk

/-- the queue of a stabilization branch stands for that branch -/
theorem C18_rt_q_stabilization (hT : TblOK t) (s : List Char) (p : Parsed)
    (h : classify t s = some p) (hk : p.kind = .stabilization) :
    ∃ ver q, p.version = some ver ∧ classify t (mkQueue ver) = some q ∧ q.kind = .queue ∧
      q.version = some ver ∧ q.dst = some s := by
  obtain ⟨k, hf, _⟩ := (C18_classify hT s p).mp h
  cases hf with
  | stabilization a b c ha hb hc =>
    exact ⟨_, _, rfl, C18_rt_q hT (.v3 a b c) ⟨ha, hb, hc⟩, rfl, rfl, rfl⟩
  | _ => cases hk

/-- the queue of a hotfix branch `hotfix/<x.y.z>` whose version has become `x.y.z.n`
    (`'%d.%d.%d.%d'` of its numbers and the hotfix revision) stands for `hotfix/<x.y.z>` written
    with canonical numbers -/
theorem C18_rt_q_hotfix (hT : TblOK t) (x y z n : Nat) :
    ∃ q, classify t (mkQueue (Ver.v4 (natText x) (natText y) (natText z) (natText n)).text) = some q ∧
      q.kind = .queue ∧ q.hfrev = some n ∧
      q.dst = some ("hotfix/".toList ++ (Ver.v3 (natText x) (natText y) (natText z)).text) := by
  refine ⟨_, C18_rt_q hT _ ⟨natText_digits x, natText_digits y, natText_digits z, natText_digits n⟩,
    rfl, ?_, ?_⟩
  · show some (digitsVal (natText n)) = some n
    rw [digitsVal_natText]
  · show some (queueDst _) = _
    rw [queueDst_v4_natText]

end

/-- Table obligation: the factory order and the feature prefixes found in the current source
    are well-formed. -/
theorem C18_table : TblOK BertE.Drv.C18.genTbl := by decide +kernel

/-- Source obligation: the pattern texts, the Jira pattern, the class flags and the name
    format strings found in the current source are the ones the model implements. -/
theorem C18_source : SourceOK := by decide +kernel

theorem C18_classify_gen (s : List Char) (p : Parsed) :
    classify BertE.Drv.C18.genTbl s = some p ↔ Grammar BertE.Drv.C18.genTbl.prefixes s p :=
  C18_classify C18_table s p

theorem C18_dest_gen (s : List Char) (p : Parsed) (h : classify BertE.Drv.C18.genTbl s = some p) :
    destFlag BertE.Gen.Names.classes p.kind = some true ↔ p.kind ∈ destinationKinds :=
  C18_dest BertE.Gen.Names.classes C18_source.flags s p h

theorem C18_rt_w_gen (v : Ver) (hv : v.WF) (pfx label : List Char)
    (hp : pfx ∈ BertE.Drv.C18.genTbl.prefixes) (hl : label ≠ []) (hn : noNewline label = true) :
    ∃ q, classify BertE.Drv.C18.genTbl (mkIntegration v.text (pfx ++ '/' :: label)) = some q ∧
      q.kind = .integration ∧ q.version = some v.text ∧ q.featureBranch = some (pfx ++ '/' :: label) := by
  obtain ⟨_, _, _, h⟩ := C18_rt_w C18_table v hv pfx label hp hl hn
  exact ⟨_, h, rfl, rfl, rfl⟩

theorem C18_rt_qw_gen (n : Nat) (v : Ver) (hv : v.WF) (pfx label : List Char)
    (hp : pfx ∈ BertE.Drv.C18.genTbl.prefixes) (hl : label ≠ []) (hn : noNewline label = true) :
    ∃ q, classify BertE.Drv.C18.genTbl (mkQInt n v.text (pfx ++ '/' :: label)) = some q ∧
      q.kind = .queueIntegration ∧ q.prId = some n ∧ q.version = some v.text ∧
      q.featureBranch = some (pfx ++ '/' :: label) := by
  obtain ⟨_, _, _, h⟩ := C18_rt_qw C18_table n v hv pfx label hp hl hn
  exact ⟨_, h, rfl, rfl, rfl, rfl⟩

theorem C18_rt_q_gen (v : Ver) (hv : v.WF) :
    ∃ q, classify BertE.Drv.C18.genTbl (mkQueue v.text) = some q ∧ q.kind = .queue ∧
      q.version = some v.text ∧ q.dst = some (queueDst v) :=
  ⟨_, C18_rt_q C18_table v hv, rfl, rfl, rfl⟩

/-! ### non-vacuity: concrete inputs that meet the hypotheses -/

example : (Ver.v2 "10".toList "0".toList).WF := by decide +kernel
example : "bugfix".toList ∈ BertE.Drv.C18.genTbl.prefixes ∧ "w/4.3/feature/PRJ-12".toList ≠ [] ∧
    noNewline "w/4.3/feature/PRJ-12".toList = true := by decide +kernel
/-- a source branch that looks like a robot name with a ticket and a version in it -/
example : classify BertE.Drv.C18.genTbl
      (mkIntegration "10.0.1".toList "bugfix/w/4.3/feature/PRJ-12".toList) =
    some { kind := .integration, version := some "10.0.1".toList, major := some 10, minor := some 0,
           micro := some 1, featureBranch := some "bugfix/w/4.3/feature/PRJ-12".toList,
           pfx := some "bugfix".toList, label := some "w/4.3/feature/PRJ-12".toList } := by decide +kernel
example : classify BertE.Drv.C18.genTbl (mkQInt 12 "4.3".toList "feature/abc_1-007/4.3".toList) =
    some { kind := .queueIntegration, prId := some 12, version := some "4.3".toList, major := some 4,
           minor := some 3, featureBranch := some "feature/abc_1-007/4.3".toList,
           pfx := some "feature".toList, label := some "abc_1-007/4.3".toList,
           jiraKey := some "abc_1-007".toList, jiraProject := some "abc_1".toList } := by decide +kernel
example : (classify BertE.Drv.C18.genTbl "hotfix/10.0.1".toList).map (·.kind) = some .hotfix := by decide +kernel
example : (classify BertE.Drv.C18.genTbl "hotfix/10.0.1.2".toList).map (·.kind) = some .legacyHotfix := by
  decide +kernel
example : classify BertE.Drv.C18.genTbl "q/w/x".toList = none := by decide +kernel
example : (classify BertE.Drv.C18.genTbl (mkQueue "10.0.1.2".toList)).bind (·.dst) =
    some "hotfix/10.0.1".toList := by decide +kernel

end BertE.C18
