import BertE.Gen.Reactor
import BertE.Model.Reactor
import BertE.Lemmas.Reactor
import BertE.Drv.C07
import BertE.Lemmas.EvalGates
import BertE.Drv.Eval
import BertE.Props.C06
/-
C07 — only the right people can switch options on.

  "A privileged option (any bypass_*) takes effect only if it is written in a comment addressed to
   the robot by a configured admin who is not the author of the pull request (or is granted by
   per-author settings or the command line); an author-only option (approve) only if written by
   the author. A comment addressed to the robot that names an unknown keyword, or a privileged or
   author-only keyword from the wrong person, blocks the pull request with an explanation instead
   of being partly applied; text not addressed to the robot never changes an option."

The authorisation theorems are proved for ANY pair of tokenizers (`tok` for the option pass, `ctok`
for the command pass): they do not depend on the regular expressions. A text is *addressed*
(`AddressedBy tok`) when the tokenizer yields a keyword list for it and it *names* `k`
(`NamesBy tok`) when a keyword of that list has key `k`. For the program itself `tok` is
`keywordsOf env.pfx`, the model of the two regular expressions of `Reactor.handle_options`
(`addressed`, `names` below; `C07_addressed_shape` says where such a text starts), which the
correspondence check ties to the real code. Comment lists are unbounded. The registry is a parameter;
the obligations `C07_table*` discharge what is needed of it on the tables regenerated from the source.
-/
namespace BertE.C07
open BertE.Reactor

abbrev genRegistry : Registry := BertE.Drv.C07.genRegistry

/-- every option whose name starts with `bypass_` is privileged; `approve` is author-only. Nothing else. -/
structure RegistryOK (reg : Registry) : Prop where
  bypass_privileged : ∀ o ∈ reg.options, "bypass_".toList.isPrefixOf o.name.toList = true → o.privileged = true
  approve_authored : ∀ o ∈ reg.options, o.name = "approve" → o.authored = true

instance (reg : Registry) : Decidable (RegistryOK reg) :=
  decidable_of_iff
    ((∀ o ∈ reg.options, "bypass_".toList.isPrefixOf o.name.toList = true → o.privileged = true) ∧
     (∀ o ∈ reg.options, o.name = "approve" → o.authored = true))
    ⟨fun ⟨a, b⟩ => ⟨a, b⟩, fun h => ⟨h.bypass_privileged, h.approve_authored⟩⟩

/-- every bypass helper of utils.py reads, in the job settings, a key that dispatches to a privileged option -/
def HelpersOK (reg : Registry) (helpers : List (String × String × String)) : Prop :=
  ∀ h ∈ helpers, ((reg.findOpt h.2.1).map (·.privileged)) = some true

instance (reg : Registry) (helpers : List (String × String × String)) : Decidable (HelpersOK reg helpers) := by
  unfold HelpersOK; infer_instance

/-- the five obligations below, in one evaluation of the generated registry -/
private theorem tables :
    RegistryOK genRegistry ∧ HandlersOK genRegistry ∧ HelpersOK genRegistry BertE.Gen.Reactor.bypassHelpers ∧
    (∀ o ∈ genRegistry.options, o.privileged = true → o.dflt.truthy = false) ∧
    (∀ o ∈ genRegistry.options, o.name = "after_pull_request" → o.cmdline = false) := by decide +kernel

/-- **Table obligation**: in the current source every `bypass_*` is privileged and `approve` is author-only. -/
theorem C07_table : RegistryOK genRegistry := tables.1

/-- **Table obligation**: the option handlers are the two the model knows, `after_pull_request` is registered
    under the key it writes, and that key starts as a set. -/
theorem C07_table_handlers : HandlersOK genRegistry := tables.2.1

/-- **Table obligation**: each `bypass_X(job)` helper reads a privileged option. -/
theorem C07_table_helpers : HelpersOK genRegistry BertE.Gen.Reactor.bypassHelpers := tables.2.2.1

/-- **Table obligation**: without a command-line grant no privileged option is on by default. -/
theorem C07_table_defaults : ∀ o ∈ genRegistry.options, o.privileged = true → o.dflt.truthy = false := tables.2.2.2.1

/-- the command line cannot turn `after_pull_request` into something else than a set -/
theorem C07_table_apr_not_cmdline :
    ∀ o ∈ genRegistry.options, o.name = "after_pull_request" → o.cmdline = false := tables.2.2.2.2

/-- the tokenizer reads an option declaration in the text -/
def AddressedBy (tok : OptTok) (text : List Char) : Prop := ∃ kws, tok text = some kws

/-- the tokenizer reads the keyword `k` in the text -/
def NamesBy (tok : OptTok) (text : List Char) (k : String) : Prop :=
  ∃ kws, tok text = some kws ∧ ∃ kw ∈ kws, kw.key = k

theorem C07_names_addressed {tok : OptTok} {text : List Char} {k : String} (h : NamesBy tok text k) :
    AddressedBy tok text := by
  obtain ⟨kws, h, _⟩ := h; exact ⟨kws, h⟩

/-- addressed to the robot, for the program's own tokenizer (prefix form `@robot ...` or `/keyword` form) -/
def addressed (env : Env) (text : List Char) : Prop := AddressedBy (keywordsOf env.pfx) text

/-- the text names keyword `k`, for the program's own tokenizer -/
def names (env : Env) (text : List Char) (k : String) : Prop := NamesBy (keywordsOf env.pfx) text k

/-- a configured admin who is not the author of the pull request -/
def AdminNotAuthor (env : Env) (author : String) : Prop := author ∈ env.admins ∧ author ≠ env.prAuthor

private theorem privileged_iff (env : Env) (a : String) : env.privileged a = true ↔ AdminNotAuthor env a := by
  simp [Env.privileged, AdminNotAuthor]

private theorem authored_iff (env : Env) (a : String) : env.authored a = true ↔ a = env.prAuthor := by
  simp [Env.authored]

/-- `k` is not an option (an unknown word, or a command where an option is expected) -/
def Unknown (reg : Registry) (k : String) : Prop := reg.findOpt k = none

/-- `k` is a privileged option and `author` is not an admin other than the author of the pull request,
    or `k` is author-only and `author` is not the author -/
def WrongPerson (reg : Registry) (env : Env) (author k : String) : Prop :=
  ∃ o, reg.findOpt k = some o ∧
    ((o.privileged = true ∧ ¬ AdminNotAuthor env author) ∨ (o.authored = true ∧ author ≠ env.prAuthor))

section
variable {tok : OptTok} {ctok : CmdTok} {reg : Registry} {env : Env} {cs : List Comment} {st : State}

/-- Any option whose value differs from its default after `handle_comments` was named in a comment addressed
    to the robot, by somebody with the rights that option demands. -/
theorem C07_changed_named (hown : HandlersOwnKey reg)
    (h : (handleCommentsWith tok ctok reg env cs).state? = some st)
    {k : String} (hne : st.get k ≠ (initState reg).get k) :
    ∃ c ∈ cs, NamesBy tok c.text k ∧ ∃ o, reg.findOpt k = some o ∧
      (o.privileged = true → AdminNotAuthor env c.author) ∧ (o.authored = true → c.author = env.prAuthor) := by
  obtain ⟨c, hc, hnamed, o, ho, hp, ha⟩ := optionPass_changed hown cs _ st (handleCommentsWith_state h) k hne
  exact ⟨c, hc, hnamed, o, ho, fun h => (privileged_iff env _).mp (hp h), fun h => (authored_iff env _).mp (ha h)⟩

/-- **Privileged options.** If, after `handle_comments`, a privileged option differs from its default, then some
    comment addressed to the robot, written by a configured admin who is not the author of the pull request,
    names it. -/
theorem C07_priv (hown : HandlersOwnKey reg)
    (h : (handleCommentsWith tok ctok reg env cs).state? = some st)
    {k : String} {o : OptSpec} (ho : reg.findOpt k = some o) (hp : o.privileged = true)
    (hne : st.get k ≠ (initState reg).get k) :
    ∃ c ∈ cs, AdminNotAuthor env c.author ∧ NamesBy tok c.text k := by
  obtain ⟨c, hc, hnamed, o', ho', hpriv, _⟩ := C07_changed_named hown h hne
  rw [ho] at ho'; cases ho'
  exact ⟨c, hc, hpriv hp, hnamed⟩

/-- **Author-only options.** If an author-only option differs from its default, then the author of the pull
    request named it in a comment addressed to the robot. -/
theorem C07_authored (hown : HandlersOwnKey reg)
    (h : (handleCommentsWith tok ctok reg env cs).state? = some st)
    {k : String} {o : OptSpec} (ho : reg.findOpt k = some o) (ha : o.authored = true)
    (hne : st.get k ≠ (initState reg).get k) :
    ∃ c ∈ cs, c.author = env.prAuthor ∧ NamesBy tok c.text k := by
  obtain ⟨c, hc, hnamed, o', ho', _, hauth⟩ := C07_changed_named hown h hne
  rw [ho] at ho'; cases ho'
  exact ⟨c, hc, hauth ha, hnamed⟩

/-- the same for every `bypass_*` key of a registry that meets the table obligation -/
theorem C07_bypass (hreg : RegistryOK reg) (hown : HandlersOwnKey reg)
    (h : (handleCommentsWith tok ctok reg env cs).state? = some st)
    {k : String} (hk : "bypass_".toList.isPrefixOf k.toList = true)
    (hne : st.get k ≠ (initState reg).get k) :
    ∃ c ∈ cs, AdminNotAuthor env c.author ∧ NamesBy tok c.text k := by
  obtain ⟨c, hc, hnamed, o, ho, hpriv, _⟩ := C07_changed_named hown h hne
  obtain ⟨hmem, hname⟩ := Registry.findOpt_some ho
  exact ⟨c, hc, hpriv (hreg.bypass_privileged o hmem (hname ▸ hk)), hnamed⟩

/-- and for `approve` -/
theorem C07_approve (hreg : RegistryOK reg) (hown : HandlersOwnKey reg)
    (h : (handleCommentsWith tok ctok reg env cs).state? = some st)
    (hne : st.get "approve" ≠ (initState reg).get "approve") :
    ∃ c ∈ cs, c.author = env.prAuthor ∧ NamesBy tok c.text "approve" := by
  obtain ⟨c, hc, hnamed, o, ho, _, hauth⟩ := C07_changed_named hown h hne
  obtain ⟨hmem, hname⟩ := Registry.findOpt_some ho
  exact ⟨c, hc, hauth (hreg.approve_authored o hmem hname), hnamed⟩

/-- **Taking effect.** If a bypass helper `job.settings.k or job.author_bypass.get(k', False)` answers true for
    a privileged key `k`, then the default of `k` is on (the command line, see `C07_cmdline_default`), or the
    per-author settings grant `k'`, or an admin who is not the author asked for `k` in an addressed comment. -/
theorem C07_effective (hown : HandlersOwnKey reg)
    (h : (handleCommentsWith tok ctok reg env cs).state? = some st)
    {k k' : String} {o : OptSpec} (ho : reg.findOpt k = some o) (hp : o.privileged = true)
    (hact : bypassActive env st k k' = true) :
    o.dflt.truthy = true ∨ k' ∈ env.authorBypass ∨
      ∃ c ∈ cs, AdminNotAuthor env c.author ∧ NamesBy tok c.text k := by
  unfold bypassActive at hact
  rcases Bool.or_eq_true _ _ ▸ hact with hv | hb
  · by_cases hne : st.get k = (initState reg).get k
    · left
      rw [hne, initState_get, ho] at hv
      simpa using hv
    · exact Or.inr (Or.inr (C07_priv hown h ho hp hne))
  · exact Or.inr (Or.inl (by simpa using hb))

/-- **Not addressed.** A text in which the tokenizer reads no option declaration leaves the settings as they
    are, whoever wrote it. -/
theorem C07_unaddressed (st : State) (text : List Char) (priv auth : Bool) (h : ¬ AddressedBy tok text) :
    handleOptionsWith tok reg st text priv auth = .ok st := by
  unfold handleOptionsWith
  cases ht : tok text with
  | none => rfl
  | some kws => exact absurd ⟨kws, ht⟩ h

/-- If no comment of the list is addressed to the robot, the job runs with the default of every option. -/
theorem C07_unaddressed_all (hun : ∀ c ∈ cs, ¬ AddressedBy tok c.text)
    (h : (handleCommentsWith tok ctok reg env cs).state? = some st) : st = initState reg := by
  have hop := handleCommentsWith_state h
  rw [optionPass_unaddressed cs _ (fun c hc => by
    cases ht : tok c.text with
    | none => rfl
    | some kws => exact absurd ⟨kws, ht⟩ (hun c hc))] at hop
  cases hop; rfl

private theorem offends_of {c : Comment} {kw : Kw}
    (h : Unknown reg kw.key ∨ WrongPerson reg env c.author kw.key) :
    Offends reg (env.privileged c.author) (env.authored c.author) kw := by
  unfold Offends
  rcases h with h | ⟨o, ho, h⟩
  · unfold Unknown at h; rw [h]; trivial
  · rw [ho]
    rcases h with ⟨hp, hn⟩ | ⟨ha, hn⟩
    · exact Or.inl ⟨hp, Bool.eq_false_iff.mpr fun hpr => hn ((privileged_iff env _).mp hpr)⟩
    · exact Or.inr ⟨ha, Bool.eq_false_iff.mpr fun hau => hn ((authored_iff env _).mp hau)⟩

private theorem optionPass_blocked {c : Comment} (hc : c ∈ cs) {kws : List Kw} (htok : tok c.text = some kws)
    (hnc : ¬ IsCommandCall reg kws)
    (hbad : ∃ kw ∈ kws, Unknown reg kw.key ∨ WrongPerson reg env c.author kw.key) :
    ∃ o, optionPass tok reg env (initState reg) cs = .error o := by
  obtain ⟨kw, hkw, hb⟩ := hbad
  refine optionPass_error (fun st => ?_) cs (initState reg) hc
  unfold handleOptionsWith
  rw [htok]
  exact applyKeywords_offends kws true st ⟨kw, hkw, offends_of hb⟩ (fun _ => hnc)

/-- **Nothing is partly applied.** A comment addressed to the robot that is not a command call and names an
    unknown keyword, or a privileged / author-only keyword from the wrong person, makes `handle_comments` abort:
    the job does not run with any settings (whatever the other comments, before or after, say). -/
theorem C07_blocks_aborts {c : Comment} (hc : c ∈ cs) {kws : List Kw} (htok : tok c.text = some kws)
    (hnc : ¬ IsCommandCall reg kws)
    (hbad : ∃ kw ∈ kws, Unknown reg kw.key ∨ WrongPerson reg env c.author kw.key) :
    (handleCommentsWith tok ctok reg env cs).state? = none := by
  obtain ⟨o, ho⟩ := optionPass_blocked hc htok hnc hbad
  unfold handleCommentsWith
  rw [ho]
  exact optionPass_error_state cs _ o ho

/-- **Blocking with an explanation.** Under the same conditions, when every keyword has the form `key[=arg]` of
    the property's grammar (at most one argument) — or when the message for a malformed keyword renders —
    `handle_comments` raises one of the messages `UnknownCommand`, `NotEnoughCredentials`, `NotAuthor`,
    `IncorrectCommandSyntax`, which is posted on the pull request. -/
theorem C07_blocks (hok : HandlersOK reg)
    (hgrammar : reg.syntaxMsgRenders = true ∨
      ∀ c ∈ cs, ∀ kws, tok c.text = some kws → ∀ kw ∈ kws, kw.args.length ≤ 1)
    {c : Comment} (hc : c ∈ cs) {kws : List Kw} (htok : tok c.text = some kws)
    (hnc : ¬ IsCommandCall reg kws)
    (hbad : ∃ kw ∈ kws, Unknown reg kw.key ∨ WrongPerson reg env c.author kw.key) :
    ∃ e, handleCommentsWith tok ctok reg env cs = .error e := by
  obtain ⟨o, ho⟩ := optionPass_blocked hc htok hnc hbad
  unfold handleCommentsWith
  rw [ho]
  rcases optionPass_typed hok cs _ (initState_aprTyped hok) o ho with ⟨e, rfl⟩ | ⟨hr, c', hc', kws', ht', kw', hkw', hl⟩
  · exact ⟨e, rfl⟩
  · rcases hgrammar with hg | hg
    · rw [hg] at hr; cases hr
    · have := hg c' hc' kws' ht' kw' hkw'
      omega

/-- the keyword `key=a=b` that meets a message which does not render: the job dies with the template error
    instead of a message (outside the grammar `key[=arg]` of the property; shown for the record) -/
theorem C07_blocks_needs_grammar :
    handleComments ⟨[⟨"approve", false, true, .bool false, .setOpt, true⟩], [], false⟩
      ⟨["admin"], "author", "robot", []⟩
      [⟨"author", "@robot approve=a=b foo".toList⟩] = .crash "UndefinedError" := by decide +kernel

end

private theorem mem_withCmdLine {reg : Registry} {keys : List String} {o' : OptSpec}
    (h : o' ∈ (reg.withCmdLine keys).options) :
    ∃ o ∈ reg.options, o'.name = o.name ∧ o'.privileged = o.privileged ∧ o'.authored = o.authored ∧
      o'.handler = o.handler ∧ o'.cmdline = o.cmdline ∧ (o'.dflt = o.dflt ∨ (o.cmdline = true ∧ o'.dflt = .bool true)) := by
  unfold Registry.withCmdLine at h
  simp only [List.mem_map] at h
  obtain ⟨o, ho, rfl⟩ := h
  refine ⟨o, ho, ?_⟩
  split
  · next hc => exact ⟨rfl, rfl, rfl, rfl, rfl, Or.inr ⟨(Bool.and_eq_true_iff.mp hc).1, rfl⟩⟩
  · exact ⟨rfl, rfl, rfl, rfl, rfl, Or.inl rfl⟩

/-- granting options on the command line keeps the registry well-formed -/
theorem C07_cmdline_ok {reg : Registry} (keys : List String) (h : RegistryOK reg) :
    RegistryOK (reg.withCmdLine keys) := by
  constructor
  · intro o' ho' hpre
    obtain ⟨o, ho, hn, hp, _⟩ := mem_withCmdLine ho'
    rw [hp]; exact h.bypass_privileged o ho (hn ▸ hpre)
  · intro o' ho' hname
    obtain ⟨o, ho, hn, _, ha, _⟩ := mem_withCmdLine ho'
    rw [ha]; exact h.approve_authored o ho (hn ▸ hname)

theorem C07_cmdline_handlers {reg : Registry} (keys : List String) (h : HandlersOK reg)
    (hapr : ∀ o ∈ reg.options, o.name = "after_pull_request" → o.cmdline = false) :
    HandlersOK (reg.withCmdLine keys) := by
  constructor
  · intro o' ho' hh
    obtain ⟨o, ho, hn, _, _, hhd, _⟩ := mem_withCmdLine ho'
    rw [hn]; exact h.own_key o ho (hhd ▸ hh)
  · intro o' ho'
    obtain ⟨o, ho, _, _, _, hhd, _⟩ := mem_withCmdLine ho'
    rw [hhd]; exact h.known o ho
  · intro o' ho' hname
    obtain ⟨o, ho, hn, _, _, hhd, hcm, hd⟩ := mem_withCmdLine ho'
    have hname' : o.name = "after_pull_request" := hn ▸ hname
    obtain ⟨hh, hs⟩ := h.apr o ho hname'
    refine ⟨hhd ▸ hh, ?_⟩
    rcases hd with hd | ⟨hc, _⟩
    · rw [hd]; exact hs
    · rw [hapr o ho hname'] at hc; cases hc

/-- a default that is on comes from the registry itself or from the command line -/
theorem C07_cmdline_default {reg : Registry} {keys : List String} {k : String} {o' : OptSpec}
    (h : (reg.withCmdLine keys).findOpt k = some o') (ht : o'.dflt.truthy = true) :
    (∃ o, reg.findOpt k = some o ∧ o.dflt.truthy = true) ∨ k ∈ keys := by
  rw [findOpt_withCmdLine] at h
  cases ho : reg.findOpt k with
  | none => rw [ho] at h; cases h
  | some o =>
    rw [ho] at h
    simp only [Option.map_some, Option.some.injEq] at h
    obtain ⟨_, hname⟩ := Registry.findOpt_some ho
    by_cases hc : (o.cmdline && keys.contains o.name) = true
    · right
      have hk := (Bool.and_eq_true_iff.mp hc).2
      rw [hname] at hk
      simpa using hk
    · simp only [hc, Bool.false_eq_true, if_false] at h
      exact Or.inl ⟨o, rfl, h ▸ ht⟩

/-- On the current source, with any options granted on the command line: if a bypass helper of utils.py answers
    true after `handle_comments`, then its key was granted on the command line, or by the per-author settings,
    or an admin who is not the author of the pull request wrote it in a comment addressed to the robot. -/
theorem C07_bypass_gen (keys : List String) (env : Env) (cs : List Comment) (st : State)
    (h : (handleComments (genRegistry.withCmdLine keys) env cs).state? = some st)
    (hlp : String × String × String) (hmem : hlp ∈ BertE.Gen.Reactor.bypassHelpers)
    (hact : bypassActive env st hlp.2.1 hlp.2.2 = true) :
    hlp.2.1 ∈ keys ∨ hlp.2.2 ∈ env.authorBypass ∨
      ∃ c ∈ cs, AdminNotAuthor env c.author ∧ names env c.text hlp.2.1 := by
  have hok := C07_cmdline_handlers keys C07_table_handlers C07_table_apr_not_cmdline
  have hh := C07_table_helpers hlp hmem
  cases ho : genRegistry.findOpt hlp.2.1 with
  | none => rw [ho] at hh; cases hh
  | some o =>
    rw [ho] at hh
    simp only [Option.map_some, Option.some.injEq] at hh
    have ho' := findOpt_withCmdLine genRegistry keys hlp.2.1
    rw [ho] at ho'
    simp only [Option.map_some] at ho'
    have hp' : (if o.cmdline && keys.contains o.name then { o with dflt := Val.bool true } else o).privileged = true := by
      split <;> exact hh
    rcases C07_effective hok.ownKey h ho' hp' hact with hd | hb | hc
    · left
      rcases C07_cmdline_default ho' hd with ⟨o2, ho2, ht2⟩ | hk
      · rw [ho] at ho2; cases ho2
        have := C07_table_defaults o (Registry.findOpt_some ho).1 hh
        rw [this] at ht2; cases ht2
      · exact hk
    · exact Or.inr (Or.inl hb)
    · exact Or.inr (Or.inr hc)

/-- On the current source, with any options granted on the command line: a `bypass_*` option whose value differs
    from its default was asked for by an admin who is not the author, in a comment addressed to the robot. -/
theorem C07_priv_gen (keys : List String) (env : Env) (cs : List Comment) (st : State)
    (h : (handleComments (genRegistry.withCmdLine keys) env cs).state? = some st)
    (k : String) (hk : "bypass_".toList.isPrefixOf k.toList = true)
    (hne : st.get k ≠ (initState (genRegistry.withCmdLine keys)).get k) :
    ∃ c ∈ cs, AdminNotAuthor env c.author ∧ names env c.text k :=
  C07_bypass (C07_cmdline_ok keys C07_table)
    (C07_cmdline_handlers keys C07_table_handlers C07_table_apr_not_cmdline).ownKey h hk hne

/-- On the current source: `approve` is on only if the author of the pull request wrote it (or the command line
    granted it: then it keeps its default). -/
theorem C07_approve_gen (keys : List String) (env : Env) (cs : List Comment) (st : State)
    (h : (handleComments (genRegistry.withCmdLine keys) env cs).state? = some st)
    (hne : st.get "approve" ≠ (initState (genRegistry.withCmdLine keys)).get "approve") :
    ∃ c ∈ cs, c.author = env.prAuthor ∧ names env c.text "approve" :=
  C07_approve (C07_cmdline_ok keys C07_table)
    (C07_cmdline_handlers keys C07_table_handlers C07_table_apr_not_cmdline).ownKey h hne

/-- On the current source, a comment of the grammar (every keyword `key[=arg]`) that is addressed to the robot, is
    not a command call, and names an unknown keyword or one the writer may not use, blocks the pull request with a
    message. -/
theorem C07_blocks_gen (keys : List String) (env : Env) (cs : List Comment)
    (hgrammar : ∀ c ∈ cs, ∀ kws, keywordsOf env.pfx c.text = some kws → ∀ kw ∈ kws, kw.args.length ≤ 1)
    (c : Comment) (hc : c ∈ cs) (kws : List Kw) (htok : keywordsOf env.pfx c.text = some kws)
    (hnc : ¬ IsCommandCall (genRegistry.withCmdLine keys) kws)
    (hbad : ∃ kw ∈ kws, Unknown (genRegistry.withCmdLine keys) kw.key ∨
      WrongPerson (genRegistry.withCmdLine keys) env c.author kw.key) :
    ∃ e, handleComments (genRegistry.withCmdLine keys) env cs = .error e :=
  C07_blocks (C07_cmdline_handlers keys C07_table_handlers C07_table_apr_not_cmdline) (Or.inr hgrammar)
    hc htok hnc hbad

/-- A text the program reads an option declaration in starts (after white space) with the mention of the
    robot or with a slash. -/
theorem C07_addressed_shape (env : Env) (text : List Char) (h : addressed env text) :
    env.pfx.isPrefixOf (strip text) = true ∨ (strip text).head? = some '/' := by
  obtain ⟨kws, h⟩ := h
  unfold keywordsOf at h
  cases hb : optionBody env.pfx text with
  | none => rw [hb] at h; cases h
  | some body =>
    unfold optionBody at hb
    simp only at hb
    by_cases hp : env.pfx.isPrefixOf (strip text) = true
    · exact Or.inl hp
    · right
      simp only [hp, Bool.false_eq_true, if_false] at hb
      split at hb
      · rename_i hs
        cases hst : strip text with
        | nil => rw [hst] at hs; simp [slashRun] at hs
        | cons ch r =>
          rw [hst] at hs
          simp only [slashRun] at hs
          split at hs
          · rename_i hch; simp only [List.head?_cons]; simpa using hch
          · cases hs
      · cases hb

/-! ### Non-vacuity: the hypotheses are met on concrete inputs
(on a fixed excerpt of the registry, so that renaming an option upstream does not break an example) -/

private def reg0 : Registry :=
  ⟨[⟨"after_pull_request", false, false, .set [], .afterPR, false⟩,
    ⟨"bypass_build_status", true, false, .bool false, .setOpt, true⟩,
    ⟨"bypass_jira_check", true, false, .bool false, .setOpt, true⟩,
    ⟨"approve", false, true, .bool false, .setOpt, true⟩,
    ⟨"wait", false, false, .bool false, .setOpt, true⟩],
   [⟨"status", false, 0, none⟩, ⟨"build", false, 0, some 0⟩], true⟩

private def env0 : Env := ⟨["admin"], "author", "robot", []⟩

example : RegistryOK reg0 ∧ HandlersOK reg0 := by decide +kernel

/-- `C07_priv`, `C07_authored`, `C07_changed_named`: an admin switches a bypass on (prefix syntax with colon and
    comma), the author approves with the slash syntax; the other options keep their defaults -/
example : (handleComments reg0 env0
      [⟨"admin", "@robot: bypass_build_status, after_pull_request=12".toList⟩, ⟨"author", "/approve".toList⟩]).state?.map
      (fun st => (st.get "bypass_build_status", st.get "approve", st.get "after_pull_request", st.get "wait"))
    = some (some (.bool true), some (.bool true), some (.set ["12"]), some (.bool false)) := by decide +kernel

/-- `C07_blocks`: the author asks for a bypass after an admin's valid comment: nothing is applied -/
example : handleComments reg0 env0
      [⟨"admin", "@robot bypass_jira_check".toList⟩, ⟨"author", "@robot wait bypass_build_status".toList⟩]
    = .error (.notEnoughCredentials "bypass_build_status" "author" true) := by decide +kernel

example : keywordsOf env0.pfx "@robot wait bypass_build_status".toList
    = some [⟨"wait", []⟩, ⟨"bypass_build_status", []⟩] := by decide +kernel

/-- an admin who is the author is not privileged -/
example : handleComments reg0 ⟨["admin", "author"], "author", "robot", []⟩
      [⟨"author", "@robot bypass_build_status".toList⟩]
    = .error (.notEnoughCredentials "bypass_build_status" "author" true) := by decide +kernel

/-- somebody else approves; an unknown keyword -/
example : handleComments reg0 env0 [⟨"admin", "/approve".toList⟩]
    = .error (.notAuthor "approve" "admin") := by decide +kernel

example : handleComments reg0 env0 [⟨"author", "@robot approve please".toList⟩]
    = .error (.unknownCommand "please" "author") := by decide +kernel

/-- `C07_unaddressed`: text that is not addressed to the robot; a command call is left to the command pass -/
example : ¬ addressed env0 "I would approve this, see @robot bypass_build_status".toList := by
  rintro ⟨kws, h⟩
  have : keywordsOf env0.pfx "I would approve this, see @robot bypass_build_status".toList = none := by decide +kernel
  rw [this] at h; cases h

example : handleComments reg0 env0
      [⟨"other", "bypass_build_status please".toList⟩, ⟨"other", "@robot status".toList⟩]
    = .command (initState reg0) "status" [] := by decide +kernel

/-- `C07_effective` / `C07_bypass_gen`: the helper answers true after the admin's comment, with a command-line
    grant, and with a per-author setting -/
example : (handleComments reg0 env0 [⟨"admin", "@robot bypass_build_status".toList⟩]).state?.map
      (fun st => bypassActive env0 st "bypass_build_status" "bypass_build_status") = some true := by decide +kernel

example : (handleComments (reg0.withCmdLine ["bypass_jira_check"]) ⟨["admin"], "author", "robot", ["bypass_x"]⟩ []).state?.map
      (fun st => (bypassActive env0 st "bypass_jira_check" "bypass_jira_check",
                  bypassActive env0 st "bypass_build_status" "bypass_build_status",
                  bypassActive ⟨["admin"], "author", "robot", ["bypass_x"]⟩ st "bypass_x" "bypass_x"))
    = some (true, false, true) := by decide +kernel

/-- the tables of the current source are not empty -/
example : genRegistry.options.length ≥ 2 ∧ (genRegistry.options.any (·.privileged)) = true ∧
    (genRegistry.options.any (·.authored)) = true ∧ BertE.Gen.Reactor.bypassHelpers ≠ [] := by decide +kernel

end BertE.C07

/-! ### End to end: options inside the composed evaluation (`Model/Eval.lean`)

`evalPr` reads the options with `handleComments c.reg (envFor c p) (seenComments c p)`: the registry of the
settings, the admins of the settings, the AUTHOR OF THE PULL REQUEST ON THE HOST, its comments as the host lists
them (plus the greeting the robot has just posted). Everything the evaluation does with an option goes through
`Result.options` (`evalPr_options`). -/
namespace BertE.C07
open BertE.Reactor BertE.Eval BertE.Flow

/-- **C07, end to end (non-interference).** Whatever the evaluation does, a privileged option differs from its
    default (command line included) in the settings it runs with ONLY IF a comment of the pull request, addressed
    to the robot and written by a configured admin who is not the author of the pull request, names it: comments
    of the author, of non-admins, and text not addressed to the robot cannot switch it on. -/
theorem C07_e2e_priv {c : Eval.Cfg} (hown : HandlersOwnKey c.reg)
    {h : Host} {s : Sys} {id : Nat} {orc : List Bool} {sel : List Nat} {st : State}
    (ho : (evalPr c h s id orc sel).options = some st)
    {k : String} {o : OptSpec} (hk : c.reg.findOpt k = some o) (hp : o.privileged = true)
    (hne : st.get k ≠ (initState c.reg).get k) :
    ∃ p, h.pr id = some p ∧ ∃ cm ∈ seenComments c p, AdminNotAuthor (envFor c p) cm.author ∧
      names (envFor c p) cm.text k := by
  obtain ⟨p, hp', hok⟩ := evalPr_options ho
  obtain ⟨cm, hcm, hadm, hnames⟩ := C07_priv hown (handleComments_state hok) hk hp hne
  exact ⟨p, hp', cm, hcm, hadm, hnames⟩

/-- **C07, end to end: entering on a bypass of the build gate.** If a pull request enters (queue or direct merge)
    although a build key is configured and NOT every integration tip of the updated clone is SUCCESSFUL in the
    host's table, then `bypass_build_status` is on by default (command line), or the per-author settings of its
    author grant it, or a comment by an admin who is not its author names it. -/
theorem C07_e2e_build_bypass {c : Eval.Cfg} {msgs : List BertE.Gen.Messages.Msg} (hT : BertE.C06.TblOK c.build msgs)
    (hown : HandlersOwnKey c.reg) {o : OptSpec} (hk : c.reg.findOpt "bypass_build_status" = some o)
    (hp : o.privileged = true) (hkey : c.buildKey ≠ "")
    {h : Host} {s : Sys} {id : Nat} {orc : List Bool} {sel : List Nat}
    {p : Eval.Pr} {st : State} {src : BertE.Names.Parsed} {pr : PrInfo} {sc dc : BertE.Git.Commit} {l4 : Loc}
    {pushW : List Op} (he : Entered c h s id orc sel p st src pr sc dc l4 pushW)
    (hng : ¬ BertE.C06.e2eAllGreen h s pr l4) :
    o.dflt.truthy = true ∨ "bypass_build_status" ∈ (envFor c p).authorBypass ∨
      ∃ cm ∈ seenComments c p, AdminNotAuthor (envFor c p) cm.author ∧
        names (envFor c p) cm.text "bypass_build_status" := by
  have hact : bypassActive (envFor c p) st "bypass_build_status" "bypass_build_status" = true := by
    rcases BertE.C06.e2e_build_pass hT he.build with hb | hg
    · rcases hb with h1 | h1 | h1
      · unfold bypassActive; unfold Eval.opt at h1; rw [h1]; rfl
      · unfold bypassActive; rw [h1]; simp
      · exact absurd h1 hkey
    · exact absurd hg hng
  exact C07_effective hown (handleComments_state he.options) hk hp hact

/-- **C07, end to end: blocking.** When `handle_comments` answers with one of its messages (an unknown keyword, a
    privileged or author-only keyword from the wrong person: `C07_blocks`), the evaluation ends before the clone
    with the EMPTY plan: nothing is partly applied — no integration branch, no queue entry, no merge. -/
theorem C07_e2e_blocks {c : Eval.Cfg} {h : Host} {s : Sys} {id : Nat} {p : Eval.Pr} (orc : List Bool) (sel : List Nat)
    (hp : h.pr id = some p) {e : Err} (herr : handleComments c.reg (envFor c p) (seenComments c p) = .error e) :
    (evalPr c h s id orc sel).stage = .early ∧ (evalPr c h s id orc sel).plan.ops = [] ∧
    (evalPr c h s id orc sel).options = none := by
  obtain ⟨h1, h2, _⟩ := evalPr_comments_stop orc sel hp (fun st hok => by rw [herr] at hok; cases hok)
  refine ⟨h1, by rw [h2]; rfl, ?_⟩
  cases hopt : (evalPr c h s id orc sel).options with
  | none => rfl
  | some st =>
    obtain ⟨p', hp', hok⟩ := evalPr_options hopt
    rw [hp] at hp'; cases hp'
    rw [herr] at hok; cases hok

/-! Non-vacuity: the author asks for `bypass_build_status` (blocked, empty plan); the admin asks for it (the pull
    request enters although no build was reported). -/

def e2eCfg : Eval.Cfg := BertE.C06.exCfg

def e2eHost (cs : List Comment) : Host :=
  ⟨[{ id := 1, author := "contrib", src := "feature/TEST-1", dst := "development/4.3", status := "OPEN",
      comments := cs, approvals := [], changeRequests := [], participants := [] }], [], []⟩

example : (evalPr e2eCfg (e2eHost [⟨"contrib", "@robot bypass_build_status".toList⟩]) BertE.C06.exSys 1 [] []).outcome
      = "NotEnoughCredentials" ∧
    (evalPr e2eCfg (e2eHost [⟨"contrib", "@robot bypass_build_status".toList⟩]) BertE.C06.exSys 1 [] []).plan.ops = [] ∧
    (evalPr e2eCfg (e2eHost [⟨"admin", "@robot bypass_build_status".toList⟩]) BertE.C06.exSys 1 [] []).outcome = "Queued" ∧
    (evalPr e2eCfg (e2eHost []) BertE.C06.exSys 1 [] []).outcome = "BuildNotStarted" := by decide +kernel

example : HandlersOwnKey e2eCfg.reg :=
  (C07_cmdline_handlers ["bypass_jira_check"] C07_table_handlers C07_table_apr_not_cmdline).ownKey

end BertE.C07
