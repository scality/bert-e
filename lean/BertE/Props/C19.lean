import BertE.Lemmas.Prs
import BertE.Props.C18
import BertE.Drv.C19
import BertE.Drv.C01
/-
C19 — integration branches and integration pull requests stay one-to-one with their pull request.

"However often and in whatever order events arrive, each pull request has at most one integration branch
and at most one open integration pull request per target beyond the first, named and titled after it; an
event on an integration pull request or on an integration or source commit is handled as an event on the
parent pull request. Declining the parent declines exactly its open integration pull requests and deletes
exactly its integration branches, and merging it removes them."

Two models are involved. The pull-request table of the git host (`Model/Prs.lean`: `createChildren`,
`declineChildren`, `redirectPr`, `handleCommit`, the description template) and the ref-level system model
(`Model/Flow.lean`: `planPr`, `planDeclined`, `directMerge`, `planQueues`), in which the integration branch of
pull request `pr` for target `d` IS the ref `w d pr.src` — at most one per (pull request source, target) because
refs are a map; its textual name `w/<version>/<src>` and the way it parses back are C18's theorems, used here
for the commit events.

Tables are unbounded lists; no bound on the number of targets, pull requests, events or on the length of names.
What is data of the source (the description template, the title format, the shape of the look-up-then-create
code) is regenerated into `Gen/Prs.lean` and checked by `C19_source`.
-/
namespace BertE.C19
open BertE.Prs BertE.Names BertE.Flow BertE.Git

/-- among the pull requests selected by `sel`: at most one OPEN pull request per (source, destination) -/
def OneToOneBy (sel : Pr → Bool) (prs : List Pr) : Prop := ∀ s d, cnt sel prs s d ≤ 1

/-- the table part of the property: per source branch and destination at most one OPEN pull request authored by
    the robot — in particular per integration branch `w/<v>/<src>` and target. -/
def OneToOne (prs : List Pr) : Prop := OneToOneBy (fun p => p.robot) prs

/-- the same counting the pull requests of every author (what hosts that refuse a second open pull request
    for the same source and destination guarantee) -/
def OneToOneAll (prs : List Pr) : Prop := OneToOneBy (fun _ => true) prs

/-! The data found in the current source is the one the model implements: the description template puts the
    parent id first (`templateOK`) and is ASCII; the title is `'INTEGRATION [PR#%s > %s] %s' % (parent id,
    target name, parent title)`; a child is created with `src_branch` = the branch's name, `dst_branch` = its
    target's name, that title and the rendered description, and only under `if not pr` after the look-up;
    the look-up skips on another source or another destination and returns the first that is left; the open
    pull requests are those the host lists for the branch names, filtered by `status == 'OPEN'`; the ghost
    branch only looks up; a pull request of the robot is handled as its parent, found as the first `\d+` of the
    description; `handle_commit` and the loop of `handle_declined_pull_request` have the modelled shape;
    `merge_integration_branches` removes the integration branches before its final push. -/

/-- the description template puts the parent id first and is ASCII -/
def templateSourceOK : Bool :=
  templateOK BertE.Drv.C19.genTemplate &&
  BertE.Drv.C19.genTemplate.all (fun seg => match seg with
    | .lit t => t.all (fun c => c.toNat < 128)
    | .unknown => false
    | _ => true)

/-- title, look-up before creation, arguments of the creation, ghost branch -/
def createSourceOK : Bool :=
  BertE.Gen.Prs.templateName == "pull_request_description.md" &&
  BertE.Gen.Prs.renderArgs == [("branch", "self.name"), ("pr", "parent_pr")] &&
  BertE.Gen.Prs.titleFormat == titleFormat &&
  BertE.Gen.Prs.titleArgs == ["parent_pr.id", "self.dst_branch.name", "parent_pr.title"] &&
  BertE.Gen.Prs.lookupCall == "self.get_pull_request_from_list(open_prs)" &&
  BertE.Gen.Prs.createGuards == ["not pr"] &&
  BertE.Gen.Prs.lookupBeforeCreate &&
  [("src_branch", "self.name"), ("dst_branch", "self.dst_branch.name"), ("title", "title"),
   ("description", "description")].all (fun kv => BertE.Gen.Prs.createArgs.contains kv) &&
  BertE.Gen.Prs.createReturn == "return (pr, created)" &&
  BertE.Gen.Prs.ghostBody == "return (self.get_pull_request_from_list(open_prs), False)"

/-- the look-up, the OPEN filter, the loop over the integration branches -/
def lookupSourceOK : Bool :=
  BertE.Gen.Prs.lookupLoop == "for pr in open_prs" &&
  BertE.Gen.Prs.lookupSkips == ["pr.src_branch != self.name",
    "self.dst_branch and pr.dst_branch != self.dst_branch.name"] &&
  BertE.Gen.Prs.lookupFound == "return pr" &&
  BertE.Gen.Prs.disabledTest == "job.settings.always_create_integration_pull_requests is False and job.settings.create_pull_requests is False" &&
  BertE.Gen.Prs.createNames == "[wbranch.name for wbranch in wbranches]" &&
  BertE.Gen.Prs.openQuery == "job.project_repo.get_pull_requests(src_branch=wbranch_names)" &&
  BertE.Gen.Prs.openFilter == ["pr.status == 'OPEN'"] &&
  BertE.Gen.Prs.createLoop == ["for wbranch in wbranches",
    "pr, created = wbranch.get_or_create_pull_request(job.pull_request, open_prs, job.project_repo)",
    "setattr(pr, 'newly_created', created)", "prs.append(pr)"]

/-- `handle_pull_request`, `handle_parent_pull_request`, `handle_commit` -/
def redirectSourceOK : Bool :=
  BertE.Gen.Prs.robotTest == "job.pull_request.author == job.settings.robot" &&
  BertE.Gen.Prs.robotThen == "return handle_parent_pull_request(job, job.pull_request)" &&
  BertE.Gen.Prs.parentSteps == ["is_child", "ids = re.findall('\\\\d+', child_pr.description)",
    "if not ids:\n    raise messages.ParentPullRequestNotFound", "parent_id, *_ = ids"] &&
  BertE.Gen.Prs.parentReturn == "return handle_pull_request(PullRequestJob(bert_e=job.bert_e, pull_request=job.project_repo.get_pull_request(int(parent_id))))" &&
  BertE.Gen.Prs.commitSteps == [
    "candidates = [branch_factory(job.git.repo, b) for b in job.git.repo.get_branches_from_commit(job.commit)]",
    "if not candidates:\n    raise messages.NothingToDo",
    "if job.settings.use_queue:\n    if any((isinstance(b, QueueBranch) for b in candidates)):\n        return queueing.handle_merge_queues(QueuesJob(bert_e=job.bert_e))",
    "def get_parent_branch(branch):\n    if isinstance(branch, IntegrationBranch):\n        return branch.feature_branch\n    else:\n        return branch.name",
    "candidates = list(map(get_parent_branch, candidates))",
    "prs = list(job.project_repo.get_pull_requests(src_branch=candidates))",
    "if not prs:\n    raise messages.NothingToDo",
    "pr = min(prs, key=lambda pr: pr.id)",
    "return handle_pull_request(PullRequestJob(bert_e=job.bert_e, pull_request=job.project_repo.get_pull_request(int(pr.id))))"]

/-- `handle_declined_pull_request`, the end of `merge_integration_branches` -/
def declineSourceOK : Bool :=
  BertE.Gen.Prs.declinedNames == "['w/{}/{}'.format(b.version, src_branch) for b in dst_branches]" &&
  BertE.Gen.Prs.declinedQuery == "list(job.project_repo.get_pull_requests(src_branch=wbranch_names))" &&
  BertE.Gen.Prs.declinedLoop == ["for (name, dst_branch) in zip(wbranch_names, dst_branches)",
    "for pr in open_prs:\n    if pr.status == 'OPEN' and pr.src_branch == name and (pr.dst_branch == dst_branch.name):\n        pr.decline()\n        changed = True\n        break",
    "wbranch = branch_factory(job.git.repo, name)", "wbranch.src_branch = src_branch",
    "wbranch.dst_branch = dst_branch", "if wbranch.exists():\n    wbranch.remove()\n    changed = True"] &&
  BertE.Gen.Prs.mergeTail == [
    "for wbranch in children:\n    try:\n        wbranch.remove()\n    except git.RemoveFailedException:\n        pass",
    "push(job.git.repo, prune=True)"]

def sourceOK : Bool :=
  templateSourceOK && createSourceOK && lookupSourceOK && redirectSourceOK && declineSourceOK

theorem C19_source_template : templateSourceOK = true := by decide +kernel

private theorem genTemplate_ok : templateOK BertE.Drv.C19.genTemplate = true :=
  (Bool.and_eq_true_iff.mp C19_source_template).1

theorem C19_source_create : createSourceOK = true := by decide +kernel

/-! The next three compare each regenerated constant with the literal it is defined as: unfolding the
    constant leaves the same literal on both sides, nothing is evaluated. -/

theorem C19_source_lookup : lookupSourceOK = true := by
  simp only [lookupSourceOK, Bool.and_eq_true, beq_iff_eq]
  and_intros <;> rfl

theorem C19_source_redirect : redirectSourceOK = true := by
  simp only [redirectSourceOK, Bool.and_eq_true, beq_iff_eq]
  and_intros <;> rfl

theorem C19_source_decline : declineSourceOK = true := by
  simp only [declineSourceOK, Bool.and_eq_true, beq_iff_eq]
  and_intros <;> rfl

/-- Source obligation, on the tables regenerated from the current source. -/
theorem C19_source : sourceOK = true := by
  rw [sourceOK, C19_source_template, C19_source_create, C19_source_lookup, C19_source_redirect, C19_source_decline]
  rfl

/-- Invariant, any selection of authors. `create_integration_pull_requests` preserves "at most one OPEN
    pull request per (source, destination)" — for every table, parent, template and every list of distinct
    (branch, target) pairs, enabled or not. The reuse argument: a pull request is created only where the
    look-up found no OPEN pull request of any author. -/
theorem C19_inv_by (sel : Pr → Bool) (tpl : List Seg) (prs : List Pr) (parent : Pr) (wbranches : List (String × String))
    (enabled : Bool) (hnd : wbranches.Nodup) (h : OneToOneBy sel prs) :
    OneToOneBy sel (createChildren tpl prs parent wbranches enabled).prs :=
  fun s d => createChildren_cnt sel tpl prs parent wbranches enabled hnd s d (h s d)

/-- at most one OPEN pull request of the robot per integration branch and target, before ⇒ after. -/
theorem C19_inv (tpl : List Seg) (prs : List Pr) (parent : Pr) (wbranches : List (String × String))
    (enabled : Bool) (hnd : wbranches.Nodup) (h : OneToOne prs) :
    OneToOne (createChildren tpl prs parent wbranches enabled).prs :=
  C19_inv_by _ tpl prs parent wbranches enabled hnd h

/-- the same for the pull requests of all authors -/
theorem C19_inv_all (tpl : List Seg) (prs : List Pr) (parent : Pr) (wbranches : List (String × String))
    (enabled : Bool) (hnd : wbranches.Nodup) (h : OneToOneAll prs) :
    OneToOneAll (createChildren tpl prs parent wbranches enabled).prs :=
  C19_inv_by _ tpl prs parent wbranches enabled hnd h

/-- the branch list that `create_integration_branches` builds for a cascade with distinct destination names
    (`(version, name)` pairs) has distinct entries: the hypothesis of `C19_inv` is met for every source branch -/
theorem C19_inv_cascade (tpl : List Seg) (prs : List Pr) (parent : Pr) (dsts : List (String × String))
    (enabled : Bool) (hnd : (dsts.map (·.2)).Nodup) (h : OneToOne prs) :
    OneToOne (createChildren tpl prs parent (wbranchesOf parent.src dsts) enabled).prs :=
  C19_inv tpl prs parent _ enabled (wbranchesOf_nodup parent.src dsts hnd) h

/-- However often and in whatever order: along every sequence of table events — evaluations that reach
    `create_integration_pull_requests` (for any parent, any distinct branch list, enabled or not), evaluations
    of declined pull requests, users or the host closing pull requests, users opening pull requests — the
    invariant is preserved. -/
theorem C19_inv_history (tpl : List Seg) (evs : List TableEv) (prs : List Pr) (hl : ∀ ev ∈ evs, ev.Legal)
    (h : OneToOne prs) : OneToOne (evs.foldl (TableEv.run tpl) prs) := by
  induction evs generalizing prs with
  | nil => exact h
  | cons ev evs ih =>
    simp only [List.foldl_cons]
    apply ih _ (fun e he => hl e (List.mem_cons_of_mem _ he))
    have hle := hl ev List.mem_cons_self
    cases ev with
    | create parent wbranches enabled => exact C19_inv tpl prs parent wbranches enabled hle h
    | declineFor ws =>
      intro s d
      exact Nat.le_trans (cnt_le_of_pointwise
        (Pointwise.imp (fun _ _ => DeclStep.weaker) (declineChildren_step ws ws prs false (fun _ h => h))) s d) (h s d)
    | close id st =>
      intro s d
      refine Nat.le_trans (cnt_le_of_pointwise (Pointwise.map (fun p => ?_) prs) s d) (h s d)
      split
      · rename_i hc
        refine ⟨rfl, rfl, rfl, fun ho => ?_⟩
        simp only [Bool.and_eq_true, bne_iff_ne, ne_eq] at hc
        simp [Pr.isOpen] at ho
        exact absurd ho hc.2
      · exact ⟨rfl, rfl, rfl, fun ho => ho⟩
    | openByUser p =>
      intro s d
      simp only [TableEv.run]
      rw [cnt_cons]
      have : p.robot = false := hle
      simp only [this, Bool.false_and, Bool.false_eq_true, if_false, Nat.add_zero]
      exact h s d

/-- Every created child is named and titled after its parent: it is a new OPEN pull request of the robot
    (an id above every existing id), from one of the listed integration branches beyond the first to the target
    of that branch, titled `INTEGRATION [PR#<parent id> > <target>] <parent title>`, its description is the
    rendering of the template — whose first number is the parent's id when the template is well-formed — and it
    is created only where the table had no OPEN pull request with that source and destination. -/
theorem C19_children_named (tpl : List Seg) (prs : List Pr) (parent : Pr) (wbranches : List (String × String))
    (enabled : Bool) (c : Child) (hc : c ∈ (createChildren tpl prs parent wbranches enabled).children)
    (hcr : c.created = true) :
    (c.pr.src, c.pr.dst) ∈ wbranches.tail ∧ c.pr.robot = true ∧ c.pr.state = .opened ∧
    c.pr.title = mkTitle parent.id c.pr.dst parent.title ∧
    c.pr.desc = render tpl parent.id c.pr.src.toList ∧
    (templateOK tpl = true → c.pr.parent = some parent.id) ∧
    c.pr ∈ (createChildren tpl prs parent wbranches enabled).prs ∧
    (∀ q ∈ prs, q.id < c.pr.id) ∧
    (∀ q ∈ prs, q.isOpen = true → q.src = c.pr.src → q.dst = c.pr.dst → False) := by
  obtain ⟨hpair, hmem, hnew, hnone⟩ := (createChildren_spec tpl prs parent wbranches enabled rfl).2.1 c hc hcr
  refine ⟨hpair, hnew.robot, hnew.state, hnew.title, hnew.desc, fun htpl => ?_, hmem, hnew.fresh, hnone⟩
  unfold Pr.parent
  rw [hnew.desc]
  exact firstNat_render htpl _ _

/-- a child that was not created is an OPEN pull request of the table from the listed branch to its target -/
theorem C19_children_reused (tpl : List Seg) (prs : List Pr) (parent : Pr) (wbranches : List (String × String))
    (enabled : Bool) (c : Child) (hc : c ∈ (createChildren tpl prs parent wbranches enabled).children)
    (hcr : c.created = false) :
    (c.pr.src, c.pr.dst) ∈ wbranches ∧ c.pr ∈ prs ∧ c.pr.isOpen = true :=
  (createChildren_spec tpl prs parent wbranches enabled rfl).2.2.1 c hc hcr

/-- After an enabled creation that did not crash every listed branch has its OPEN pull request: the list
    of children is aligned with the list of branches, each child is in the new table and OPEN. -/
theorem C19_children_exist (tpl : List Seg) (prs : List Pr) (parent : Pr) (wbranches : List (String × String))
    (hok : (createChildren tpl prs parent wbranches true).crashed = false) :
    (createChildren tpl prs parent wbranches true).children.map (fun c => (c.pr.src, c.pr.dst)) = wbranches ∧
    ∀ c ∈ (createChildren tpl prs parent wbranches true).children,
      c.pr ∈ (createChildren tpl prs parent wbranches true).prs ∧ c.pr.isOpen = true := by
  obtain ⟨⟨new, hnew, _⟩, h2, h3, h4⟩ := createChildren_spec tpl prs parent wbranches true rfl
  refine ⟨h4 rfl hok, fun c hc => ?_⟩
  cases hcreated : c.created with
  | true =>
    obtain ⟨_, hmem, hn, _⟩ := h2 c hc hcreated
    exact ⟨hmem, by simp [Pr.isOpen, hn.state]⟩
  | false =>
    obtain ⟨_, hmem, ho⟩ := h3 c hc hcreated
    exact ⟨by rw [hnew]; exact List.mem_append_right _ hmem, ho⟩

/-- The template obligation at work: the first number of the description rendered from a well-formed
    template is the parent's id, whatever the id and the branch name. -/
theorem C19_template (tpl : List Seg) (h : templateOK tpl = true) (id : Nat) (branch : List Char) :
    firstNat (render tpl id branch) = some id := firstNat_render h id branch

/-- on the template of the current source -/
theorem C19_template_gen (id : Nat) (branch : List Char) :
    firstNat (render BertE.Drv.C19.genTemplate id branch) = some id :=
  firstNat_render genTemplate_ok id branch

/-- An event on a child evaluates its parent: a pull request of the robot whose description starts with
    the parent's number is handled as that pull request (which is not the robot's). -/
theorem C19_redirect (prs : List Pr) (child parent : Pr) (fuel : Nat) (hr : child.robot = true)
    (hp : child.parent = some parent.id) (hg : getPr prs parent.id = some parent) (hn : parent.robot = false) :
    redirectPr prs (fuel + 2) child = .pr parent.id := by
  simp [redirectPr, hr, hp, hg, hn]

/-- an event on the parent itself evaluates the parent -/
theorem C19_redirect_self (prs : List Pr) (p : Pr) (fuel : Nat) (hn : p.robot = false) :
    redirectPr prs (fuel + 1) p = .pr p.id := by
  simp [redirectPr, hn]

/-- An event on a child that `create_integration_pull_requests` just created evaluates the parent, on the
    table after the creation, with the template of the current source. -/
theorem C19_redirect_created (prs : List Pr) (parent : Pr) (wbranches : List (String × String)) (enabled : Bool)
    (c : Child) (fuel : Nat)
    (hc : c ∈ (createChildren BertE.Drv.C19.genTemplate prs parent wbranches enabled).children)
    (hcr : c.created = true) (hg : getPr prs parent.id = some parent) (hn : parent.robot = false) :
    redirectPr (createChildren BertE.Drv.C19.genTemplate prs parent wbranches enabled).prs (fuel + 2) c.pr
      = .pr parent.id := by
  obtain ⟨_, hrobot, _, _, _, hpar, _, _, _⟩ :=
    C19_children_named BertE.Drv.C19.genTemplate prs parent wbranches enabled c hc hcr
  apply C19_redirect _ _ _ _ hrobot (hpar genTemplate_ok) _ hn
  -- the parent is still found under its id: the new pull requests have larger ids
  obtain ⟨⟨new, hnew, hnew2⟩, h2, _, _⟩ :=
    createChildren_spec BertE.Drv.C19.genTemplate prs parent wbranches enabled rfl
  rw [hnew, getPr_append, hg]
  intro p hp he
  obtain ⟨c', hc', hcreated, rfl⟩ := hnew2 p hp
  have := (h2 c' hc' hcreated).2.2.1.fresh parent (getPr_some hg).1
  omega

/-- A commit event on a queue tip is the queue evaluation: with queues enabled, as soon as one of the
    branches at the commit is a `q/<version>` branch (and all are recognised). -/
theorem C19_redirect_commit_queue {t : Tbl} (hT : BertE.C18.TblOK t) (v : Ver) (hv : v.WF) (names : List String)
    (cs : List (String × Parsed)) (prs : List Pr) (fuel : Nat)
    (hcs : classifyAll t names = some cs) (hq : String.ofList (mkQueue v.text) ∈ names) :
    handleCommit t names prs true fuel = .queues := by
  obtain ⟨hnames, hall⟩ := classifyAll_some t hcs
  rw [← hnames] at hq
  obtain ⟨nc, hnc, hname⟩ := List.mem_map.mp hq
  have hcl := hall nc hnc
  rw [hname, String.toList_ofList, BertE.C18.C18_rt_q hT v hv] at hcl
  have hany : cs.any (fun c => c.2.kind == .queue) = true :=
    List.any_eq_true.mpr ⟨nc, hnc, Option.some.inj hcl ▸ rfl⟩
  have hne : cs.isEmpty = false := List.isEmpty_eq_false_iff.mpr (List.ne_nil_of_mem hnc)
  simp [handleCommit, hcs, hne, hany]

/-- A commit event on a branch that is neither an integration branch nor a queue branch (a source branch,
    in particular) is the pull-request event of the OPEN pull request with the smallest id whose source is that
    branch — which is then handled as `handle_pull_request` handles it (`redirectPr`). When two OPEN pull
    requests share one source branch the one with the smaller id wins. -/
theorem C19_redirect_commit_src {t : Tbl} (n : String) (c : Parsed) (prs : List Pr) (useQueue : Bool) (fuel : Nat)
    (hc : classify t n.toList = some c) (hi : c.kind ≠ .integration) (hq : c.kind ≠ .queue) :
    handleCommit t [n] prs useQueue fuel =
      match minById (getOpen prs [n]) with
      | none => .nothing
      | some p =>
        match getPr prs p.id with
        | none => .crash "Exception"
        | some q => redirectPr prs fuel q := by
  rw [handleCommit_single hc hq, parentName, if_neg hi]
  rfl

/-- A commit event on the tip of `w/<version>/<src>` (alone at that commit) is the pull-request event of
    the OPEN pull request with the smallest id whose source is `<src>`: the integration branch stands for its
    feature branch (C18's round trip), for every version and every source `prefix/label`. -/
theorem C19_redirect_commit_w {t : Tbl} (hT : BertE.C18.TblOK t) (v : Ver) (hv : v.WF) (pfx label : List Char)
    (hp : pfx ∈ t.prefixes) (hl : label ≠ []) (hn : noNewline label = true)
    (prs : List Pr) (useQueue : Bool) (fuel : Nat) :
    handleCommit t [wName (String.ofList v.text) (String.ofList (pfx ++ '/' :: label))] prs useQueue fuel =
      match minById (getOpen prs [String.ofList (pfx ++ '/' :: label)]) with
      | none => .nothing
      | some p =>
        match getPr prs p.id with
        | none => .crash "Exception"
        | some q => redirectPr prs fuel q := by
  obtain ⟨key, project, _, hcl⟩ := BertE.C18.C18_rt_w hT v hv pfx label hp hl hn
  rw [← String.toList_ofList (l := mkIntegration _ _)] at hcl
  rw [wName, String.toList_ofList, String.toList_ofList, handleCommit_single hcl (by simp)]
  -- `parentName` of an integration branch is its feature branch
  rfl

/-- what "the OPEN pull request with the smallest id" means -/
theorem C19_min_open (prs : List Pr) (names : List String) (p : Pr) (h : minById (getOpen prs names) = some p) :
    p ∈ prs ∧ p.isOpen = true ∧ p.src ∈ names ∧
    ∀ q ∈ prs, q.isOpen = true → q.src ∈ names → p.id ≤ q.id := by
  obtain ⟨h1, h2⟩ := minById_some h
  obtain ⟨a, b, c⟩ := mem_getOpen.mp h1
  exact ⟨a, b, c, fun q hq ho hs => h2 q (mem_getOpen.mpr ⟨hq, ho, hs⟩)⟩

/-- The ref part of the property. After the operations of a pull-request evaluation — whatever the gates allowed,
    whatever git's merges answered, whatever the server refused, at every crash prefix `k` — every integration
    branch `w d src` present on the remote either was there before with the same tip or is an integration
    branch of the evaluated pull request (`src = pr.src`) for one of its targets beyond the first. In the ref
    model the branch of (source, target) is the single ref `w d src`: at most one per pull request and target. -/
theorem C19_w_only (s : Sys) (pr : PrInfo) (stage : Stage) (orc : List Bool) (sel : List Nat) (rej : Ref → Bool)
    (k : Nat) (d : Dest) (src : String) (c : Commit)
    (h : (applyOps (planPr s pr stage orc sel).g rej s.remote ((planPr s pr stage orc sel).ops.take k)).get (.w d src)
          = some c) :
    s.remote.get (.w d src) = some c ∨ (src = pr.src ∧ d ∈ (s.targets pr.dst).drop 1) :=
  applyOps_preserves (fun _ _ hm hop => applyOp_wrel _ rej hm hop) _ (WRel.refl _ s.remote)
    (fun op hop => planPr_wok s pr stage orc sel op (List.mem_of_mem_take hop)) d src c h

/-- Declining, pull-request side (exactness). On a table with at most one OPEN pull request per listed
    (branch, target), the loop of `handle_declined_pull_request` yields exactly the table in which the OPEN
    pull requests from a listed branch to its target are DECLINED and every other pull request is as before. -/
theorem C19_decline (prs : List Pr) (ws : List (String × String)) (h : ∀ wd ∈ ws, cntAll prs wd.1 wd.2 ≤ 1) :
    (declineChildren prs ws).1 = prs.map (declAll ws) :=
  declineChildren_eq ws prs false h

/-- the hypothesis of `C19_decline` follows from the invariant counted over all authors -/
theorem C19_decline_of_inv (prs : List Pr) (ws : List (String × String)) (h : OneToOneAll prs) :
    (declineChildren prs ws).1 = prs.map (declAll ws) :=
  C19_decline prs ws (fun wd _ => h wd.1 wd.2)

/-- Declining, pull-request side (no other pull request changes) — without any hypothesis on the table:
    position by position a pull request is unchanged, or it was OPEN from a listed branch to its target and is
    now DECLINED (nothing else of it changes). -/
theorem C19_decline_only (prs : List Pr) (ws : List (String × String)) :
    Pointwise (DeclStep ws) prs (declineChildren prs ws).1 :=
  declineChildren_step ws ws prs false (fun _ h => h)

/-- Declining, ref side. `planDeclined` deletes exactly the existing integration branches `w d pr.src` of
    the pull request's targets and changes no other ref: if the server accepts the atomic push the remote has
    `none` at these refs and its old value everywhere else; if it refuses, nothing changed. With a server that
    refuses nothing the push is accepted. -/
theorem C19_decline_refs (s : Sys) (pr : PrInfo) (childDeclined : Bool) (rej : Ref → Bool) :
    let p := planDeclined s pr childDeclined
    let ws := ((s.targets pr.dst).map (fun d => Ref.w d pr.src)).filter (fun r => s.remote.has r)
    let remote' := applyOps p.g rej s.remote p.ops
    (remote' = s.remote ∨ ∀ r, remote'.get r = if r ∈ ws then none else s.remote.get r) ∧
    (rej = noRej → ∀ r, remote'.get r = if r ∈ ws then none else s.remote.get r) := by
  simp only [planDeclined]
  split
  · rename_i hempty
    simp only [applyOps, List.foldl_nil]
    have hws : List.filter (fun r => s.remote.has r) (List.map (fun d => Ref.w d pr.src) (s.targets pr.dst)) = [] := by
      simp only [Bool.and_eq_true, List.isEmpty_iff] at hempty
      exact hempty.1
    rw [hws]
    exact ⟨by simp, fun _ r => by simp⟩
  · simp only [applyOps, List.foldl_cons, List.foldl_nil]
    refine ⟨?_, ?_⟩
    · rcases applyOp_pushAll_cases s.g rej s.remote (delRefs s.remote
        (List.filter (fun r => s.remote.has r) (List.map (fun d => Ref.w d pr.src) (s.targets pr.dst)))) true with h | h
      · right; intro r; rw [h, if_pos rfl, get_delRefs]
      · left; exact h
    · intro hrej r
      rw [hrej, applyOp_pushAll_delRefs_noRej, get_delRefs]

/-- Direct merge. When a pull-request evaluation ends with `SuccessMessage`, its last operation is ONE
    atomic pruning push whose content has no integration branch `w d pr.src` of the targets beyond the first;
    so, whatever the server refuses, after the job either that push was refused as a whole or these branches
    are gone. -/
theorem C19_merge (s : Sys) (pr : PrInfo) (stage : Stage) (orc : List Bool) (sel : List Nat)
    (h : (planPr s pr stage orc sel).outcome = "SuccessMessage") :
    ∃ pre loc, (planPr s pr stage orc sel).ops = pre ++ [.pushAll loc true] ∧
      (∀ d ∈ (s.targets pr.dst).drop 1, loc.get (.w d pr.src) = none) ∧
      ∀ rej, let before := applyOps (planPr s pr stage orc sel).g rej s.remote pre
        let after := applyOps (planPr s pr stage orc sel).g rej s.remote (planPr s pr stage orc sel).ops
        after = before ∨ ∀ d ∈ (s.targets pr.dst).drop 1, after.get (.w d pr.src) = none := by
  obtain ⟨l4, sc, pushW, hp⟩ := planPr_success h
  rw [hp] at h ⊢
  obtain ⟨pre, loc, hops, hloc⟩ := directMerge_success h
  refine ⟨pre, loc, hops, hloc, fun rej => ?_⟩
  simp only [hops, applyOps, List.foldl_append, List.foldl_cons, List.foldl_nil]
  rcases applyOp_pushAll_cases (directMerge s l4 pr sc (s.targets pr.dst) pushW).g rej
    (List.foldl (applyOp (directMerge s l4 pr sc (s.targets pr.dst) pushW).g rej) s.remote pre) loc true with h1 | h1
  · right; rw [h1, if_pos rfl]; exact hloc
  · left; exact h1

/-- Queue merge. When the queue evaluation merges (`Merged`), its single operation is an atomic pruning
    push whose content has neither the integration branches `w d e.src` nor the queue-integration branches of
    any merged pull request `e`, for every target of `e`. -/
theorem C19_merge_queue (s : Sys) (sel : List Nat) (h : (planQueues s sel).outcome = "Merged") :
    ∃ loc, (planQueues s sel).ops = [.pushAll loc true] ∧
      ∀ e ∈ s.queue, sel.contains e.pr = true → ∀ d ∈ e.targets,
        loc.get (.w d e.src) = none ∧ loc.get (.qw e.pr d e.src) = none := by
  revert h
  unfold planQueues
  simp only
  split
  · simp
  · intro _
    refine ⟨_, rfl, ?_⟩
    intro e he hsel d hd
    have hmem : ∀ r ∈ [Ref.qw e.pr d e.src, Ref.w d e.src],
        r ∈ (s.queue.filter (fun e => sel.contains e.pr)).flatMap (fun e =>
          e.targets.flatMap (fun d => [Ref.qw e.pr d e.src, Ref.w d e.src])) := by
      intro r hr
      exact List.mem_flatMap.mpr ⟨e, List.mem_filter.mpr ⟨he, hsel⟩, List.mem_flatMap.mpr ⟨d, hd, hr⟩⟩
    constructor
    · rw [get_delRefs, if_pos (hmem _ (by simp))]
    · rw [get_delRefs, if_pos (hmem _ (by simp))]

/-! ### non-vacuity: concrete inputs that meet the hypotheses -/

section Examples
open BertE.Drv.C19 (genTemplate)

def exParent : Pr := ⟨1, false, "feature/x", "development/4.3", .opened, "fix 12 things", []⟩
def exBranches : List (String × String) :=
  wbranchesOf "feature/x" [("4.3", "development/4.3"), ("5.1", "development/5.1"), ("10.0", "development/10.0")]

example : exBranches = [("feature/x", "development/4.3"), ("w/5.1/feature/x", "development/5.1"),
    ("w/10.0/feature/x", "development/10.0")] := by decide +kernel
example : exBranches.Nodup ∧ OneToOne [exParent] ∧ OneToOneAll [exParent] := by
  refine ⟨by decide +kernel, ?_, ?_⟩ <;> intro s d <;> unfold cnt <;>
    exact Nat.le_trans (List.countP_le_length) (by decide +kernel)
/-- two children are created, ids 2 and 3, titled after the parent, and a second run creates nothing -/
example :
    let r := createChildren genTemplate [exParent] exParent exBranches true
    let r2 := createChildren genTemplate r.prs exParent exBranches true
    r.crashed = false ∧ r.children.map (fun c => (c.pr.id, c.created)) = [(1, false), (2, true), (3, true)] ∧
    (r.prs.map (·.title)).head? = some "INTEGRATION [PR#1 > development/10.0] fix 12 things" ∧
    r2.prs = r.prs ∧ r2.children.map (fun c => (c.pr.id, c.created)) = [(1, false), (2, false), (3, false)] := by
  -- one evaluation for the four decidable conjuncts; `rfl` for the tables: unfolding meets the same unevaluated
  -- descriptions on both sides, whereas deciding the equality would render and compare them character by character
  exact (fun ⟨a, b, c, e⟩ => ⟨a, b, c, rfl, e⟩) (by decide +kernel : _ ∧ _ ∧ _ ∧ _)
/-- why the branches must be distinct: the look-up uses the list fetched before the loop, so a branch listed
    twice would get two pull requests -/
example :
    (createChildren genTemplate [exParent] exParent
      [("feature/x", "development/4.3"), ("w/5.1/feature/x", "development/5.1"),
       ("w/5.1/feature/x", "development/5.1")] true).children.map (fun c => (c.pr.id, c.created))
      = [(1, false), (2, true), (3, true)] := by decide +kernel
/-- `C19_inv_history`: create, a child closed by hand, create again, decline: legal events on a concrete table -/
example :
    let evs : List TableEv := [.create exParent exBranches true, .close 2 .declined, .create exParent exBranches true,
      .openByUser ⟨9, false, "w/5.1/feature/x", "development/5.1", .opened, "by hand", []⟩,
      .declineFor (declinedOf "feature/x" [("4.3", "development/4.3"), ("5.1", "development/5.1")])]
    (∀ ev ∈ evs, ev.Legal) ∧
    ((evs.foldl (TableEv.run genTemplate) [exParent]).map fun p => (p.id, p.state, p.robot)) =
      [(9, .declined, false), (4, .opened, true), (3, .opened, true), (2, .declined, true), (1, .opened, false)] := by
  refine ⟨?_, by decide +kernel⟩
  intro ev hev
  simp only [List.mem_cons, List.not_mem_nil, or_false] at hev
  rcases hev with rfl | rfl | rfl | rfl | rfl <;> first | trivial | (show List.Nodup _; decide +kernel) | rfl
/-- `C19_redirect`, `C19_redirect_created`: the created child #2 leads back to #1 -/
example :
    let r := createChildren genTemplate [exParent] exParent exBranches true
    (r.prs.map fun p => redirectPr r.prs 5 p) = [.pr 1, .pr 1, .pr 1] ∧ getPr [exParent] 1 = some exParent := by
  intro r
  obtain ⟨⟨new, hnew, hnew2⟩, _⟩ := createChildren_spec genTemplate [exParent] exParent exBranches true (rfl : _ = r)
  -- every pull request of the new table is a created child or the parent: the two theorems apply
  have h : ∀ p ∈ r.prs, redirectPr r.prs 5 p = .pr 1 := by
    intro p hp
    rw [hnew] at hp
    rcases List.mem_append.mp hp with hp | hp
    · obtain ⟨c, hc, hcr, rfl⟩ := hnew2 p hp
      exact C19_redirect_created [exParent] exParent exBranches true c 3 hc hcr rfl rfl
    · cases List.mem_singleton.mp hp
      exact C19_redirect_self r.prs exParent 4 rfl
  exact ⟨(List.map_congr_left h).trans (by decide +kernel), rfl⟩
/-- `C19_redirect_commit_w` / `_src` / `_queue` on the table of the current source -/
example :
    let r := createChildren genTemplate [exParent] exParent exBranches true
    handleCommit BertE.Drv.C18.genTbl ["w/5.1/feature/x"] r.prs true 5 = .pr 1 ∧
    handleCommit BertE.Drv.C18.genTbl ["feature/x"] r.prs true 5 = .pr 1 ∧
    handleCommit BertE.Drv.C18.genTbl ["w/5.1/feature/x", "q/5.1", "q/w/1/5.1/feature/x"] r.prs true 5 = .queues ∧
    handleCommit BertE.Drv.C18.genTbl ["w/5.1/feature/x", "q/5.1"] r.prs false 5 = .pr 1 ∧
    handleCommit BertE.Drv.C18.genTbl ["q/w/1/5.1/feature/x"] r.prs true 5 = .nothing ∧
    handleCommit BertE.Drv.C18.genTbl ["feature/x", "wip"] r.prs true 5 = .crash "UnrecognizedBranchPattern" := by
  decide +kernel
example : (Ver.v2 "5".toList "1".toList).WF ∧ "feature".toList ∈ BertE.Drv.C18.genTbl.prefixes := by decide +kernel
/-- `C19_decline`: declining #1's children declines exactly #2 and #3 -/
example :
    let r := createChildren genTemplate [exParent] exParent exBranches true
    let ws := declinedOf "feature/x" [("4.3", "development/4.3"), ("5.1", "development/5.1"), ("10.0", "development/10.0")]
    (∀ wd ∈ ws, cntAll r.prs wd.1 wd.2 ≤ 1) ∧
    ((declineChildren r.prs ws).1.map fun p => (p.id, p.state)) = [(3, .declined), (2, .declined), (1, .opened)] ∧
    (declineChildren r.prs ws).2 = true := by
  decide +kernel
def exSys : Sys := BertE.Drv.C01.initSys false false [.dev 4 (some 3), .dev 5 (some 1), .dev 10 (some 0)]
def exSys1 : Sys := (step exSys (.extSet "feature/x" [1] false)).1
def exPr : PrInfo := ⟨1, "feature/x", .dev 4 (some 3), false⟩
def exSys2 : Sys := (step exSys1 (.evalPr exPr .integration [] [])).1
def exSys3 : Sys := (step exSys2 (.evalPr exPr .final [] [])).1
def exSys4 : Sys := (step exSys2 (.evalDeclined exPr true)).1

/-- `C19_w_only`, `C19_merge`, `C19_decline_refs` on a three-branch repository: the evaluation creates exactly
    `w/5.1/feature/x` and `w/10.0/feature/x`; the direct merge removes them; declining removes them -/
example :
    [exSys1.remote.has (.w (.dev 5 (some 1)) "feature/x"), exSys2.remote.has (.w (.dev 5 (some 1)) "feature/x"),
     exSys2.remote.has (.w (.dev 10 (some 0)) "feature/x"), exSys2.remote.has (.w (.dev 4 (some 3)) "feature/x"),
     exSys3.remote.has (.w (.dev 5 (some 1)) "feature/x"), exSys3.remote.has (.w (.dev 10 (some 0)) "feature/x"),
     exSys4.remote.has (.w (.dev 5 (some 1)) "feature/x"), exSys4.remote.has (.w (.dev 10 (some 0)) "feature/x")]
      = [false, true, true, false, false, false, false, false] ∧
    (planPr exSys2 exPr .final [] []).outcome = "SuccessMessage" := by decide +kernel

def exQ : Sys := BertE.Drv.C01.initSys true false [.dev 4 (some 3), .dev 5 (some 1)]
def exQ1 : Sys := (step exQ (.extSet "feature/x" [1] false)).1
def exQ2 : Sys := (step exQ1 (.evalPr exPr .final [] [])).1
def exQ3 : Sys := (step exQ2 (.evalQueues [1])).1

/-- `C19_merge_queue`: queued, then merged by the queue evaluation: the integration branches are gone -/
example :
    (planQueues exQ2 [1]).outcome = "Merged" ∧ exQ2.remote.has (.w (.dev 5 (some 1)) "feature/x") = true ∧
    exQ3.remote.has (.w (.dev 5 (some 1)) "feature/x") = false := by decide +kernel

end Examples

end BertE.C19
