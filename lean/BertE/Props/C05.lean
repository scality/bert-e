import BertE.Gen.QueueSrc
import BertE.Model.Queue
import BertE.Model.QueueSpec
import BertE.Lemmas.QueueLookup
import BertE.Lemmas.QueueExtract
import BertE.Lemmas.QueueProcess
import BertE.Lemmas.QueueSpec
import BertE.Drv.C05
import BertE.Lemmas.Select
import BertE.Props.C03
/-
C05 — a queue evaluation merges the longest all-green prefix, in order.

`process st q paths force` is the model of `QueueCollection._process` (with `_recursive_lookup`,
`_extract_pr_ids`, `_remove_unmergeable`) on the collection `q` as the Python holds it, the merge paths
`paths` of the cascade and the build statuses `st`; `Spec.select` is the declarative specification
(longest prefix, in order of entry, whose newest entry on every version is SUCCESSFUL; every hotfix queue
on its own). `WFQ` is the decidable well-formedness of a collection built by `add_to_queue`.
Any number of pull requests, versions and merge paths.
-/
namespace BertE.C05
open BertE.Queue List

/-- `_recursive_lookup` tests `status != 'SUCCESSFUL'`, uses `0` for "no failed pull request", recurses and
    pops; `_extract_pr_ids` recognises hotfix (`len == 4`) and development (`len == 2`) versions; `_process`
    keeps hotfix versions in every stack (`len < 4`), keeps the shorter list (`<`), skips the loop under
    `force_merge`, and calls the three helpers as the repaired loop does; `_remove_unmergeable` tests `not in`. -/
def TblOK : Prop :=
  BertE.Gen.QueueSrc.statusTests = [("NotEq", "SUCCESSFUL")] ∧
  BertE.Gen.QueueSrc.noneValue = [("Assign", 0), ("Eq", 0)] ∧
  BertE.Gen.QueueSrc.lookupRecursive = true ∧
  BertE.Gen.QueueSrc.lookupPops = 1 ∧
  BertE.Gen.QueueSrc.extractLens = [("Eq", 4), ("Eq", 2)] ∧
  BertE.Gen.QueueSrc.processLens = [("Lt", 4)] ∧
  BertE.Gen.QueueSrc.shrinkOps = ["Lt"] ∧
  BertE.Gen.QueueSrc.forceSkipsLoop = true ∧
  BertE.Gen.QueueSrc.processCalls =
    ["_extract_pr_ids", "_remove_unmergeable", "_remove_unmergeable", "_recursive_lookup", "_extract_pr_ids"] ∧
  BertE.Gen.QueueSrc.removeOps = ["NotIn"]

instance : Decidable TblOK := by unfold TblOK; infer_instance

/-- Table obligation: the comparisons found in the current source are those of the model. -/
theorem C05_table : TblOK := by decide +kernel

section
variable {q : Queues} {paths : List (List Version)}

/-- On a well-formed collection, without force merge, the queue evaluation returns exactly the
    specification: the selected pull requests are `Spec.prs` (same list, same order) and the destination of
    every version moves to the newest selected entry of its queue. -/
theorem C05 (h : WFQ q paths) (st : St) :
    (process st q paths false).prs = (Spec.select q st false).1 ∧
    ∀ v, (process st q paths false).head v = (Spec.select q st false).2 v := by
  obtain ⟨hg, hi⟩ := stabilize_greatest (st := st) h
  have hm : stabilize st q paths (extractPrIds q) = Spec.prs q st := fixed_eq_spec h hi hg
  have hprs : (process st q paths false).prs = Spec.prs q st := hm
  refine ⟨hprs, ?_⟩
  intro v
  show (listOf (removeUnmergeable (process st q paths false).prs q) v).head? = _
  rw [hprs, listOf_removeUnmergeable, head?_dropWhile_eq_find?]
  rfl

/-- C05 spelled out. The selection is a cut: the first `n` entries of the main queue in order of entry
    and the first `nh` entries of every hotfix queue; these prefixes are green (on every version the newest
    selected entry is SUCCESSFUL) and no longer prefix is; every destination moves to the newest selected
    entry of its queue. -/
theorem C05_prefix (h : WFQ q paths) (st : St) :
    ∃ (n : Nat) (nh : Version → List Nat → Nat),
      n ≤ (mainOrder q).length ∧
      (process st q paths false).prs = Spec.cut q nh n ∧
      Spec.mainGreen q st n = true ∧
      (∀ k, n < k → k ≤ (mainOrder q).length → Spec.mainGreen q st k = false) ∧
      (∀ e ∈ q, isHotfix e.1 = true →
        nh e.1 e.2 ≤ e.2.length ∧ Spec.hotfixGreen st e.1 e.2 (nh e.1 e.2) = true ∧
        ∀ k, nh e.1 e.2 < k → k ≤ e.2.length → Spec.hotfixGreen st e.1 e.2 k = false) ∧
      ∀ v, (process st q paths false).head v = Spec.newestIn (Spec.cut q nh n) (listOf q v) := by
  exact ⟨Spec.mainN q st, Spec.hotfixN st, (Spec.mainN_spec q st).1, (C05 h st).1, (Spec.mainN_spec q st).2.1,
    (Spec.mainN_spec q st).2.2, fun e _ _ => Spec.hotfixN_spec st e.1 e.2, (C05 h st).2⟩

/-- Every commit a destination is moved to has a SUCCESSFUL build (no force merge). -/
theorem C05_heads_green (h : WFQ q paths) (st : St) (v : Version) (p : Nat)
    (hp : (process st q paths false).head v = some p) : st p v = .successful := by
  obtain ⟨hg, _⟩ := stabilize_greatest (st := st) h
  apply hg.green v p
  unfold sel
  rw [head?_filter, ← head?_dropWhile_eq_find?, ← listOf_removeUnmergeable]
  exact hp

/-- If no non-empty prefix qualifies, nothing is selected and nothing moves. -/
theorem C05_nothing_moves (h : WFQ q paths) (st : St)
    (hmain : ∀ k, 0 < k → k ≤ (mainOrder q).length → Spec.mainGreen q st k = false)
    (hhot : ∀ e ∈ q, isHotfix e.1 = true → ∀ k, 0 < k → k ≤ e.2.length → Spec.hotfixGreen st e.1 e.2 k = false) :
    (process st q paths false).prs = [] ∧ ∀ v, (process st q paths false).head v = none := by
  have hprs : Spec.prs q st = [] := by
    unfold Spec.prs Spec.cut
    rw [show Spec.mainN q st = 0 from Spec.longest_eq_zero _ _ hmain, take_zero, append_nil]
    apply flatMap_eq_nil_iff.mpr
    intro e he
    have hm := mem_filter.mp he
    rw [show Spec.hotfixN st e.1 e.2 = 0 from Spec.longest_eq_zero _ _ (hhot e hm.1 hm.2), take_zero]
  refine ⟨(C05 h st).1.trans hprs, fun v => ?_⟩
  rw [(C05 h st).2 v]
  show Spec.head q (Spec.prs q st) v = none
  rw [hprs]
  exact find?_eq_none.mpr fun x _ => by simp

/-- With an admin force merge the whole queue is selected, whatever the statuses: every queued pull request,
    in order of entry, and every destination moves to the newest entry of its queue. -/
theorem C05_force (h : WFQ q paths) (st : St) :
    (process st q paths true).prs = (Spec.select q st true).1 ∧
    (∀ v p, p ∈ listOf q v → p ∈ (process st q paths true).prs) ∧
    ∀ v, (process st q paths true).head v = (listOf q v).head? := by
  have hprs : (process st q paths true).prs = extractPrIds q := rfl
  refine ⟨by rw [hprs]; exact extract_eq_all h, ?_, ?_⟩
  · intro v p hp; rw [hprs]; exact mem_extract_full h hp
  · intro v
    show (listOf (removeUnmergeable (extractPrIds q) q) v).head? = _
    rw [listOf_removeUnmergeable, head?_dropWhile_eq_find?, ← head?_filter]
    exact congrArg head? (sel_full h v)

/-- Each hotfix queue is its own prefix problem: of a hotfix queue `e`, exactly the first
    `hotfixN st e.1 e.2` entries are selected — a number computed from that queue and the statuses of its own
    commits alone (last clause); and of the main queue exactly the first `mainN q st` entries, a number that
    does not look at any hotfix queue. -/
theorem C05_hotfix_independent (h : WFQ q paths) (st : St) :
    (∀ e ∈ q, isHotfix e.1 = true → ∀ p ∈ e.2,
      (p ∈ (process st q paths false).prs ↔ p ∈ e.2.reverse.take (Spec.hotfixN st e.1 e.2))) ∧
    (∀ p ∈ mainList q,
      (p ∈ (process st q paths false).prs ↔ p ∈ (mainOrder q).take (Spec.mainN q st))) ∧
    (∀ st' : St, (∀ v p, isHotfix v = false → st p v = st' p v) → Spec.mainN q st = Spec.mainN q st') ∧
    (∀ (st' : St) (e : Version × List Nat), (∀ p ∈ e.2, st p e.1 = st' p e.1) →
      Spec.hotfixN st e.1 e.2 = Spec.hotfixN st' e.1 e.2) := by
  have hprs : (process st q paths false).prs = Spec.cut q (Spec.hotfixN st) (Spec.mainN q st) := (C05 h st).1
  -- a pull request in a cut of the hotfix entry `e'` is in its queue
  have hcut : ∀ {e' : Version × List Nat} {p k : Nat}, e' ∈ q → p ∈ e'.2.reverse.take k → p ∈ listOf q e'.1 :=
    fun he' hp' => h.snd_eq he' ▸ mem_reverse.mp (mem_of_mem_take hp')
  refine ⟨?_, ?_, mainN_congr q st, fun st' e hst => hotfixN_congr st st' e.1 e.2 hst⟩
  · intro e he hh p hp
    have hpe : p ∈ listOf q e.1 := h.snd_eq he ▸ hp
    rw [hprs, mem_cut]
    refine ⟨?_, fun hp' => Or.inl ⟨e, he, hh, hp'⟩⟩
    rintro (⟨e', he', hh', hp'⟩ | hp')
    · -- the only hotfix queue that holds `p` is `e`
      have hv : e'.1 = e.1 := h.eq_of_mem_hotfix (Or.inl hh') (hcut he' hp') hpe
      rw [h.snd_eq he', hv, ← h.snd_eq he] at hp'
      exact hp'
    · exact absurd (mem_reverse.mp (mem_of_mem_take hp')) (h.hotfix_not_main hh hpe)
  · intro p hp
    rw [hprs, mem_cut]
    refine ⟨?_, Or.inr⟩
    rintro (⟨e', he', hh', hp'⟩ | hp')
    · exact absurd hp (h.hotfix_not_main hh' (hcut he' hp'))
    · exact hp'

/-- `_recursive_lookup` terminates (the model is a total function: each round pops at least the failing tip,
    so the total length of the queues decreases — `popAll_lt`, used as the termination proof of the
    definition); it returns a collection none of whose tips fails and that is not longer than its input. -/
theorem recursiveLookup_terminates (st : St) (s : Queues) :
    firstFailed st (recursiveLookup st s) = 0 ∧ totalLen (recursiveLookup st s) ≤ totalLen s ∧
    (firstFailed st s ≠ 0 → totalLen (popAll (firstFailed st s) s) < totalLen s) := by
  refine ⟨?_, ?_, popAll_lt st s⟩
  · fun_induction recursiveLookup st s with
    | case1 q h => exact h
    | case2 q h ih => exact ih
  · fun_induction recursiveLookup st s with
    | case1 q h => exact Nat.le_refl _
    | case2 q h ih => exact Nat.le_trans ih (popAll_totalLen_le _ _)

/-- `_process` raises `QueuesNotValidated` unless `validate()` has passed. -/
theorem C05_not_validated (st : St) (q : Queues) (paths : List (List Version)) (force : Bool) :
    processChecked false st q paths force = none := rfl

end

/-- development/5.1 and 10.0, stabilization/10.0.5, a hotfix queue; pull requests 1, 2 → development/5.1,
    3 → stabilization/10.0.5, 4 → hotfix -/
def exQ : Queues := [([4, 2, 17, 1], [4]), ([5, 1], [2, 1]), ([10, 0, 5], [3]), ([10, 0], [3, 2, 1])]
def exPaths : List (List Version) := [[[5, 1], [10, 0]], [[10, 0, 5], [10, 0]]]

private theorem exQ_wf : WFQ exQ exPaths := by decide +kernel

example : WFQ exQ exPaths := exQ_wf
/-- a pull request that skips a version of its path is not well-formed -/
example : ¬ WFQ [([5, 1], [1]), ([10, 0], [])] [[[5, 1], [10, 0]]] := by decide +kernel
/-- a hotfix pull request in a development queue is not well-formed -/
example : ¬ WFQ [([4, 2, 17, 1], [4]), ([10, 0], [4])] [[[10, 0]]] := by decide +kernel

/-- the witness of the defect repaired in /repo (5d1011b): 1 FAILED on 5.1, 2 FAILED on 10.0, 3 FAILED on
    10.0.5, everything else SUCCESSFUL — nothing may be selected -/
def exSt : St := fun p v =>
  if (p, v) ∈ [(1, [5, 1]), (2, [10, 0]), (3, [10, 0, 5])] then .failed else .successful

example : (process exSt exQ exPaths false).prs = [4] ∧ (process exSt exQ exPaths false).head [5, 1] = none := by
  have h := C05 (q := exQ) (paths := exPaths) exQ_wf exSt
  rw [h.1, h.2]
  decide +kernel

/-- all green: everything is selected, hotfix first, then in order of entry -/
example : (process (fun _ _ => .successful) exQ exPaths false).prs = [4, 1, 2, 3] := by
  rw [(C05 (q := exQ) (paths := exPaths) exQ_wf _).1]
  decide +kernel

/-- only the tip of 5.1 fails: 1 → merged (its own commits are green), 2 and 3 are not -/
example : (Spec.select exQ (fun p v => if (p, v) = (2, [5, 1]) then .failed else .successful) false).1 = [4, 1] := by
  decide +kernel

example : (process exSt exQ exPaths true).prs = [4, 1, 2, 3] := by
  rw [(C05_force (q := exQ) (paths := exPaths) exQ_wf exSt).1]
  decide +kernel

/-- `C05_prefix`, `C05_heads_green`, `C05_hotfix_independent` apply to the concrete collection (their only
    hypothesis is `WFQ`), and on it the cut is non-trivial: 1 of 1 hotfix entries, 0 of 3 main entries under
    `exSt`; 1 and 2 of the main queue when only pull request 3 fails on its stabilization branch -/
example : Spec.mainN exQ exSt = 0 ∧ Spec.hotfixN exSt [4, 2, 17, 1] [4] = 1 ∧
    Spec.mainN exQ (fun p v => if (p, v) = (3, [10, 0, 5]) then .inProgress else .successful) = 2 := by decide +kernel
example := C05_prefix (q := exQ) (paths := exPaths) exQ_wf exSt
example := C05_heads_green (q := exQ) (paths := exPaths) exQ_wf exSt
example := C05_hotfix_independent (q := exQ) (paths := exPaths) exQ_wf exSt

/-- the hypotheses of `C05_nothing_moves` hold of a collection whose every tip fails -/
example : (process (fun _ _ => .failed) [([10, 0], [2, 1])] [[[10, 0]]] false).prs = [] :=
  (C05_nothing_moves (q := [([10, 0], [2, 1])]) (paths := [[[10, 0]]]) (by decide +kernel) (fun _ _ => .failed)
    (by
      intro k hk hkb
      have hlen : (mainOrder [([10, 0], [2, 1])]).length = 2 := by decide +kernel
      rw [hlen] at hkb
      have : k = 1 ∨ k = 2 := by omega
      rcases this with rfl | rfl <;> decide)
    (by
      intro e he hh
      have : e = ([10, 0], [2, 1]) := by simpa using he
      subst this
      exact absurd hh (by decide +kernel))).1

end BertE.C05

/-! ### C05 at system level: the statement on the state of the system model, the selection computed

`Select.selectOf s b false` = the model of `QueueCollection._process` run on the collection (`queuesOfSys`), the
merge paths and the statuses of the system state `s` under the build-status table `b` of the host.
`Select.mainQueue s` / `Select.entriesOn s d` are sub-lists of `s.queue` (the queued pull requests in order of
entry): the pull requests that are not on a hotfix branch / the pull requests on the hotfix branch `d`.
`Select.Green b s sel`: on every destination the queue commit of the newest pull request of `sel` that targets it
has a SUCCESSFUL build (`C03.HeadsGreen`). -/
namespace BertE.C05
open BertE.Git BertE.Flow BertE.Select

/-- C05 on the system state. For every state that satisfies the invariant of the system model (and on which
    `validate()` passed, `Validated`) and every build-status table, the queue evaluation without force merge selects
    * a prefix of the queue in order of entry: the first `n` pull requests of the main queue and, independently,
      the first `nh d` pull requests of every hotfix queue `d` (second clause);
    * that is green (third clause) and the longest green one: no longer prefix of the main queue is green
      (fourth clause); the same for every hotfix queue on its own (fifth clause);
    and every destination branch lands exactly on the queue commit of the newest selected pull request that
    targets it (last clause, `C03_queue_exact`: at every crash point, with any refused ref), a commit whose build is
    SUCCESSFUL (sixth clause). -/
theorem C05_sys (s : Sys) (h : Flow.Inv s) (hv : Validated s) (b : Builds) :
    ∃ (n : Nat) (nh : Dest → Nat),
      n ≤ (mainQueue s).length ∧
      selectOf s b false =
        (hotDests s).flatMap (fun d => ((entriesOn s d).take (nh d)).map (·.pr)) ++
          ((mainQueue s).take n).map (·.pr) ∧
      Green b s (((mainQueue s).take n).map (·.pr)) ∧
      (∀ k, n < k → k ≤ (mainQueue s).length → ¬ Green b s (((mainQueue s).take k).map (·.pr))) ∧
      (∀ d ∈ hotDests s, nh d ≤ (entriesOn s d).length ∧
        Green b s (((entriesOn s d).take (nh d)).map (·.pr)) ∧
        ∀ k, nh d < k → k ≤ (entriesOn s d).length → ¬ Green b s (((entriesOn s d).take k).map (·.pr))) ∧
      C03.HeadsGreen b s (selectOf s b false) ∧
      ∀ (rej : Ref → Bool) (k : Nat) (d : Dest),
        (C01.observable s (planQueues s (selectOf s b false)) rej k).get (.dest d) = s.remote.get (.dest d) ∨
        ∃ e, lastTargeting (C03.selected s (selectOf s b false)) d = some e ∧
          (C01.observable s (planQueues s (selectOf s b false)) rej k).get (.dest d) = qwOf s.remote e d := by
  have hlen : (Queue.mainOrder (queuesOfSys s)).length = (mainQueue s).length := by
    rw [mainOrder_queuesOfSys h hv, List.length_map]
  obtain ⟨hle, hgreen, hmax⟩ := Queue.Spec.mainN_spec (queuesOfSys s) (stOfSys b s)
  refine ⟨Queue.Spec.mainN (queuesOfSys s) (stOfSys b s),
    fun d => Queue.Spec.hotfixN (stOfSys b s) (versionOf d) (idsOn s d), hlen ▸ hle, ?_,
    (mainGreen_iff h hv b _).mp hgreen, ?_, ?_,
    C03.C03_heads_green_closed s h hv b, fun rej k d => C03.C03_queue_exact s h.q.base _ rej k d⟩
  · rw [selectOf_false_eq h hv b]
    unfold Queue.Spec.prs
    exact cut_queuesOfSys h hv _ _
  · intro k hk hkb hg
    exact Bool.false_ne_true ((hmax k hk (hlen ▸ hkb)).symm.trans ((mainGreen_iff h hv b k).mpr hg))
  · intro d hd
    have hdm := List.mem_filter.mp hd
    have hdk : d ∈ keyDests s := mem_keyDests.mpr ⟨hdm.1, fun k hk => by
      rw [hk, isHf_devDest] at hdm; exact absurd hdm.2 (by decide +kernel)⟩
    have hl : (idsOn s d).length = (entriesOn s d).length := by
      rw [idsOn_eq, List.length_reverse, List.length_map]
    obtain ⟨hle, hgreen, hmax⟩ := Queue.Spec.hotfixN_spec (stOfSys b s) (versionOf d) (idsOn s d)
    refine ⟨hl ▸ hle, (hotfixGreen_iff h hv b hdk hdm.2 _).mp hgreen, fun k hk hkb hg => ?_⟩
    exact Bool.false_ne_true ((hmax k hk (hl ▸ hkb)).symm.trans ((hotfixGreen_iff h hv b hdk hdm.2 k).mpr hg))

/-- with an admin force merge everything queued is selected, in order of entry -/
theorem C05_sys_force (s : Sys) (h : Flow.Inv s) (hv : Validated s) (b : Builds) :
    selectOf s b true =
      (hotDests s).flatMap (fun d => (entriesOn s d).map (·.pr)) ++ (mainQueue s).map (·.pr) := by
  rw [selectOf_true_eq h hv b]
  unfold Queue.Spec.allPrs
  have hlen : (Queue.mainOrder (queuesOfSys s)).length = (mainQueue s).length := by
    rw [mainOrder_queuesOfSys h hv, List.length_map]
  rw [cut_queuesOfSys h hv, hlen, List.take_length]
  congr 1
  apply Queue.flatMap_congr'
  intro d _
  have hl : (idsOn s d).length = (entriesOn s d).length := by
    rw [idsOn_eq, List.length_reverse, List.length_map]
  rw [hl, List.take_length]

/-- Non-vacuity on the concrete state `exSys` (pull request 1 on development/4.3 and 5.1, pull request 2 on
    development/5.1; queue commits of 1 SUCCESSFUL, of 2 FAILED): the main queue is [1, 2], the prefix of length 1
    is green and the prefix of length 2 is not; the evaluation selects [1]; with force merge [1, 2]. -/
example : (mainQueue exSys).map (·.pr) = [1, 2] ∧ hotDests exSys = [] ∧
    selectOf exSys exBuilds false = [1] ∧ selectOf exSys exBuilds true = [1, 2] ∧
    Green exBuilds exSys [1] ∧ ¬ Green exBuilds exSys [1, 2] := by
  -- everything that is computed on `exSys`, in one evaluation
  have ev : (mainQueue exSys).map (·.pr) = [1, 2] ∧ hotDests exSys = [] ∧
      Queue.Spec.mainGreen (queuesOfSys exSys) (stOfSys exBuilds exSys) 1 = true ∧
      Queue.Spec.mainGreen (queuesOfSys exSys) (stOfSys exBuilds exSys) 2 = false := by decide +kernel
  refine ⟨ev.1, ev.2.1, exSys_select.1, exSys_select.2.1, ?_, ?_⟩
  · have := (mainGreen_iff exSys_inv exSys_validated exBuilds 1).mp ev.2.2.1
    rwa [List.map_take, ev.1] at this
  · intro hg
    have := (mainGreen_iff exSys_inv exSys_validated exBuilds 2).mpr (by rw [List.map_take, ev.1]; exact hg)
    rw [ev.2.2.2] at this
    cases this

example := C05_sys exSys exSys_inv exSys_validated exBuilds
example := C05_sys_force exSys exSys_inv exSys_validated exBuilds

end BertE.C05

namespace BertE.C05
open BertE.Git BertE.Flow BertE.Select BertE.Close

/-- `C05_sys` without the `Validated` hypothesis (`Close.InvV` is inductive and implies it). -/
theorem C05_sys2 (s : Sys) (h : InvV s) (b : Builds) :
    ∃ (n : Nat) (nh : Dest → Nat),
      n ≤ (mainQueue s).length ∧
      selectOf s b false =
        (hotDests s).flatMap (fun d => ((entriesOn s d).take (nh d)).map (·.pr)) ++
          ((mainQueue s).take n).map (·.pr) ∧
      Green b s (((mainQueue s).take n).map (·.pr)) ∧
      (∀ k, n < k → k ≤ (mainQueue s).length → ¬ Green b s (((mainQueue s).take k).map (·.pr))) ∧
      (∀ d ∈ hotDests s, nh d ≤ (entriesOn s d).length ∧
        Green b s (((entriesOn s d).take (nh d)).map (·.pr)) ∧
        ∀ k, nh d < k → k ≤ (entriesOn s d).length → ¬ Green b s (((entriesOn s d).take k).map (·.pr))) ∧
      C03.HeadsGreen b s (selectOf s b false) ∧
      ∀ (rej : Ref → Bool) (k : Nat) (d : Dest),
        (C01.observable s (planQueues s (selectOf s b false)) rej k).get (.dest d) = s.remote.get (.dest d) ∨
        ∃ e, lastTargeting (C03.selected s (selectOf s b false)) d = some e ∧
          (C01.observable s (planQueues s (selectOf s b false)) rej k).get (.dest d) = qwOf s.remote e d :=
  C05_sys s h.inv (close_validated_of_invV h) b

theorem C05_sys_force2 (s : Sys) (h : InvV s) (b : Builds) :
    selectOf s b true =
      (hotDests s).flatMap (fun d => (entriesOn s d).map (·.pr)) ++ (mainQueue s).map (·.pr) :=
  C05_sys_force s h.inv (close_validated_of_invV h) b

example := C05_sys2 exSys close_exSys_invV exBuilds
example := C05_sys_force2 exSys close_exSys_invV exBuilds

end BertE.C05

namespace BertE.C05
open BertE.Git BertE.Flow BertE.Select BertE.Close BertE.QV

/-- D18 (`incoherent-queues-when-two-queued-prs-share-a-queue-commit`). The witness state `Close.tieSys` is
    reached from the empty repository by an admissible history (two pull requests whose source branches are the
    same commit, the one queued second having the smaller id), satisfies the strengthened invariant, `QSync` and the
    cascade side conditions — every hypothesis of `C01_validate_complete` except `NoTies`: the queue commits of pull
    requests 2 and 1 on development/4.3 are the same commit — and the modelled `validate()` reports
    `QueueInconsistentPullRequestsOrder` (the real code on the real witness: IncoherentQueues [Q008], the same
    class; `python -m harness.close_witness ties`): nothing is merged although the queue is well-formed. -/
theorem C05_validate_ties_counterexample :
    InvV tieSys ∧ QSync tieSys ∧ CascadeSide tieSys ∧ ¬ NoTies tieSys ∧
    tieSys.remote.get (.qw 2 (.dev 4 (some 3)) "feature/a") = tieSys.remote.get (.qw 1 (.dev 4 (some 3)) "feature/b") ∧
    errorsOf tieSys = some [.QueueInconsistentPullRequestsOrder] ∧ validated tieSys = false ∧
    (build tieSys.g tieSys.remote).map (fun v => (v.d, v.ints.map (·.pr))) =
      [(.dev 4 (some 3), [2, 1]), (.dev 5 (some 1), [1, 2])] :=
  close_validate_ties_counterexample

end BertE.C05
