import BertE.Lemmas.C02
import BertE.Lemmas.C02Content
import BertE.Lemmas.C02RecDemo
import BertE.Lemmas.CloseRecPlan
import BertE.Props.C01
import BertE.Gen.PushFlags
import BertE.Drv.C02
/-
C02 — all targets or none, even across crashes.

"At every moment the remote repository can be observed - including when Bert-E dies between any two of its git
or git-host operations, or when the server refuses to update any single branch of a push - the changes of each
pull request are on all of its target branches or on none of them, and the inclusion invariant of C01 still
holds. From any such interrupted state, re-delivering the event to a fresh Bert-E (after the documented queue
reset if it reports the queues out of order) ends with the same content on every target branch as the
uninterrupted run."

Setting (Model/Flow.lean, Model/FlowC02.lean): a job is the ordered list of its remote operations (`plan`),
computed from the clone; `observableAt s p rej k` is the remote after the first `k` operations (the job died
there: every later operation fails), the server refusing the refs `rej i` in operation number `i` - any refs,
differently in every operation, which covers branch protection (always), a concurrent update (once) and the
"one ref at a time" of the property. Git-host calls (comments, pull-request creation, decline, status) do not
touch the repository: a crash between two of them shows the same remote as the crash points around the
neighbouring git operations. The stage the gates allow, the outcome of every content merge and the queue
selection are universally quantified inputs.

A commit `c` is ON destination `d` when it is an ancestor of (or equal to) the tip of `d`. The changes of a pull
request are the commits below its source tip.
-/
namespace BertE.C02
open BertE.Git BertE.Flow BertE.C01

/-- In the plan of every Bert-E job on pull requests and queues - pull-request evaluation at
    every stage, in queue / no-queue / skip-queue mode, with any outcome of the content merges; declined pull
    request; reset; queue merge with any selection; rebuild / delete queues - an operation that would change a
    destination ref (`Op.TouchesDest`, relative to the clone's snapshot) is atomic (`git push --all --atomic`)
    and is the LAST operation of the plan. Hence there is at most one. -/
theorem C02_dest_only_in_one_atomic_push (s : Sys) (hs : s.WF) (ev : Event) (hev : Event.isFlowJob ev = true)
    (i : Nat) (op : Op) (hi : (plan s ev).ops[i]? = some op) (ht : op.TouchesDest s.remote) :
    op.atomic = true ∧ i + 1 = (plan s ev).ops.length :=
  (plan_shape hs ev hev).touches s.remote i op hi ht

theorem C02_at_most_one_dest_push (s : Sys) (hs : s.WF) (ev : Event) (hev : Event.isFlowJob ev = true)
    (i j : Nat) (op op' : Op) (hi : (plan s ev).ops[i]? = some op) (hj : (plan s ev).ops[j]? = some op')
    (ht : op.TouchesDest s.remote) (ht' : op'.TouchesDest s.remote) : i = j := by
  have h1 := (C02_dest_only_in_one_atomic_push s hs ev hev i op hi ht).2
  have h2 := (C02_dest_only_in_one_atomic_push s hs ev hev j op' hj ht').2
  omega

def OnBranch (g : Graph) (m : RefMap) (c : Commit) (d : Dest) : Prop :=
  ∃ t, m.get (.dest d) = some t ∧ g.le c t = true

def AllOrNone (g : Graph) (m : RefMap) (ts : List Dest) (c : Commit) : Prop :=
  (∀ d ∈ ts, OnBranch g m c d) ∨ (∀ d ∈ ts, ¬ OnBranch g m c d)

def Unmoved (s : Sys) (obs : RefMap) : Prop := ∀ d, obs.get (.dest d) = s.remote.get (.dest d)

/-- All or none, pull-request evaluation (direct merge, entering the queue, or stopped by a gate or a
    conflict; the pull request not being queued yet). At every interruption `k` and whatever the server refuses in
    each operation: EVERY target contains the source tip, or NO destination ref has moved at all. -/
theorem C02_all_or_none_evalPr (s : Sys) (hs : s.WF) (pr : PrInfo) (stage : Stage) (orc : List Bool)
    (sel : List Nat) (hnq : alreadyQueued s pr = false) (sc : Commit) (hsc : s.remote.get (.other pr.src) = some sc)
    (rej : Nat → Ref → Bool) (k : Nat) :
    (∀ d ∈ s.targets pr.dst, OnBranch (planPr s pr stage orc sel).g
        (observableAt s (planPr s pr stage orc sel) rej k) sc d) ∨
    Unmoved s (observableAt s (planPr s pr stage orc sel) rej k) := by
  rcases (planPr_oneShot hs pr stage orc sel hnq hsc).observable (planPr s pr stage orc sel).g rej k s.remote
    with h | h
  · exact Or.inr h
  · exact Or.inl h

/-- the same for every change of the pull request: a commit below the source tip that was on all targets or on
    none before the job is on all targets or on none at every observable moment of the job -/
theorem C02_all_or_none_commits (s : Sys) (hs : s.WF) (pr : PrInfo) (stage : Stage) (orc : List Bool)
    (sel : List Nat) (hnq : alreadyQueued s pr = false) (sc : Commit) (hsc : s.remote.get (.other pr.src) = some sc)
    (c : Commit) (hc : s.g.le c sc = true) (h0 : AllOrNone s.g s.remote (s.targets pr.dst) c)
    (rej : Nat → Ref → Bool) (k : Nat) :
    AllOrNone (planPr s pr stage orc sel).g (observableAt s (planPr s pr stage orc sel) rej k) (s.targets pr.dst) c := by
  have hx := planPr_gext hs pr stage orc sel
  rcases C02_all_or_none_evalPr s hs pr stage orc sel hnq sc hsc rej k with h | h
  · left
    intro d hd
    obtain ⟨t, ht, hle⟩ := h d hd
    exact ⟨t, ht, le_trans hx.wf (hx.ext.le (hs.valid _ _ hsc) hc) hle⟩
  · -- no destination has moved: being on a branch means what it meant in the snapshot
    have hiff : ∀ d, OnBranch (planPr s pr stage orc sel).g (observableAt s (planPr s pr stage orc sel) rej k) c d ↔
        OnBranch s.g s.remote c d := fun d => Dc_congr hs.valid hx.ext (h d) c
    exact h0.imp (fun h0 d hd => (hiff d).mpr (h0 d hd)) (fun h0 d hd hn => h0 d hd ((hiff d).mp hn))

/-- All or none, queue merge (`handle_merge_queues`: commit event on a queue tip, force merge, or the
    evaluation of a pull request that is already queued), under the queue invariant that `add_to_queue`
    establishes. At every interruption and whatever the server refuses: the queue commit of EVERY selected pull
    request is on ALL of that pull request's targets, or NO destination ref has moved at all. -/
theorem C02_all_or_none_queues (s : Sys) (hs : s.WF) (hq : QueueInv s) (sel : List Nat)
    (rej : Nat → Ref → Bool) (k : Nat) :
    QueueLanded s (selected s sel) (observableAt s (planQueues s sel) rej k) ∨
    Unmoved s (observableAt s (planQueues s sel) rej k) := by
  rcases (planQueues_oneShot hs hq sel).observable (planQueues s sel).g rej k s.remote with h | h
  · exact Or.inr h
  · exact Or.inl h

/-- declined pull request, reset / force_reset, rebuild / delete queues: no destination ref ever moves -/
theorem C02_cleanup_unmoved (s : Sys) (ev : Event)
    (hev : (∃ pr cd, ev = .evalDeclined pr cd) ∨ (∃ pr, ev = .reset pr) ∨ ev = .dropQueues)
    (rej : Nat → Ref → Bool) (k : Nat) : Unmoved s (observableAt s (plan s ev) rej k) := by
  have key : OneShot (plan s ev).ops (DestSame s.remote) := by
    rcases hev with ⟨pr, cd, rfl⟩ | ⟨pr, rfl⟩ | rfl
    · exact planDeclined_oneShot s pr cd
    · exact planReset_oneShot s pr
    · exact planDropQueues_oneShot s
  rcases key.observable (plan s ev).g rej k s.remote with h | h
  · exact h
  · exact h

/-- with the same refusals in every operation, `observableAt` is the `observable` of C01 -/
theorem C02_observable_const (s : Sys) (p : Plan) (rej : Ref → Bool) (k : Nat) :
    observableAt s p (fun _ => rej) k = observable s p rej k := by
  unfold observableAt observable
  exact applyOpsAt_const p.g rej _ 0 s.remote

/-- Pull-request evaluation: for every well-formed state satisfying inclusion and the queue
    invariant, every stage, every outcome of the content merges, every interruption `k` and every refusal of refs
    by the server (per operation): inclusion holds on the observable remote AND every target contains the source
    tip or no destination has moved. (Inclusion is C01's `planPr_safe`; only the step from one fixed `rej` to a
    refusal per operation is added here.) -/
theorem C02_prefix_safe (s : Sys) (hs : s.WF) (hincl : s.Incl) (hq : QueueInv s) (pr : PrInfo) (stage : Stage)
    (orc : List Bool) (sel : List Nat) (rej : Nat → Ref → Bool) (k : Nat) :
    InclOn (planPr s pr stage orc sel).g (observableAt s (planPr s pr stage orc sel) rej k) ∧
    (alreadyQueued s pr = false → ∀ sc, s.remote.get (.other pr.src) = some sc →
      (∀ d ∈ s.targets pr.dst, OnBranch (planPr s pr stage orc sel).g
          (observableAt s (planPr s pr stage orc sel) rej k) sc d) ∨
      Unmoved s (observableAt s (planPr s pr stage orc sel) rej k)) ∧
    (alreadyQueued s pr = true →
      QueueLanded s (selected s sel) (observableAt s (planPr s pr stage orc sel) rej k) ∨
      Unmoved s (observableAt s (planPr s pr stage orc sel) rej k)) := by
  refine ⟨?_, ?_, ?_⟩
  · unfold observableAt
    apply applyOpsAt_incl rej _ 0
      (InclOn.extends hincl hs.valid (planPr_gext hs pr stage orc sel).ext)
    intro op hop
    exact planPr_safe hs hincl pr stage orc sel (planQueues_safe hs hincl hq sel) op (List.mem_of_mem_take hop)
  · intro hnq sc hsc
    exact C02_all_or_none_evalPr s hs pr stage orc sel hnq sc hsc rej k
  · intro hyes
    rcases planPr_queued (stage := stage) (orc := orc) (sel := sel) hyes with h | ⟨h, _⟩
    · rw [h]; exact C02_all_or_none_queues s hs hq sel rej k
    · right
      intro d
      rw [observableAt_nil h]

theorem C02_prefix_safe_queues (s : Sys) (hs : s.WF) (hincl : s.Incl) (hq : QueueInv s) (sel : List Nat)
    (rej : Nat → Ref → Bool) (k : Nat) :
    InclOn (planQueues s sel).g (observableAt s (planQueues s sel) rej k) ∧
    (QueueLanded s (selected s sel) (observableAt s (planQueues s sel) rej k) ∨
     Unmoved s (observableAt s (planQueues s sel) rej k)) := by
  refine ⟨?_, C02_all_or_none_queues s hs hq sel rej k⟩
  unfold observableAt
  apply applyOpsAt_incl rej _ 0
  · rw [planQueues_g]; exact hincl
  · intro op hop
    exact planQueues_safe hs hincl hq sel op (List.mem_of_mem_take hop)

/-- clean-up jobs: nothing moves, so inclusion holds as before -/
theorem C02_prefix_safe_cleanup (s : Sys) (hincl : s.Incl) (ev : Event)
    (hev : (∃ pr cd, ev = .evalDeclined pr cd) ∨ (∃ pr, ev = .reset pr) ∨ ev = .dropQueues)
    (rej : Nat → Ref → Bool) (k : Nat) :
    InclOn s.g (observableAt s (plan s ev) rej k) ∧ Unmoved s (observableAt s (plan s ev) rej k) := by
  have h := C02_cleanup_unmoved s ev hev rej k
  exact ⟨hincl.of_same h, h⟩

def genTable : PushTable :=
  { cmds := BertE.Gen.PushFlags.pushCmds.map (·.words),
    pushAll := BertE.Gen.PushFlags.pushAll,
    pushAllSubst := BertE.Gen.PushFlags.pushAllSubst,
    publishes := BertE.Gen.PushFlags.publishes.map (fun p =>
      ⟨p.func, p.callee, p.hasBranches, p.prune, p.toplevel, p.mergesBefore, p.mergesAfter⟩),
    dispatchAllTest := BertE.Gen.PushFlags.dispatchAllTest,
    dispatchAllTarget := BertE.Gen.PushFlags.dispatchAllTarget,
    dispatchAllPrune := BertE.Gen.PushFlags.dispatchAllPrune,
    processCalls := BertE.Gen.PushFlags.processCalls }

/-- the push commands of the current source: `push_all` is `--all --atomic`, nothing is forced, both merge paths
    publish through `push(repo, prune=True)` = `push_all`, after their merges; `process` resets the clone first -/
theorem C02_pushflags : PushFlagsOK genTable = true := by decide +kernel

/-- under `PushFlagsOK` the remote of the table is the remote of the theorems above -/
theorem C02_table_remote (t : PushTable) (ht : PushFlagsOK t = true) (g : Graph) (rej : Ref → Bool)
    (remote : RefMap) (op : Op) : applyOpT t g rej remote op = applyOp g rej remote op := by
  unfold applyOpT
  have : t.pushAll.contains "--atomic" = true := by
    unfold PushFlagsOK at ht
    simp only [Bool.and_eq_true] at ht
    exact ht.1.1.1.1.1.1.1.1.2
  rw [if_pos this]

/-! ### recovery: the event delivered again

Full statement of the recovery clause (NOT proved in this generality - see `C02_recovery_direct_partial` and the
manifest): for every job of every mode, every interruption `k` and every refusal `rej`, let `s'` be the
interrupted state; there is a recovery procedure `R` (deliver the same event to a fresh Bert-E; if it answers
QueueOutOfOrder / IncoherentQueues, run the rebuild-queues job, let it re-submit the queued pull requests, and
deliver again) such that for every destination `d` the content of `d` after `R` on `s'` equals the content of
`d` after the uninterrupted job on `s`.
  ∀ s ev k rej d, WF s → QueueInv s → content (recover (interrupted s (plan s ev) rej k) ev) d = content (step s ev) d

What is proved first: no-queue mode, pull-request evaluation that merges (direct merge), interrupted anywhere before
its publishing push, with any subset of the integration branches already pushed (each `w/` ref on its own: the
push of the integration branches is not atomic), the event delivered again with ANY answers of git's content
merges, provided the second run gets through the gates and the merges again (both are inputs of the model;
the tie shows one case where the real gates do not let it through, see the finding
`recovery/history-mismatch-after-partial-w-push`). Skip-queue mode, the queue merge, the clean-up jobs and
`add_to_queue` follow further down, each with what is left out. -/

/-- destination `d` has the same content in two outcomes: the same commits of the snapshot (`< N`) are below its tip -/
def SameContent (N : Nat) (g₁ : Graph) (m₁ : RefMap) (g₂ : Graph) (m₂ : RefMap) (d : Dest) : Prop :=
  ∃ t₁ t₂, m₁.get (.dest d) = some t₁ ∧ m₂.get (.dest d) = some t₂ ∧
    ∀ a, a < N → (g₁.le a t₁ = true ↔ g₂.le a t₂ = true)

/-- The content of a direct merge is a function of the snapshot (no-queue mode). Among the commits
    that existed when the job started, the new tip of the first target contains exactly those of its old tip and
    of the source; the new tip of every further target contains exactly those, plus those of the destination and
    integration branches (as they were in the snapshot) of the further targets up to it. Neither the answers of
    git's content merges nor the identity of the commits the job creates appear: this is what makes re-delivery
    land on the same content. -/
theorem C02_direct_content (s : Sys) (hs : s.WF) (hnq : s.useQueue = false) (pr : PrInfo) (orc : List Bool)
    (sel : List Nat) (sc : Commit) (hsc : s.remote.get (.other pr.src) = some sc) (loc : RefMap)
    (hlast : (planPr s pr .final orc sel).ops.getLast? = some (.pushAll loc true)) :
    (∃ n1, loc.get (.dest pr.dst) = some n1 ∧ ∀ a, a < s.g.size →
      ((planPr s pr .final orc sel).g.le a n1 = true ↔ FirstC s.g s.remote sc pr.dst a)) ∧
    ∀ pre d post, (s.targets pr.dst).drop 1 = pre ++ d :: post → ∃ n, loc.get (.dest d) = some n ∧
      ∀ a, a < s.g.size → ((planPr s pr .final orc sel).g.le a n = true ↔
        FinalC s.g s.remote pr.src sc pr.dst (pre ++ [d]) a) := by
  obtain ⟨l4, hr⟩ := planPr_direct_run hs hnq pr orc sel hsc hlast
  exact ⟨hr.first, hr.further⟩

/-- Recovery of a direct merge (no-queue mode; partial, see above). The job that would have merged the
    pull request dies anywhere before its publishing push (`k < number of operations`), the server having
    refused any refs in the operations attempted; the same event is delivered to a fresh Bert-E on the
    interrupted state (`interrupted`: the remote as observed, the commit graph now holding what the dead job
    created), git's content merges answer anything (`orc'`), and this second run reaches its publishing push.
    Then every target ends with the same content as in the uninterrupted run. -/
theorem C02_recovery_direct_partial (s : Sys) (hs : s.WF) (hnq : s.useQueue = false) (pr : PrInfo)
    (orc : List Bool) (sel : List Nat) (sc : Commit) (hsc : s.remote.get (.other pr.src) = some sc)
    (locU : RefMap) (hU : (planPr s pr .final orc sel).ops.getLast? = some (.pushAll locU true))
    (rej : Nat → Ref → Bool) (k : Nat) (hk : k < (planPr s pr .final orc sel).ops.length)
    (orc' : List Bool) (sel' : List Nat) (locR : RefMap)
    (hR : (planPr (interrupted s (planPr s pr .final orc sel) rej k) pr .final orc' sel').ops.getLast? =
      some (.pushAll locR true)) :
    ∀ d ∈ s.targets pr.dst,
      SameContent s.g.size (planPr s pr .final orc sel).g locU
        (planPr (interrupted s (planPr s pr .final orc sel) rej k) pr .final orc' sel').g locR d := by
  have hnaq : alreadyQueued s pr = false := by
    unfold alreadyQueued
    rw [hnq, Bool.false_and]
  exact rec_direct_recovery hs pr hnaq orc sel hsc hU rej hk orc' sel' hR

/-- Without `--atomic` the property fails (model level): the direct merge of a pull request on
    development/4.3 and development/5.1, the server refusing development/5.1 in the final push. With the
    ref-by-ref `push --all` (`applyOpNA`) development/4.3 receives the source commit 3 and development/5.1 stays
    on commit 2, which does not contain it; with the atomic push nothing moves. -/
theorem C02_nonatomic_counterexample :
    let s := Demo.s1
    let p := planPr s ⟨1, "feature/x", .dev 4 (some 3), false⟩ .final [] []
    let rej : Ref → Bool := fun r => r == .dest (.dev 5 (some 1))
    let na := p.ops.foldl (applyOpNA p.g rej) s.remote
    let at_ := applyOps p.g rej s.remote p.ops
    (na.get (.dest (.dev 4 (some 3))) = some 3 ∧ na.get (.dest (.dev 5 (some 1))) = some 2 ∧ p.g.le 3 2 = false) ∧
    (at_.get (.dest (.dev 4 (some 3))) = some 1 ∧ at_.get (.dest (.dev 5 (some 1))) = some 2) := by decide +kernel

/-- `Demo.s1` is well-formed, satisfies inclusion and the queue invariant, the pull request is not queued and its
    source exists: every hypothesis of `C02_prefix_safe` / `C02_all_or_none_evalPr` / `C02_dest_only_in_one_atomic_push` -/
example : Demo.s1.WF ∧ Demo.s1.Incl ∧ QueueInv Demo.s1 ∧
    alreadyQueued Demo.s1 ⟨1, "feature/x", .dev 4 (some 3), false⟩ = false ∧
    Demo.s1.remote.get (.other "feature/x") = some 3 :=
  ⟨Demo.s1_WF, Demo.s1_Incl, Demo.s1_QueueInv, by decide +kernel, by decide +kernel⟩

/-- the plan of the direct merge is [push of w/5.1/feature/x, one atomic pruning push]; uninterrupted, both
    targets contain the source commit 3 (ALL); interrupted before the last operation, or with development/5.1
    refused in it, no destination has moved (NONE) while the integration branch is already on the remote -/
example :
    let s := Demo.s1
    let p := planPr s ⟨1, "feature/x", .dev 4 (some 3), false⟩ .final [] []
    let all := observableAt s p (fun _ _ => false) 2
    let crash := observableAt s p (fun _ _ => false) 1
    let refused := observableAt s p (fun i r => i == 1 && r == .dest (.dev 5 (some 1))) 2
    p.ops.map Op.atomic = [false, true] ∧
    (all.get (.dest (.dev 4 (some 3))) = some 3 ∧ all.get (.dest (.dev 5 (some 1))) = some 4 ∧ p.g.le 3 4 = true) ∧
    (crash.get (.dest (.dev 4 (some 3))) = some 1 ∧ crash.get (.dest (.dev 5 (some 1))) = some 2 ∧
      crash.get (.w (.dev 5 (some 1)) "feature/x") = some 4) ∧
    (refused.get (.dest (.dev 4 (some 3))) = some 1 ∧ refused.get (.dest (.dev 5 (some 1))) = some 2) := by decide +kernel

/-- the queue merge on a concrete queue: two pull requests queued on development/4.3 (and 5.1), the first one
    selected; the single atomic push moves both targets to the queue commits of that pull request -/
example :
    let s0 := BertE.Drv.C01.initSys true false [.dev 4 (some 3), .dev 5 (some 1)]
    let s1 := (step s0 (.extSet "feature/x" [1] false)).1
    let s2 := (step s1 (.extSet "feature/y" [1] false)).1
    let s3 := (step s2 (.evalPr ⟨1, "feature/x", .dev 4 (some 3), false⟩ .final [] [])).1
    let s4 := (step s3 (.evalPr ⟨2, "feature/y", .dev 4 (some 3), false⟩ .final [] [])).1
    let p := planQueues s4 [1]
    let obs := observableAt s4 p (fun _ _ => false) 1
    s4.queue.map (·.pr) = [1, 2] ∧ p.ops.map Op.atomic = [true] ∧
    obs.get (.dest (.dev 4 (some 3))) = s4.remote.get (.qw 1 (.dev 4 (some 3)) "feature/x") ∧
    obs.get (.dest (.dev 5 (some 1))) = s4.remote.get (.qw 1 (.dev 5 (some 1)) "feature/x") ∧
    (observableAt s4 p (fun _ r => r == .dest (.dev 5 (some 1))) 1).get (.dest (.dev 4 (some 3))) = some 1 := by decide +kernel

/-- recovery on the concrete state: the direct merge of `feature/x` dies after its first operation (the integration
    branch w/5.1/feature/x is on the remote, no destination has moved), the event is delivered again: the second
    run ends with its publishing push, and both targets contain the same commits of the snapshot (0..3) as in the
    uninterrupted run - although the second run's tips are different commits (7 instead of 4 would be possible;
    here git fast-forwards both runs onto the integration branch) -/
example :
    let s := Demo.s1
    let pr : PrInfo := ⟨1, "feature/x", .dev 4 (some 3), false⟩
    let p := planPr s pr .final [] []
    let s' := interrupted s p (fun _ _ => false) 1
    let p' := planPr s' pr .final [] []
    s.useQueue = false ∧ (1 < p.ops.length) ∧
    p.ops.getLast?.map Op.atomic = some true ∧ p'.ops.getLast?.map Op.atomic = some true ∧
    s'.remote.get (.w (.dev 5 (some 1)) "feature/x") = some 4 ∧ s'.remote.get (.dest (.dev 5 (some 1))) = some 2 ∧
    (applyOps p.g noRej s.remote p.ops).get (.dest (.dev 5 (some 1))) = some 4 ∧
    (applyOps p'.g noRej s'.remote p'.ops).get (.dest (.dev 5 (some 1))) = some 4 ∧
    [0, 1, 2, 3].all (fun a => p'.g.le a 4 == p.g.le a 4) = true := by decide +kernel

end BertE.C02

/-! ### After an interrupted `add_to_queue`: validated or nothing

The queue-mode clauses above (`C02_all_or_none_queues`, `C02_prefix_safe*`) assume the queue invariant. An
interruption of `add_to_queue` (crash between its pushes, refs refused in its non-atomic final push) leaves `q/*`
refs for which that invariant does not hold. What protects the destinations then is `QueueCollection.validate()`
at the next evaluation (`Model/QValidate.lean`, soundness in `Lemmas/QValidate*.lean`, `C01_queue_validated`).
No hypothesis about `q/*` refs below. -/
namespace BertE.C02
open BertE.Git BertE.Flow BertE.C01 BertE.QV

/-- Queue evaluation in any state: inclusion and all-or-none at every observable moment. Whatever the `q/*`
    refs are, at every interruption `k` of the evaluation and whatever the server refuses in each operation:
    inclusion holds, and either no destination has moved, or the validation had passed and the queue commit of
    EVERY selected pull request, on EVERY version on which the queue shows that pull request, is on that version's
    destination. -/
theorem C02_validated_all_or_none (s : Sys) (hs : s.WF) (hincl : s.Incl) (hc : CascadeOK s) (sel : List Nat)
    (wgone : List (Dest × String)) (rej : Nat → Ref → Bool) (k : Nat) :
    InclOn (evalQueues s sel wgone).g (observableAt s (evalQueues s sel wgone) rej k) ∧
    (Unmoved s (observableAt s (evalQueues s sel wgone) rej k) ∨
      (validated s = true ∧ QVLanded s sel (observableAt s (evalQueues s sel wgone) rej k))) := by
  refine ⟨?_, ?_⟩
  · unfold observableAt
    apply applyOpsAt_incl rej _ 0
    · rw [(qv_evalQueues_spec hs hincl hc sel wgone).1]; exact hincl
    · intro op hop
      exact qv_evalQueues_safe hs hincl hc sel wgone op (List.mem_of_mem_take hop)
  · rcases (qv_evalQueues_oneShot hs hincl hc sel wgone).observable (evalQueues s sel wgone).g rej k s.remote
      with h | ⟨hv, hf⟩
    · exact Or.inl h
    · exact Or.inr ⟨hv, hf.landed⟩

/-- Recovery guard in queue mode. Take any well-formed state, any pull-request evaluation that reaches
    `add_to_queue` (`prepare` handed over the clone `l4` and the pushes `pushW` made so far), interrupt it after ANY
    number `k` of its operations with ANY refusals `rej i` in operation `i` - and let the NEXT queue evaluation run
    on what is left (any selection, itself interrupted anywhere, with any refusals). Then: no destination had
    moved in the interrupted job; the next evaluation does nothing when the validation reports an error; and in
    every case inclusion holds, and either no destination moves or the validation had passed and every selected
    pull request's queue commits are on their destinations. -/
theorem C02_validated_or_nothing (s : Sys) (hs : s.WF) (hincl : s.Incl) (hc : CascadeOK s) (pr : PrInfo)
    (sc dc : Commit) (hsc : s.remote.get (.other pr.src) = some sc) (orc : List Bool) (l4 : Loc) (pushW : List Op)
    (hp : prepare s pr sc dc orc = .inr (l4, pushW)) (rej : Nat → Ref → Bool) (k : Nat)
    (sel : List Nat) (wgone : List (Dest × String)) (rej' : Nat → Ref → Bool) (k' : Nat) :
    Unmoved s (crashState s (enqueue s l4 pr (s.targets pr.dst) pushW) rej k).remote ∧
    (validated (crashState s (enqueue s l4 pr (s.targets pr.dst) pushW) rej k) = false →
      (evalQueues (crashState s (enqueue s l4 pr (s.targets pr.dst) pushW) rej k) sel wgone).ops = []) ∧
    InclOn (evalQueues (crashState s (enqueue s l4 pr (s.targets pr.dst) pushW) rej k) sel wgone).g
      (observableAt (crashState s (enqueue s l4 pr (s.targets pr.dst) pushW) rej k)
        (evalQueues (crashState s (enqueue s l4 pr (s.targets pr.dst) pushW) rej k) sel wgone) rej' k') ∧
    (Unmoved s (observableAt (crashState s (enqueue s l4 pr (s.targets pr.dst) pushW) rej k)
        (evalQueues (crashState s (enqueue s l4 pr (s.targets pr.dst) pushW) rej k) sel wgone) rej' k') ∨
     (validated (crashState s (enqueue s l4 pr (s.targets pr.dst) pushW) rej k) = true ∧
      QVLanded (crashState s (enqueue s l4 pr (s.targets pr.dst) pushW) rej k) sel
        (observableAt (crashState s (enqueue s l4 pr (s.targets pr.dst) pushW) rej k)
          (evalQueues (crashState s (enqueue s l4 pr (s.targets pr.dst) pushW) rej k) sel wgone) rej' k'))) := by
  obtain ⟨hwf, hi, hcs, hdest⟩ := qv_enqueue_crash_state hs hincl hc pr hsc orc hp (s.targets pr.dst) rej k
  generalize crashState s (enqueue s l4 pr (s.targets pr.dst) pushW) rej k = s' at hwf hi hcs hdest
  obtain ⟨h1, h2⟩ := C02_validated_all_or_none s' hwf hi hcs sel wgone rej' k'
  refine ⟨hdest, (qv_evalQueues_spec hwf hi hcs sel wgone).2.2, h1, ?_⟩
  rcases h2 with h | h
  · exact Or.inl (fun d => (h d).trans (hdest d))
  · exact Or.inr h

/-- Non-vacuity and a limit of the guard. Pull request 1 (`feature/x`, commit 3) on development/4.3 (1) with
    development/5.1 (2): `add_to_queue` pushes `q/4.3 q/5.1 q/w/1/4.3/… q/w/1/5.1/…` in ONE non-atomic push. When the
    server refuses BOTH `q/4.3` and `q/w/1/4.3/feature/x` in that push (the property text speaks of any SINGLE
    branch), what is left looks like a pull request that targets development/5.1 only: the validation passes and
    the next evaluation merges it - inclusion holds, the queue commit shown is landed, but the change is then on
    development/5.1 and not on development/4.3 until the pull request is evaluated again (`close_queued_pull_request`
    sees the partial merge and wakes it up). `validate()` cannot see a target on which nothing at all was written. -/
def qvPr : PrInfo := ⟨1, "feature/x", .dev 4 (some 3), false⟩
def qvS : Sys := ⟨⟨[[0], [0, 1], [0, 1, 2], [0, 1, 3]]⟩,
   [(.dest (.dev 4 (some 3)), 1), (.dest (.dev 5 (some 1)), 2), (.other "feature/x", 3)],
   [(4, some 3), (5, some 1)], [], [], true, false⟩
def qvRej : Nat → Ref → Bool :=
  fun i r => i == 3 && (r == .q (.dev 4 (some 3)) || r == .qw 1 (.dev 4 (some 3)) "feature/x")
def qvAfter : Sys := crashState qvS (planPr qvS qvPr .final [] []) qvRej 4

theorem C02_validated_double_refusal_counterexample :
    (planPr qvS qvPr .final [] []).outcome = "Queued" ∧ (planPr qvS qvPr .final [] []).ops.length = 4 ∧
    validated qvAfter = true ∧
    (observableAt qvAfter (evalQueues qvAfter [1] []) (fun _ => noRej) 1).get (.dest (.dev 5 (some 1))) = some 4 ∧
    (observableAt qvAfter (evalQueues qvAfter [1] []) (fun _ => noRej) 1).get (.dest (.dev 4 (some 3))) = some 1 ∧
    qvAfter.g.le 3 4 = true ∧ qvAfter.g.le 3 1 = false := by decide +kernel

/-- with a single refused ref of that push (each of the four in turn) the validation fails -/
example : ∀ r ∈ [Ref.q (.dev 4 (some 3)), .q (.dev 5 (some 1)), .qw 1 (.dev 4 (some 3)) "feature/x",
      .qw 1 (.dev 5 (some 1)) "feature/x"],
    validated (crashState qvS (planPr qvS qvPr .final [] []) (fun i x => i == 3 && x == r) 4) = false := by decide +kernel

end BertE.C02

namespace BertE.C02
open BertE.Git BertE.Flow BertE.C01

/-- Recovery of a direct merge with queues enabled (`skip_queue_when_not_needed`: the pull request is not
    queued and `is_needed` answers no - this is what `hU`, an evaluation that ends with an atomic pruning push,
    means when the pull request is not queued, see `C02_skipqueue_means`). The plan is: push of the integration
    branches (not atomic), deletion of every q/ branch (one operation each), ONE atomic pruning push. The job dies
    anywhere before that push (`k < number of operations`), the server having refused any refs in the operations
    attempted (so: any subset of the integration branches pushed, any subset of the q/ branches deleted); the same
    event is delivered to a fresh Bert-E on the interrupted state, git's content merges answer anything (`orc'`),
    and this second run reaches its publishing push (`hR`; this is the hypothesis that excludes the recorded
    finding `recovery/history-mismatch-after-partial-w-push`, where a gate - an input of the model - stops every
    re-delivery). Then every target ends with the same content as in the uninterrupted run.
    The statement does not use `huq`/`hsk`: it holds in every mode and contains `C02_recovery_direct_partial`. -/
theorem C02_recovery_skipqueue (s : Sys) (hs : s.WF) (_huq : s.useQueue = true) (_hsk : s.skipQueue = true)
    (pr : PrInfo) (hnaq : alreadyQueued s pr = false)
    (orc : List Bool) (sel : List Nat) (sc : Commit) (hsc : s.remote.get (.other pr.src) = some sc)
    (locU : RefMap) (hU : (planPr s pr .final orc sel).ops.getLast? = some (.pushAll locU true))
    (rej : Nat → Ref → Bool) (k : Nat) (hk : k < (planPr s pr .final orc sel).ops.length)
    (orc' : List Bool) (sel' : List Nat) (locR : RefMap)
    (hR : (planPr (interrupted s (planPr s pr .final orc sel) rej k) pr .final orc' sel').ops.getLast? =
      some (.pushAll locR true)) :
    ∀ d ∈ s.targets pr.dst,
      SameContent s.g.size (planPr s pr .final orc sel).g locU
        (planPr (interrupted s (planPr s pr .final orc sel) rej k) pr .final orc' sel').g locR d :=
  rec_direct_recovery hs pr hnaq orc sel hsc hU rej hk orc' sel' hR

/-- with queues enabled, an evaluation of a pull request that is not queued and ends with an atomic pruning push is
    the skipped-queue direct merge: `skip_queue_when_not_needed` is on and nothing is queued; its operations are
    the push of the integration branches, the deletion of the q/ branches of the snapshot, the publishing push -/
theorem C02_skipqueue_means (s : Sys) (hs : s.WF) (huq : s.useQueue = true) (pr : PrInfo)
    (hnaq : alreadyQueued s pr = false) (orc : List Bool) (sel : List Nat) (sc : Commit)
    (hsc : s.remote.get (.other pr.src) = some sc) (loc : RefMap)
    (hU : (planPr s pr .final orc sel).ops.getLast? = some (.pushAll loc true)) :
    s.skipQueue = true ∧ s.queue = [] ∧
    ∃ (l4 : Loc) (qs : List Ref), (∀ r ∈ qs, ∃ d, r = Ref.q d) ∧
      (planPr s pr .final orc sel).ops =
        pushWOps l4 pr ((s.targets pr.dst).drop 1) ++ qs.map Op.delete ++ [Op.pushAll loc true] := by
  obtain ⟨h1, h2⟩ := rec_direct_needs_skip huq pr hnaq orc sel hU
  obtain ⟨l4, qs, hr⟩ := rec_planPr_run hs pr hnaq orc sel hsc hU
  exact ⟨h1, h2, l4, qs, hr.qonly, hr.ops⟩

/-- non-vacuity of `C02_recovery_skipqueue`: `RecDemo.k4` (queues on, skipping on, q/4.3 and q/5.1 left behind by an
    earlier queue merge, `feature/x` up to date with development/4.3). The plan has four operations; the job dies
    after three of them, the server having refused the deletion of q/5.1: w/5.1/feature/x is pushed, q/4.3 is
    deleted, q/5.1 still there, no destination moved. The event delivered again ends with its publishing push;
    both targets contain the same commits of the snapshot (0..7) as in the uninterrupted run. -/
example :
    let s := RecDemo.k4
    let pr := RecDemo.prX
    let p := planPr s pr .final [] []
    let rej : Nat → Ref → Bool := fun i r => i == 2 && r == .q RecDemo.d51     -- q/4.3 is deleted first (cascade order)
    let s' := interrupted s p rej 3
    let p' := planPr s' pr .final [] []
    s.WF ∧ s.useQueue = true ∧ s.skipQueue = true ∧ alreadyQueued s pr = false ∧
    s.remote.get (.other pr.src) = some 7 ∧
    p.ops.map Op.atomic = [false, false, false, true] ∧ 3 < p.ops.length ∧
    p.ops.getLast?.map Op.atomic = some true ∧ p'.ops.getLast?.map Op.atomic = some true ∧
    s'.remote.get (.w RecDemo.d51 "feature/x") = some 8 ∧ s'.remote.get (.q RecDemo.d43) = none ∧
    s'.remote.get (.q RecDemo.d51) = some 6 ∧ s'.remote.get (.dest RecDemo.d51) = some 6 ∧
    (applyOps p.g noRej s.remote p.ops).get (.dest RecDemo.d51) = some 8 ∧
    (applyOps p'.g noRej s'.remote p'.ops).get (.dest RecDemo.d51) = some 8 ∧
    (applyOps p'.g noRej s'.remote p'.ops).get (.q RecDemo.d51) = none :=
  ⟨RecDemo.k4_WF, by decide +kernel⟩

/-- Recovery of a queue merge (`handle_merge_queues`: commit event on a queue tip, force merge, evaluation
    of a pull request that is already queued). The plan is ONE atomic pruning push (or nothing). Interrupted at any
    prefix, anything refused by the server:
    * either the push went through: the remote IS what the uninterrupted job leaves (every destination moved, the
      merged q/w/ and w/ refs pruned) - nothing to recover, and the event delivered again (same selection, the
      merged pull requests having left the queue) plans nothing;
    * or nothing at all happened: the remote is the snapshot (no destination moved, every q/ and q/w/ ref in
      place), the interrupted state IS the state before, the evaluation delivered again with the same selection
      has the same plan and, uninterrupted, leaves the same remote as the uninterrupted run. -/
theorem C02_recovery_queue_merge (s : Sys) (sel : List Nat) (rej : Nat → Ref → Bool) (k : Nat) :
    let p := planQueues s sel
    let s' := interrupted s p rej k
    let U := applyOps p.g noRej s.remote p.ops
    (s'.remote = U ∧ (planQueues { s' with queue := p.queue } sel).ops = []) ∨
    (s'.remote = s.remote ∧ s' = s ∧ planQueues s' sel = p ∧
      applyOps (planQueues s' sel).g noRej s'.remote (planQueues s' sel).ops = U) := by
  intro p s' U
  rcases rec_single_observable (s := s) (rec_planQueues_single s sel) rej k with h | h
  · right
    have hself : s' = s := rec_interrupted_self (planQueues_g s sel) h
    refine ⟨h, hself, by rw [hself], by rw [hself]⟩
  · left
    exact ⟨h, rec_planQueues_again s sel _ _⟩

/-- non-vacuity of `C02_recovery_queue_merge`: `RecDemo.q4` (two pull requests queued on development/4.3 and 5.1),
    the merge of the first one. Refusing development/5.1 in the push leaves the remote untouched (second
    alternative); without refusal both destinations are on the queue commits of pull request 1, its q/w/ refs are
    gone, pull request 2 is still queued (first alternative). -/
example :
    let s := RecDemo.q4
    let p := planQueues s [1]
    let refused := interrupted s p (fun _ r => r == .dest RecDemo.d51) 1
    let landed := interrupted s p (fun _ _ => false) 1
    s.queue.map (·.pr) = [1, 2] ∧ p.ops.map Op.atomic = [true] ∧
    refused.remote = s.remote ∧ landed.remote ≠ s.remote ∧
    landed.remote.get (.dest RecDemo.d43) = s.remote.get (.qw 1 RecDemo.d43 "feature/y") ∧
    landed.remote.get (.dest RecDemo.d51) = s.remote.get (.qw 1 RecDemo.d51 "feature/y") ∧
    landed.remote.get (.qw 1 RecDemo.d43 "feature/y") = none ∧
    (landed.remote.get (.qw 2 RecDemo.d43 "feature/x")).isSome = true ∧ p.queue.map (·.pr) = [2] := by decide +kernel

/-- Recovery of the clean-up jobs (declined pull request, `reset` / `force_reset`, rebuild / delete
    queues). The plan is ONE atomic pruning push (or nothing). Interrupted at any prefix, anything refused:
    * either the push went through: the remote IS what the uninterrupted job leaves, and the event delivered
      again changes nothing (it plans nothing, or a push of exactly what the remote has);
    * or the job was not applied at all: the interrupted state IS the state before, the event delivered again
      has the same plan and, uninterrupted, leaves the same remote as the uninterrupted run. -/
theorem C02_recovery_cleanup (s : Sys) (ev : Event)
    (hev : (∃ pr cd, ev = .evalDeclined pr cd) ∨ (∃ pr, ev = .reset pr) ∨ ev = .dropQueues)
    (rej : Nat → Ref → Bool) (k : Nat) :
    let p := plan s ev
    let s' := interrupted s p rej k
    let U := applyOps p.g noRej s.remote p.ops
    (s'.remote = U ∧
      applyOps (plan { s' with queue := p.queue } ev).g noRej s'.remote (plan { s' with queue := p.queue } ev).ops = U) ∨
    (s'.remote = s.remote ∧ s' = s ∧ plan s' ev = p ∧
      applyOps (plan s' ev).g noRej s'.remote (plan s' ev).ops = U) := by
  intro p s' U
  obtain ⟨hsingle, hg⟩ := rec_cleanup_single s ev hev
  rcases rec_single_observable (s := s) hsingle rej k with h | h
  · right
    have hself : s' = s := rec_interrupted_self hg h
    refine ⟨h, hself, by rw [hself], by rw [hself]⟩
  · left
    refine ⟨h, ?_⟩
    have hs' : ({ s' with queue := p.queue } : Sys) = { s with remote := rec_done s (plan s ev), queue := p.queue } := by
      show ({ interrupted s p rej k with queue := p.queue } : Sys) = _
      unfold interrupted
      rw [h, hg]
    have hr : s'.remote = rec_done s (plan s ev) := h
    rw [hs', hr]
    exact rec_cleanup_again s ev hev p.queue

/-- non-vacuity of `C02_recovery_cleanup`: on `RecDemo.q4` the rebuild-queues job is one atomic push that removes
    the six q/ and q/w/ refs; refused on one of them it removes none (the state is the one before); delivered again
    after it went through it plans nothing. A `reset` of pull request 1 is one atomic push removing w/5.1/feature/y. -/
example :
    let s := RecDemo.q4
    let p := plan s .dropQueues
    let refused := interrupted s p (fun _ r => r == .q RecDemo.d51) 1
    let landed := interrupted s p (fun _ _ => false) 1
    p.ops.map Op.atomic = [true] ∧ (allQRefs s.remote).length = 6 ∧ refused.remote = s.remote ∧
    allQRefs landed.remote = [] ∧ (plan { landed with queue := p.queue } .dropQueues).ops = [] ∧
    (plan s (.reset ⟨1, "feature/y", RecDemo.d43, false⟩)).ops.map Op.atomic = [true] ∧
    (s.remote.get (.w RecDemo.d51 "feature/y")).isSome = true ∧
    (applyOps s.g noRej s.remote (plan s (.reset ⟨1, "feature/y", RecDemo.d43, false⟩)).ops).get (.w RecDemo.d51 "feature/y") = none := by
  decide +kernel

/-! ### crash / refusals inside `add_to_queue`

Full statement (NOT proved in this generality): for every queue-mode evaluation that answers Queued, every
interruption `k` and every refusal `rej` of its operations (push of the integration branches, one push per queue
branch created, ONE non-atomic push of the q/ branches and of the q/w/ refs of the pull request), re-delivery to a
fresh Bert-E - which either finds the pull request queued and the queues coherent, or answers QueueOutOfOrder /
IncoherentQueues, after which the rebuild-queues job drops every q/ and q/w/ ref and re-submits the previously
queued pull requests, and the event is delivered again - followed by the merge of the whole queue, ends with the
same content on every destination branch as the uninterrupted run followed by the merge of the whole queue.

What is proved (`_partial`):
* `C02_recovery_enqueue_queued` - case (a): the pull request is found queued as the uninterrupted run queued it
  (every q/w/ ref as in the uninterrupted remote): every queue merge offers the same destination tips.
* `C02_recovery_enqueue_partial` - case (b): the evaluation delivered again on a state `sR` that is `rec_Rebuilt`
  (same destinations, source and cascade as the snapshot; integration branches as the interrupted job left them -
  any subset pushed; pull request not queued; rebuilt queue branches with the CONTENT of the old ones) answers
  Queued with queue commits that have the content of the uninterrupted ones, hence the merge of a selection that
  contains the pull request ends with the same content on each of its targets.
* `C02_recovery_enqueue_first_partial` - case (b) when nothing else is queued on the targets: `rec_Rebuilt` is then
  established by the rebuild-queues job alone, and the whole recovery is model code.
Hypotheses beyond the property text: (1) the model of the validation that answers QueueOutOfOrder (`QV`) is not
used in these three: WHICH of (a) / (b) the fresh Bert-E takes is decided in `C02_recovery_enqueue` below; (2) the re-delivered evaluation
gets through its gates and merges again (`hR`: inputs of the model; the recorded finding
`recovery/history-mismatch-after-partial-w-push` is a case where a gate does not); (3) for a non-empty queue, that
the re-submitted pull requests rebuild queue branches of the same content is the hypothesis `rec_Rebuilt.q` (true
when nobody pushed to their source or integration branches since they were queued; not proved). -/

/-- Recovery of `add_to_queue`, the pull request found queued (case (a)). When, in the interrupted state,
    every q/w/ ref is what the uninterrupted job leaves (the job died after its last push, or the server only
    refused integration or queue branches), then - the queue bookkeeping being that of the uninterrupted job - every
    queue merge plans nothing in both states or offers the same tip for every destination branch. -/
theorem C02_recovery_enqueue_queued (s : Sys) (hs : s.WF) (hqt : rec_QTip s.g s.remote) (pr : PrInfo)
    (hnaq : alreadyQueued s pr = false) (orc : List Bool) (sel : List Nat) (sc : Commit)
    (hsc : s.remote.get (.other pr.src) = some sc) (hU : (planPr s pr .final orc sel).outcome = "Queued")
    (rej : Nat → Ref → Bool) (k : Nat)
    (hall : ∀ i d n, (observableAt s (planPr s pr .final orc sel) rej k).get (.qw i d n) =
      (s.after (planPr s pr .final orc sel)).remote.get (.qw i d n)) (selQ : List Nat) :
    let SU := s.after (planPr s pr .final orc sel)
    let S' : Sys := { interrupted s (planPr s pr .final orc sel) rej k with queue := (planPr s pr .final orc sel).queue }
    ((planQueues SU selQ).ops = [] ∧ (planQueues S' selQ).ops = []) ∨
    ∃ loc loc', (planQueues SU selQ).ops = [Op.pushAll loc true] ∧ (planQueues S' selQ).ops = [Op.pushAll loc' true] ∧
      ∀ d, loc.get (.dest d) = loc'.get (.dest d) := by
  intro SU S'
  obtain ⟨l4, l8, hrU⟩ := rec_planPr_qrun hs hqt pr hnaq orc sel hsc hU
  apply rec_planQueues_congr SU S' rfl
  refine ⟨fun d => ?_, fun i d n => (hall i d n).symm⟩
  show SU.remote.get _ = (observableAt s (planPr s pr .final orc sel) rej k).get _
  rw [rec_after_observable, rec_interruptedQ_dest hrU, rec_interruptedQ_dest hrU]

/-- Recovery of `add_to_queue` after the queue reset (case (b); partial, see above). The evaluation that
    should have queued the pull request is interrupted anywhere, anything refused; the queues are reset and rebuilt
    (`sR`, `rec_Rebuilt`); the event is delivered again, git's content merges answer anything, and this run answers
    Queued (`hR`). Then the merge of any selection that contains the pull request, in the uninterrupted run and in
    the recovered run, ends with the same content on every target of the pull request. -/
theorem C02_recovery_enqueue_partial (s : Sys) (hs : s.WF) (hqt : rec_QTip s.g s.remote) (huq : s.useQueue = true)
    (pr : PrInfo) (hnaq : alreadyQueued s pr = false) (orc : List Bool) (sel : List Nat) (sc : Commit)
    (hsc : s.remote.get (.other pr.src) = some sc) (hU : (planPr s pr .final orc sel).outcome = "Queued")
    (rej : Nat → Ref → Bool) (k : Nat) (sR : Sys)
    (hreb : rec_Rebuilt s pr (interrupted s (planPr s pr .final orc sel) rej k) sR)
    (orc' : List Bool) (sel' : List Nat) (hR : (planPr sR pr .final orc' sel').outcome = "Queued")
    (selU selR : List Nat) (hselU : selU.contains pr.id = true) (hselR : selR.contains pr.id = true) :
    ∃ locU locR,
      (planQueues (s.after (planPr s pr .final orc sel)) selU).ops = [Op.pushAll locU true] ∧
      (planQueues (sR.after (planPr sR pr .final orc' sel')) selR).ops = [Op.pushAll locR true] ∧
      ∀ d ∈ s.targets pr.dst,
        SameContent s.g.size (planPr s pr .final orc sel).g locU (planPr sR pr .final orc' sel').g locR d := by
  obtain ⟨l4, l8, l4R, l8R, hrU, hrR, hcont⟩ :=
    rec_enqueue_recovery hs hqt pr hnaq orc sel hsc hU rej k hreb orc' sel' hR
  have hT : sR.targets pr.dst = s.targets pr.dst := rec_targets_devs hreb.devs pr.dst
  obtain ⟨locU, hopsU, hlocU⟩ := rec_merge_newest hs hrU (close_rec_fresh huq hnaq) selU hselU
  obtain ⟨locR, hopsR, hlocR⟩ := rec_merge_newest hreb.wf hrR (hT.symm ▸ hreb.qwfresh) selR hselR
  refine ⟨locU, locR, hopsU, hopsR, fun d hd => ?_⟩
  obtain ⟨nU, nR, hnU, hnR, hc⟩ := hcont d hd
  refine ⟨nU, nR, (hlocU d hd).trans hnU, (hlocR d (hT.symm ▸ hd)).trans hnR, fun a ha => ?_⟩
  rw [hrU.pg, hrR.pg]
  exact hc a ha

/-- Recovery of `add_to_queue` when nothing else is queued (case (b), the reset included; partial, see
    above). `rec_QEmpty`: every queue branch of a target has the content of its destination branch. The evaluation
    that should have queued the pull request is interrupted anywhere, anything refused; the rebuild-queues job runs
    (`step _ .dropQueues`: every q/ and q/w/ ref goes); the event is delivered again and answers Queued. Then the
    merge of the queue ends, on every target, with the same content as the uninterrupted run followed by the merge. -/
theorem C02_recovery_enqueue_first_partial (s : Sys) (hs : s.WF) (hqt : rec_QTip s.g s.remote) (huq : s.useQueue = true)
    (pr : PrInfo) (hnaq : alreadyQueued s pr = false) (orc : List Bool) (sel : List Nat) (sc : Commit)
    (hsc : s.remote.get (.other pr.src) = some sc) (hU : (planPr s pr .final orc sel).outcome = "Queued")
    (hempty : rec_QEmpty s pr) (rej : Nat → Ref → Bool) (k : Nat)
    (orc' : List Bool) (sel' : List Nat)
    (hR : (planPr (step (interrupted s (planPr s pr .final orc sel) rej k) .dropQueues).1 pr .final orc' sel').outcome
      = "Queued")
    (selU selR : List Nat) (hselU : selU.contains pr.id = true) (hselR : selR.contains pr.id = true) :
    let sR := (step (interrupted s (planPr s pr .final orc sel) rej k) .dropQueues).1
    ∃ locU locR,
      (planQueues (s.after (planPr s pr .final orc sel)) selU).ops = [Op.pushAll locU true] ∧
      (planQueues (sR.after (planPr sR pr .final orc' sel')) selR).ops = [Op.pushAll locR true] ∧
      ∀ d ∈ s.targets pr.dst,
        SameContent s.g.size (planPr s pr .final orc sel).g locU (planPr sR pr .final orc' sel').g locR d := by
  intro sR
  have hsR : sR = rec_dropped (interrupted s (planPr s pr .final orc sel) rej k) := rec_dropped_is_step _
  have hreb := rec_rebuilt_first hs hqt pr hnaq orc sel hsc hU hempty rej k
  rw [← hsR] at hreb
  exact C02_recovery_enqueue_partial s hs hqt huq pr hnaq orc sel sc hsc hU rej k sR hreb orc' sel' hR
    selU selR hselU hselR

/-- non-vacuity of the three theorems on `add_to_queue`: `RecDemo.q2` (queue mode, nothing queued, no queue branch
    yet), pull request 1 = `feature/y` on development/4.3 and 5.1. Its evaluation answers Queued with four
    operations (push of w/5.1/feature/y, creation of q/4.3 and of q/5.1, the final non-atomic push). The server
    refuses q/w/1/5.1/feature/y in the final push: q/4.3, q/5.1 and q/w/1/4.3/feature/y are written, the queue is
    incoherent. The rebuild-queues job drops the three refs; the evaluation delivered again answers Queued with new
    queue commits (8, 9 instead of 6, 7); the merge of the queue moves both targets to them; they contain the same
    commits of the snapshot (0..4) as the uninterrupted ones. With nothing refused the interrupted remote is the
    uninterrupted one (hypothesis of `C02_recovery_enqueue_queued`). -/
example :
    let s := RecDemo.q2
    let pr := RecDemo.prY
    let p := planPr s pr .final [] []
    let rej : Nat → Ref → Bool := fun i r => i == 3 && r == .qw 1 RecDemo.d51 "feature/y"
    let s' := interrupted s p rej 4
    let sR := (step s' .dropQueues).1
    let pR := planPr sR pr .final [] []
    s.WF ∧ rec_QTip s.g s.remote ∧ rec_QEmpty s pr ∧ s.useQueue = true ∧ alreadyQueued s pr = false ∧
    s.remote.get (.other pr.src) = some 3 ∧ p.outcome = "Queued" ∧ p.ops.length = 4 ∧ pR.outcome = "Queued" ∧
    (s'.remote.get (.qw 1 RecDemo.d43 "feature/y") = some 6 ∧ s'.remote.get (.qw 1 RecDemo.d51 "feature/y") = none ∧
      s'.remote.get (.q RecDemo.d51) = some 7) ∧
    allQRefs sR.remote = [] ∧
    (applyOps (s.after p).g noRej (s.after p).remote (planQueues (s.after p) [1]).ops).get (.dest RecDemo.d51) = some 7 ∧
    (applyOps (sR.after pR).g noRej (sR.after pR).remote (planQueues (sR.after pR) [1]).ops).get (.dest RecDemo.d51) = some 9 ∧
    [0, 1, 2, 3, 4].all (fun a => pR.g.le a 9 == p.g.le a 7) = true ∧
    (observableAt s p (fun _ _ => false) 4 = (s.after p).remote) :=
  ⟨RecDemo.q2_WF, RecDemo.q2_QTip, RecDemo.q2_QEmpty, by decide +kernel⟩

end BertE.C02

/-! ## WHICH path the fresh Bert-E takes after a crash inside `add_to_queue`

`C02_recovery_enqueue_queued` / `_partial` / `_first_partial` above ASSUME the path of the evaluation delivered again
(found queued / QueueOutOfOrder and reset / re-enqueue). Here the path is COMPUTED by the model of `validate()`
(`QV.planPrV`) on the interrupted state `crashState s p rej k`, for every crash point `k` and every single refusal:
`alreadyQueued` of the crash state is a closed formula in `k` and `rej` (`close_rec_alreadyQueued`), and the three
cases are told apart by `alreadyQueued`, `validated` (crash state) and `close_rec_outOfOrder` (the `validate()` of the
clone of the evaluation delivered again, after its update of the integration branches - what the code runs before
`add_to_queue`).

Full statement that is NOT proved (what would turn the Boolean `validated (crash state)` into a function of `k` and
`rej` as well): "a final push of which some but not all refs landed never validates" - i.e. under `close_rec_Single`,
`alreadyQueued s' pr = true ∧ validated s' = true` implies that no `q/w/` ref of the pull request was refused. The
model of `validate()` gives this on every concrete state tried (the `example` after
`C02_validated_double_refusal_counterexample`, the examples below); a general proof needs an exact description of
`QV.build` on a remote with one more / one fewer ref, which `HOK` / `Validated` (soundness only) do not provide. The
case is therefore kept inside (a) with the conclusion that holds for it (the queue evaluation is guarded: nothing, or
one atomic push that keeps inclusion), and the connection to `C02_recovery_enqueue_queued` is stated under the
decidable condition `∀ d, rej (last) (q/w/<pr>/d/<src>) = false`. -/
namespace BertE.C02
open BertE.Git BertE.Flow BertE.C01 BertE.QV

theorem C02_recovery_enqueue_cases (s' : Sys) (pr : PrInfo) (orc' : List Bool) :
    let A := alreadyQueued s' pr = true ∧ validated s' = true
    let B := (alreadyQueued s' pr = true ∧ validated s' = false) ∨
             (alreadyQueued s' pr = false ∧ close_rec_outOfOrder s' pr orc' = true)
    let C := alreadyQueued s' pr = false ∧ close_rec_outOfOrder s' pr orc' = false
    (A ∨ B ∨ C) ∧ ¬ (A ∧ B) ∧ ¬ (A ∧ C) ∧ ¬ (B ∧ C) := by
  intro A B C
  simp only [A, B, C]
  cases alreadyQueued s' pr <;> cases validated s' <;> cases close_rec_outOfOrder s' pr orc' <;> simp

/-- the server refuses `q/w/1/5.1/feature/x` in the final push of `add_to_queue` on `qvS` (operation 3) -/
def close_rec_rejQW : Nat → Ref → Bool := fun i r => i == 3 && r == .qw 1 (.dev 5 (some 1)) "feature/x"
/-- a pull request with ONE target (development/5.1) on `qvS`; `add_to_queue` has two operations (creation of q/5.1,
    the final push of q/5.1 and q/w/2/5.1/feature/x) -/
def close_rec_pr1 : PrInfo := ⟨2, "feature/x", .dev 5 (some 1), false⟩
def close_rec_rejQW1 : Nat → Ref → Bool := fun i r => i == 1 && r == .qw 2 (.dev 5 (some 1)) "feature/x"

theorem close_rec_qvS_WF : qvS.WF := rec_wf_check (by decide +kernel)

/-- each of the three cases occurs (non-vacuity of `C02_recovery_enqueue_cases`): on `qvS`, `add_to_queue` of pull
    request 1 has four operations (push of w/5.1/feature/x, creation of q/4.3, creation of q/5.1, the final push).
    All four executed, nothing refused: (a). All four, `q/w/1/5.1/…` refused: (b), found queued. Died after TWO
    operations (q/4.3 created, q/5.1 not), nothing refused: (b), not found queued. Died after three: (c). -/
example :
    let p := planPr qvS qvPr .final [] []
    let a := crashState qvS p (fun _ _ => false) 4
    let b1 := crashState qvS p close_rec_rejQW 4
    let b2 := crashState qvS p (fun _ _ => false) 2
    let c := crashState qvS p (fun _ _ => false) 3
    (alreadyQueued a qvPr = true ∧ validated a = true) ∧
    (alreadyQueued b1 qvPr = true ∧ validated b1 = false) ∧
    (alreadyQueued b2 qvPr = false ∧ close_rec_outOfOrder b2 qvPr [] = true) ∧
    (alreadyQueued c qvPr = false ∧ close_rec_outOfOrder c qvPr [] = false) := by decide +kernel

/-- Recovery of `add_to_queue`: the path of the evaluation delivered again, decided. A queue-mode
    evaluation that answers Queued (`hU`; the pull request not queued before, `hnaq`) is interrupted after ANY number
    `k` of its operations, the server refusing at most one ref in one operation (`close_rec_Single`). `s'` is what is
    left, `pV` the evaluation of the same pull request by a fresh Bert-E on it (through the gates: stage `.final`;
    any content-merge answers `orc'`, any queue selection `sel'`). Then:
    * `s'` is well formed, keeps inclusion and the cascade, no destination has moved;
    * `already_in_queue` of `s'` is COMPUTED: the final push was executed and at least one `q/w/` ref accepted;
    * when the job died before its final push, `s'` is itself `rec_Rebuilt`: the pull request is not queued, the queue
      branches have the content they had (a freshly created one sits on the tip of its destination branch);
    * exactly one (`C02_recovery_enqueue_cases`) of
      (a) found queued, `validate()` passes: `pV` IS the guarded queue evaluation - nothing, or ONE atomic push that
          keeps inclusion and lands the selected queue commits; when no `q/w/` ref of the pull request was refused,
          the queue is the uninterrupted one (`C02_recovery_enqueue_queued`'s conclusion for every selection);
      (b) `validate()` fails - found queued: `pV` does nothing (IncoherentQueues); not found queued: `pV` answers
          QueueOutOfOrder having pushed only integration branches. Either way, interrupted anywhere with any
          refusals, `pV` moves no destination and changes no ref other than `w/<version>/<src>` of this pull request:
          the repository waits for the queue reset (`C02_recovery_enqueue_partial`, `_first_partial`);
      (c) not found queued, the guard passes (or is not reached): `pV` IS the unguarded `planPr` on `s'` - the pull
          request is evaluated afresh. This happens when the job died before its final push - then `s'` is itself
          `rec_Rebuilt` (queue as before, new queue branches on their destination tips) and, when `pV` answers
          Queued (`hR`, in the conclusion), the merge of the queue ends with the same content on every target as the
          uninterrupted run - or, final push executed, when the pull request has ONE target whose `q/w/` ref was the
          refused ref. -/
theorem C02_recovery_enqueue (s : Sys) (hs : s.WF) (hincl : s.Incl) (hc : CascadeOK s)
    (hqt : rec_QTip s.g s.remote) (huq : s.useQueue = true)
    (pr : PrInfo) (hnaq : alreadyQueued s pr = false) (orc : List Bool) (sel : List Nat) (sc : Commit)
    (hsc : s.remote.get (.other pr.src) = some sc) (hU : (planPr s pr .final orc sel).outcome = "Queued")
    (rej : Nat → Ref → Bool) (hsingle : close_rec_Single rej) (k : Nat)
    (orc' : List Bool) (sel' : List Nat) (wgone : List (Dest × String)) :
    let p := planPr s pr .final orc sel
    let s' := crashState s p rej k
    let pV := planPrV s' pr .final orc' sel' wgone
    (s'.WF ∧ s'.Incl ∧ CascadeOK s' ∧ Unmoved s s'.remote) ∧
    alreadyQueued s' pr = (decide (p.ops.length ≤ k) &&
      (s.targets pr.dst).any (fun d => !rej (p.ops.length - 1) (.qw pr.id d pr.src))) ∧
    (k < p.ops.length → rec_Rebuilt s pr s' s') ∧
    ((alreadyQueued s' pr = true ∧ validated s' = true ∧ p.ops.length ≤ k ∧
        pV = evalQueues s' sel' wgone ∧
        (pV.ops = [] ∨ ∃ loc, pV.ops = [.pushAll loc true] ∧ EvalFinal s' sel' loc) ∧
        ((∀ d ∈ s.targets pr.dst, rej (p.ops.length - 1) (.qw pr.id d pr.src) = false) → ∀ selQ : List Nat,
          ((planQueues (s.after p) selQ).ops = [] ∧ (planQueues { s' with queue := p.queue } selQ).ops = []) ∨
          ∃ loc loc', (planQueues (s.after p) selQ).ops = [Op.pushAll loc true] ∧
            (planQueues { s' with queue := p.queue } selQ).ops = [Op.pushAll loc' true] ∧
            ∀ d, loc.get (.dest d) = loc'.get (.dest d))) ∨
     (((alreadyQueued s' pr = true ∧ validated s' = false ∧ pV.ops = []) ∨
       (alreadyQueued s' pr = false ∧ close_rec_outOfOrder s' pr orc' = true ∧
         pV.outcome = "QueueOutOfOrder" ∧ ∀ op ∈ pV.ops, op.Quiet)) ∧
      ∀ (rej' : Nat → Ref → Bool) (k' : Nat), Unmoved s (observableAt s' pV rej' k') ∧
        ∀ x, (∀ d, x ≠ .w d pr.src) → (observableAt s' pV rej' k').get x = s'.remote.get x) ∨
     (alreadyQueued s' pr = false ∧ close_rec_outOfOrder s' pr orc' = false ∧
       pV = planPr s' pr .final orc' [] ∧
       (k < p.ops.length ∨
         (s.targets pr.dst = [pr.dst] ∧ rej (p.ops.length - 1) (.qw pr.id pr.dst pr.src) = true)) ∧
       (k < p.ops.length →
         ((planPr s' pr .final orc' []).outcome = "Queued" → ∀ selU selR : List Nat,
           selU.contains pr.id = true → selR.contains pr.id = true →
           ∃ locU locR,
             (planQueues (s.after p) selU).ops = [Op.pushAll locU true] ∧
             (planQueues (s'.after (planPr s' pr .final orc' [])) selR).ops = [Op.pushAll locR true] ∧
             ∀ d ∈ s.targets pr.dst,
               SameContent s.g.size p.g locU (planPr s' pr .final orc' []).g locR d)))) := by
  intro p s' pV
  obtain ⟨l4, l8, hrU⟩ := rec_planPr_qrun hs hqt pr hnaq orc sel hsc hU
  obtain ⟨dc, l4e, pushW, hdc, hle, hprep, _, hpe⟩ := close_rec_planPr_enqueue pr hnaq orc sel hsc hU
  have hcrash := qv_enqueue_crash_state hs hincl hc pr hsc orc hprep (s.targets pr.dst) rej k
  rw [← hpe] at hcrash
  obtain ⟨hwf, hincl', hc', hdest⟩ := hcrash
  obtain ⟨hsrc', hdst', hle'⟩ := close_rec_gates hs hrU hsc hdc hle rej k
  have haq := close_rec_alreadyQueued hs huq hnaq hrU rej k
  refine ⟨⟨hwf, hincl', hc', hdest⟩, haq, fun hk => close_rec_rebuilt_self hs hqt huq hnaq hrU rej k hwf hk, ?_⟩
  cases haq' : alreadyQueued s' pr with
  | true =>
    have hpVq : pV = evalQueues s' sel' wgone :=
      close_rec_planPrV_queued hsrc' hdst' hle' haq' orc' sel' wgone
    have hk : p.ops.length ≤ k := close_rec_executed hs huq hnaq hrU haq'
    obtain ⟨_, hops, hnil⟩ := qv_evalQueues_spec hwf hincl' hc' sel' wgone
    cases hv : validated s' with
    | true =>
      left
      refine ⟨rfl, rfl, hk, hpVq, ?_, ?_⟩
      · rw [hpVq]
        exact hops.imp_right (fun ⟨_, loc, h, hf⟩ => ⟨loc, h, hf⟩)
      · intro hacc selQ
        exact C02_recovery_enqueue_queued s hs hqt pr hnaq orc sel sc hsc hU rej k
          (close_rec_hall hs huq hnaq hrU rej k hk hacc) selQ
    | false =>
      right; left
      have hnil' : pV.ops = [] := by rw [hpVq]; exact hnil hv
      refine ⟨Or.inl ⟨rfl, rfl, hnil'⟩, fun rej' k' => ?_⟩
      rw [observableAt_nil hnil']
      exact ⟨hdest, fun _ _ => rfl⟩
  | false =>
    rcases close_rec_planPrV_fresh hwf hsrc' hdst' hle' haq' orc' sel' wgone with ⟨hooo, l4', hpV⟩ | ⟨hooo, hpV⟩
    · right; left
      have hpV' : pV = ⟨l4'.g, pushWOps l4' pr ((s'.targets pr.dst).drop 1), "QueueOutOfOrder", s'.queue⟩ := hpV
      refine ⟨Or.inr ⟨rfl, hooo, by rw [hpV'], by rw [hpV']; exact pushWOps_quiet _ _ _⟩, fun rej' k' => ?_⟩
      rw [hpV']
      exact ⟨fun d => (close_rec_pushW_only _ _ _ _ _ _ _ (.dest d) (fun _ he => nomatch he)).trans (hdest d),
        fun x hx => close_rec_pushW_only _ _ _ _ _ _ _ _ hx⟩
    · right; right
      have hgeom : k < p.ops.length ∨
          (s.targets pr.dst = [pr.dst] ∧ rej (p.ops.length - 1) (.qw pr.id pr.dst pr.src) = true) :=
        (Nat.lt_or_ge k p.ops.length).imp_right fun hk => by
          have h := haq.symm.trans haq'
          rw [decide_eq_true hk, Bool.true_and] at h
          exact close_rec_single_target hs hsingle _ h
      refine ⟨rfl, hooo, hpV, hgeom, fun hk hR selU selR hselU hselR => ?_⟩
      exact C02_recovery_enqueue_partial s hs hqt huq pr hnaq orc sel sc hsc hU rej k s'
        (close_rec_rebuilt_self hs hqt huq hnaq hrU rej k hwf hk) orc' [] hR selU selR hselU hselR

/-- What case (a) leaves open, exactly. Under a single refusal, a pull request found queued in the interrupted
    state either has EVERY `q/w/` ref as the uninterrupted job writes it (then `C02_recovery_enqueue` (a) gives the
    uninterrupted queue), or exactly one of them - `d0` - was refused and is missing while all the others (at least
    one) are there. That `validate()` rejects every state of the second kind is what the model shows on each concrete
    state (`validated … = false` in the examples) and what is not proved in general. -/
theorem C02_recovery_enqueue_found_queued (s : Sys) (hs : s.WF) (hqt : rec_QTip s.g s.remote) (huq : s.useQueue = true)
    (pr : PrInfo) (hnaq : alreadyQueued s pr = false) (orc : List Bool) (sel : List Nat) (sc : Commit)
    (hsc : s.remote.get (.other pr.src) = some sc) (hU : (planPr s pr .final orc sel).outcome = "Queued")
    (rej : Nat → Ref → Bool) (hsingle : close_rec_Single rej) (k : Nat) :
    let p := planPr s pr .final orc sel
    let s' := crashState s p rej k
    alreadyQueued s' pr = true →
    (∀ i d n, s'.remote.get (.qw i d n) = (s.after p).remote.get (.qw i d n)) ∨
    (∃ d0 ∈ s.targets pr.dst, rej (p.ops.length - 1) (.qw pr.id d0 pr.src) = true ∧
      s'.remote.get (.qw pr.id d0 pr.src) = none ∧
      ∀ d ∈ s.targets pr.dst, d ≠ d0 → (s'.remote.get (.qw pr.id d pr.src)).isSome = true) := by
  intro p s' haq'
  obtain ⟨l4, l8, hrU⟩ := rec_planPr_qrun hs hqt pr hnaq orc sel hsc hU
  have hfresh := close_rec_fresh huq hnaq
  have hk : p.ops.length ≤ k := close_rec_executed hs huq hnaq hrU haq'
  by_cases hrej : ∃ d0 ∈ s.targets pr.dst, rej (p.ops.length - 1) (.qw pr.id d0 pr.src) = true
  · obtain ⟨d0, hd0, hr0⟩ := hrej
    refine Or.inr ⟨d0, hd0, hr0, ?_, fun d hd hne => ?_⟩
    · show (observableAt s p rej k).get _ = none
      rw [close_rec_qw_exact hs hrU hfresh rej k hd0, if_neg (by rw [hr0]; simp)]
    · -- the one refusal is that of `d0`
      have hrd : rej (p.ops.length - 1) (.qw pr.id d pr.src) = false :=
        Bool.eq_false_iff.mpr (fun hr => hne (Ref.qw.inj (hsingle _ _ _ _ hr hr0).2).2.1)
      obtain ⟨n, hn⟩ := close_rec_l8_qw hrU hd
      show ((observableAt s p rej k).get _).isSome = true
      rw [close_rec_qw_exact hs hrU hfresh rej k hd, if_pos ⟨hk, hrd⟩, hn]
      rfl
  · exact Or.inl (close_rec_hall hs huq hnaq hrU rej k hk
      (fun d hd => Bool.eq_false_iff.mpr (fun h => hrej ⟨d, hd, h⟩)))

/-- non-vacuity of `C02_recovery_enqueue_found_queued`: both alternatives on `qvS` (nothing refused: the four queue
    refs as in the uninterrupted run; `q/w/1/5.1/…` refused: it is missing, `q/w/1/4.3/…` is there, and `validate()`
    rejects the state) -/
example :
    let p := planPr qvS qvPr .final [] []
    let a := crashState qvS p (fun _ _ => false) 4
    let b := crashState qvS p close_rec_rejQW 4
    alreadyQueued a qvPr = true ∧ alreadyQueued b qvPr = true ∧
    a.remote.get (.qw 1 (.dev 5 (some 1)) "feature/x") = (qvS.after p).remote.get (.qw 1 (.dev 5 (some 1)) "feature/x") ∧
    close_rec_rejQW (p.ops.length - 1) (.qw 1 (.dev 5 (some 1)) "feature/x") = true ∧
    b.remote.get (.qw 1 (.dev 5 (some 1)) "feature/x") = none ∧
    (b.remote.get (.qw 1 (.dev 4 (some 3)) "feature/x")).isSome = true ∧ validated b = false := by decide +kernel

/-- non-vacuity of `C02_recovery_enqueue`: `qvS` and pull request 1 meet every hypothesis, and every disjunct is
    reached. (a) nothing refused, all four operations: found queued, validated, the evaluation delivered again merges
    the queue in one atomic push. (b) `q/w/1/5.1/feature/x` refused in the final push: found queued (q/w/1/4.3/… is
    there), `validate()` fails, IncoherentQueues, no operation. (b) the job died after creating q/4.3 and before
    creating q/5.1, NOTHING refused: not found queued, `validate()` of the clone fails (MasterQueueMissing for 5.1),
    QueueOutOfOrder. (c) the job died after creating both queue branches (on the destination tips 1 and 2): not found
    queued, the guard passes, the evaluation delivered again answers Queued. -/
example :
    let s := qvS
    let pr := qvPr
    let p := planPr s pr .final [] []
    (s.WF ∧ s.Incl ∧ CascadeOK s ∧ rec_QTip s.g s.remote ∧ s.useQueue = true ∧ alreadyQueued s pr = false ∧
      s.remote.get (.other pr.src) = some 3 ∧ p.outcome = "Queued" ∧ p.ops.length = 4 ∧
      close_rec_Single (fun _ _ => false) ∧ close_rec_Single close_rec_rejQW) ∧
    (let s' := crashState s p (fun _ _ => false) 4
     let pV := planPrV s' pr .final [] [1] []
     alreadyQueued s' pr = true ∧ validated s' = true ∧ pV.outcome = "Merged" ∧ pV.ops.map Op.atomic = [true]) ∧
    (let s' := crashState s p close_rec_rejQW 4
     let pV := planPrV s' pr .final [] [1] []
     alreadyQueued s' pr = true ∧ validated s' = false ∧ pV.outcome = "IncoherentQueues" ∧ pV.ops = []) ∧
    (let s' := crashState s p (fun _ _ => false) 2
     let pV := planPrV s' pr .final [] [1] []
     alreadyQueued s' pr = false ∧ close_rec_outOfOrder s' pr [] = true ∧ pV.outcome = "QueueOutOfOrder" ∧
       (s'.remote.get (.q (.dev 4 (some 3))), s'.remote.get (.q (.dev 5 (some 1)))) = (some 1, none)) ∧
    (let s' := crashState s p (fun _ _ => false) 3
     let pV := planPrV s' pr .final [] [1] []
     alreadyQueued s' pr = false ∧ close_rec_outOfOrder s' pr [] = false ∧ pV.outcome = "Queued" ∧
       (s'.remote.get (.q (.dev 4 (some 3))), s'.remote.get (.q (.dev 5 (some 1)))) = (some 1, some 2)) :=
  ⟨⟨close_rec_qvS_WF, close_rec_incl_check (by decide +kernel), close_rec_cascade_check (by decide +kernel), rec_qtip_check (by decide +kernel),
     by decide +kernel, by decide +kernel, by decide +kernel, by decide +kernel, by decide +kernel, close_rec_single_none, close_rec_single_at _ _⟩,
   by decide +kernel⟩

/-- the remaining geometry of case (b)/(c), final push executed and the pull request NOT found queued: a pull request
    with one target whose only `q/w/` ref is the refused ref. Here q/5.1 has moved to the queue commit 4 with no
    queue-integration branch on it: `validate()` fails (MasterQueueNotInSync), QueueOutOfOrder - case (b). -/
example :
    let s := qvS
    let pr := close_rec_pr1
    let p := planPr s pr .final [] []
    let s' := crashState s p close_rec_rejQW1 2
    let pV := planPrV s' pr .final [] [] []
    alreadyQueued s pr = false ∧ p.outcome = "Queued" ∧ p.ops.length = 2 ∧ s.targets pr.dst = [pr.dst] ∧
    close_rec_Single close_rec_rejQW1 ∧
    alreadyQueued s' pr = false ∧ close_rec_outOfOrder s' pr [] = true ∧ pV.outcome = "QueueOutOfOrder" ∧
    errorsOf s' = some [.MasterQueueNotInSync] ∧
    s'.remote.get (.q (.dev 5 (some 1))) = some 4 ∧ s'.remote.get (.dest (.dev 5 (some 1))) = some 2 :=
  ⟨by decide +kernel, by decide +kernel, by decide +kernel, by decide +kernel, close_rec_single_at _ _, by decide +kernel⟩

/-- case (c) with the final push EXECUTED (second alternative of its geometry) does occur: on `RecDemo.q3` (pull
    request 1 = `feature/y` queued on 4.3 and 5.1) a pull request 3 whose source `feature/z` is the commit of
    `feature/y` targets development/5.1 only. Its source is already in q/5.1: the queue commit is q/5.1 itself, the
    plan is the final push alone, whose `q/5.1` update is a no-op; the server refuses `q/w/3/5.1/feature/z`. Nothing
    has changed, the pull request is not found queued, the queues validate, the evaluation delivered again queues it. -/
example :
    let s : Sys := (step RecDemo.q3 (.extPoint "feature/z" 3)).1
    let pr : PrInfo := ⟨3, "feature/z", RecDemo.d51, false⟩
    let p := planPr s pr .final [] []
    let rej : Nat → Ref → Bool := fun i r => i == 0 && r == .qw 3 RecDemo.d51 "feature/z"
    let s' := crashState s p rej 1
    alreadyQueued s pr = false ∧ p.outcome = "Queued" ∧ p.ops.length = 1 ∧ s.targets pr.dst = [pr.dst] ∧
    s'.remote.get (.q RecDemo.d51) = s.remote.get (.q RecDemo.d51) ∧ (allQRefs s'.remote).length = (allQRefs s.remote).length ∧
    alreadyQueued s' pr = false ∧ validated s' = true ∧
    close_rec_outOfOrder s' pr [] = false ∧ (planPrV s' pr .final [] [] []).outcome = "Queued" := by decide +kernel

/-- A crash BEFORE the final push does not always lead back to a plain re-enqueue. `add_to_queue` creates and
    pushes the missing queue branches one by one (`get_queue_branch`). When the job dies between two of these pushes -
    no ref refused, nothing of the final push attempted - the lower version has its queue branch and the higher one
    has not: `_vertical_validation` reports `MasterQueueMissing` ("check all subsequent versions have a master
    queue"), and the fresh Bert-E answers QueueOutOfOrder instead of queueing: the documented queue reset is needed
    although no pull request is queued and every existing queue branch sits on its destination tip (the state is
    `rec_Rebuilt`, and after the reset `C02_recovery_enqueue_first_partial` applies). Case (b) of
    `C02_recovery_enqueue`, not case (c); with one more operation executed it is case (c). -/
theorem C02_recovery_enqueue_half_created_witness :
    let p := planPr qvS qvPr .final [] []
    let s' := crashState qvS p (fun _ _ => false) 2
    p.ops.length = 4 ∧ alreadyQueued s' qvPr = false ∧
    (s'.remote.get (.q (.dev 4 (some 3))), s'.remote.get (.q (.dev 5 (some 1)))) = (some 1, none) ∧
    (s'.remote.get (.dest (.dev 4 (some 3))), s'.remote.get (.dest (.dev 5 (some 1)))) = (some 1, some 2) ∧
    allQRefs s'.remote = [.q (.dev 4 (some 3))] ∧
    errorsOf s' = some [.MasterQueueMissing] ∧
    (planPrV s' qvPr .final [] [] []).outcome = "QueueOutOfOrder" ∧
    (planPrV (crashState qvS p (fun _ _ => false) 3) qvPr .final [] [] []).outcome = "Queued" := by decide +kernel

end BertE.C02
