import BertE.Gen.Build
import BertE.Gen.Messages
import BertE.Model.Build
import BertE.Lemmas.Build
import BertE.Drv.C06
import BertE.Lemmas.EvalGates
import BertE.Drv.Eval
/-
C06 — the build gate requires a green build on every integration commit.

The theorems are parametric in the data of `check_build_status` (`Tbl`: ranking tuple,
reducer, if/elif chain) and in the message table; `TblOK` is the decidable well-formedness
predicate that the property needs of that data, and `C06_table` discharges it on the tables
regenerated from the source (`decide` over the whole finite table).
The status list has any length ≥ 1 (there is always a first integration branch).
-/
namespace BertE.C06
open BertE.Build

/-- kind (`template`/`silent`/`internal`/`base`) of a message class in the generated message table -/
def kindOf (msgs : List BertE.Gen.Messages.Msg) (cls : String) : Option String :=
  (msgs.find? (·.name == cls)).map (·.kind)

def lookup (t : Tbl) (s : Status) : Option String := (t.raises.find? (·.1 == s.name)).map (·.2)

/-- What the property needs of the source's data:
    every status is ranked; SUCCESSFUL ranks below the two waiting states, which rank below
    STOPPED and FAILED; the reducer is `max`; FAILED and STOPPED raise `BuildFailed`, which is
    a message posted to the author; the waiting states raise silent exceptions; SUCCESSFUL
    raises nothing. (The relative order of INPROGRESS/NOTSTARTED, and of STOPPED/FAILED, is
    free: the property does not depend on it.) -/
structure TblOK (t : Tbl) (msgs : List BertE.Gen.Messages.Msg) : Prop where
  total : ∀ s ∈ Status.all, (t.rank s).isSome = true
  s_lt_i : (t.rank .successful).getD 0 < (t.rank .inProgress).getD 0
  s_lt_n : (t.rank .successful).getD 0 < (t.rank .notStarted).getD 0
  i_lt_st : (t.rank .inProgress).getD 0 < (t.rank .stopped).getD 0
  i_lt_f : (t.rank .inProgress).getD 0 < (t.rank .failed).getD 0
  n_lt_st : (t.rank .notStarted).getD 0 < (t.rank .stopped).getD 0
  n_lt_f : (t.rank .notStarted).getD 0 < (t.rank .failed).getD 0
  reducer : t.reducer = "max"
  failed : lookup t .failed = some "BuildFailed"
  stopped : lookup t .stopped = some "BuildFailed"
  failedKind : kindOf msgs "BuildFailed" = some "template"
  notStarted : ∃ c, lookup t .notStarted = some c ∧ kindOf msgs c = some "silent"
  inProgress : ∃ c, lookup t .inProgress = some c ∧ kindOf msgs c = some "silent"
  successful : lookup t .successful = none

instance (t msgs) : Decidable (TblOK t msgs) :=
  decidable_of_iff
    ((∀ s ∈ Status.all, (t.rank s).isSome = true) ∧
     (t.rank .successful).getD 0 < (t.rank .inProgress).getD 0 ∧
     (t.rank .successful).getD 0 < (t.rank .notStarted).getD 0 ∧
     (t.rank .inProgress).getD 0 < (t.rank .stopped).getD 0 ∧
     (t.rank .inProgress).getD 0 < (t.rank .failed).getD 0 ∧
     (t.rank .notStarted).getD 0 < (t.rank .stopped).getD 0 ∧
     (t.rank .notStarted).getD 0 < (t.rank .failed).getD 0 ∧
     t.reducer = "max" ∧
     lookup t .failed = some "BuildFailed" ∧
     lookup t .stopped = some "BuildFailed" ∧
     kindOf msgs "BuildFailed" = some "template" ∧
     (∃ c ∈ (lookup t .notStarted).toList, kindOf msgs c = some "silent") ∧
     (∃ c ∈ (lookup t .inProgress).toList, kindOf msgs c = some "silent") ∧
     lookup t .successful = none)
    ⟨fun ⟨a, b, c, d, e, f, g, h, i, j, k, l, m, n⟩ =>
        ⟨a, b, c, d, e, f, g, h, i, j, k,
         (by obtain ⟨c, hc, hk⟩ := l; exact ⟨c, by simpa using hc, hk⟩),
         (by obtain ⟨c, hc, hk⟩ := m; exact ⟨c, by simpa using hc, hk⟩), n⟩,
     fun h => ⟨h.total, h.s_lt_i, h.s_lt_n, h.i_lt_st, h.i_lt_f, h.n_lt_st, h.n_lt_f, h.reducer,
        h.failed, h.stopped, h.failedKind,
        (by obtain ⟨c, hc, hk⟩ := h.notStarted; exact ⟨c, by simp [hc], hk⟩),
        (by obtain ⟨c, hc, hk⟩ := h.inProgress; exact ⟨c, by simp [hc], hk⟩), h.successful⟩⟩

/-- **Table obligation**: the data found in the current source is well-formed. -/
theorem C06_table : TblOK BertE.Drv.C06.genTbl BertE.Gen.Messages.messages := by decide +kernel

section
variable {t : Tbl} {msgs : List BertE.Gen.Messages.Msg}

private theorem no_key_error (h : TblOK t msgs) (sts : List Status) :
    sts.any (fun s => (t.rank s).isNone) = false := by
  rw [List.any_eq_false]
  intro s _
  have : s ∈ Status.all := by cases s <;> simp [Status.all]
  have := h.total s this
  cases hr : t.rank s with
  | none => simp [hr] at this
  | some _ => simp

/-- Under a well-formed table, not bypassed, with a key: the gate looks at the first status `w` of maximal rank
    (`sts[i]`) and raises the class the `if/elif` chain gives for it. -/
private theorem gate_worst (h : TblOK t msgs) {sts : List Status} (hne : sts ≠ []) :
    ∃ i w, sts[i]? = some w ∧ (∀ s ∈ sts, (t.rank s).getD 0 ≤ (t.rank w).getD 0) ∧
      checkBuild t false false false sts =
        match lookup t w with
        | some c => .raise c i
        | none => if w = .successful then .pass else .crash "AssertionError" := by
  obtain ⟨i, w, hw⟩ := firstMax_some (rk := fun s => (t.rank s).getD 0) hne
  obtain ⟨hidx, hmax⟩ := firstMax_spec hw
  refine ⟨i, w, hidx, hmax, ?_⟩
  unfold checkBuild
  simp only [no_key_error h sts, h.reducer, Bool.or_self, Bool.false_eq_true, if_false, beq_self_eq_true, if_true, hw]
  unfold Tbl.react lookup
  cases t.raises.find? (·.1 == w.name) <;> rfl

private theorem le_successful (h : TblOK t msgs) {s : Status}
    (hle : (t.rank s).getD 0 ≤ (t.rank .successful).getD 0) : s = .successful := by
  have := h.s_lt_i; have := h.s_lt_n; have := h.i_lt_st; have := h.i_lt_f
  cases s
  · rfl
  all_goals omega

/-- bypass (comment / command line option, or per-author setting) or an empty build key: the gate passes,
    whatever the statuses. -/
theorem C06_bypass (t : Tbl) (bs ba ke : Bool) (sts : List Status) (hb : bs = true ∨ ba = true ∨ ke = true) :
    checkBuild t bs ba ke sts = .pass := by
  unfold checkBuild
  rcases hb with h | h | h <;> simp [h]

/-- Not bypassed, key configured: the gate passes **iff** every integration tip is SUCCESSFUL. -/
theorem C06_pass_iff (h : TblOK t msgs) (sts : List Status) (hne : sts ≠ []) :
    checkBuild t false false false sts = .pass ↔ ∀ s ∈ sts, s = .successful := by
  obtain ⟨i, w, hidx, hmax, hg⟩ := gate_worst h hne
  rw [hg]
  have hwmem : w ∈ sts := List.mem_of_getElem? hidx
  constructor
  · intro hp s hs
    have hws : w = .successful := by
      cases w
      · rfl
      · obtain ⟨c, hc, _⟩ := h.inProgress; simp [hc] at hp
      · obtain ⟨c, hc, _⟩ := h.notStarted; simp [hc] at hp
      · simp [h.stopped] at hp
      · simp [h.failed] at hp
    subst hws
    exact le_successful h (hmax s hs)
  · intro hall
    have := hall w hwmem
    subst this
    simp [h.successful]

/-- Not bypassed, key configured: the author is told `BuildFailed` **iff** some tip is FAILED or STOPPED,
    and the branch reported is one of those. -/
theorem C06_failed_iff (h : TblOK t msgs) (sts : List Status) (hne : sts ≠ []) :
    (∃ i, checkBuild t false false false sts = .raise "BuildFailed" i
          ∧ (sts[i]? = some .failed ∨ sts[i]? = some .stopped))
      ↔ ∃ s ∈ sts, s = .failed ∨ s = .stopped := by
  obtain ⟨i, w, hidx, hmax, hg⟩ := gate_worst h hne
  rw [hg]
  have hwmem : w ∈ sts := List.mem_of_getElem? hidx
  constructor
  · rintro ⟨j, _, hj⟩
    rcases hj with hj | hj
    · exact ⟨_, List.mem_of_getElem? hj, Or.inl rfl⟩
    · exact ⟨_, List.mem_of_getElem? hj, Or.inr rfl⟩
  · rintro ⟨s, hs, hfs⟩
    have hle : (t.rank s).getD 0 ≤ (t.rank w).getD 0 := hmax s hs
    have := h.s_lt_i; have := h.s_lt_n; have := h.i_lt_st; have := h.i_lt_f
    have := h.n_lt_st; have := h.n_lt_f
    have hwfs : w = .failed ∨ w = .stopped := by
      rcases hfs with rfl | rfl <;> cases w <;> first | omega | simp
    refine ⟨i, ?_, ?_⟩
    · rcases hwfs with rfl | rfl
      · simp [h.failed]
      · simp [h.stopped]
    · rcases hwfs with rfl | rfl
      · exact Or.inl hidx
      · exact Or.inr hidx

/-- Not bypassed, key configured, no tip FAILED or STOPPED, not all SUCCESSFUL: Bert-E waits —
    the exception raised is a *silent* one (no comment is posted). -/
theorem C06_waits_silently (h : TblOK t msgs) (sts : List Status) (hne : sts ≠ [])
    (hnf : ∀ s ∈ sts, s ≠ .failed ∧ s ≠ .stopped) (hns : ∃ s ∈ sts, s ≠ .successful) :
    ∃ c i, checkBuild t false false false sts = .raise c i ∧ kindOf msgs c = some "silent" := by
  obtain ⟨i, w, hidx, hmax, hg⟩ := gate_worst h hne
  rw [hg]
  have hwmem : w ∈ sts := List.mem_of_getElem? hidx
  obtain ⟨s, hs, hsne⟩ := hns
  have hwn := hnf w hwmem
  cases w with
  | successful => exact absurd (le_successful h (hmax s hs)) hsne
  | inProgress => obtain ⟨c, hc, hk⟩ := h.inProgress; exact ⟨c, i, by simp [hc], hk⟩
  | notStarted => obtain ⟨c, hc, hk⟩ := h.notStarted; exact ⟨c, i, by simp [hc], hk⟩
  | stopped => exact absurd rfl hwn.2
  | failed => exact absurd rfl hwn.1

/-- `BuildFailed` is a message posted to the author (a template exception), never a silent one. -/
theorem C06_failed_is_reported (h : TblOK t msgs) : kindOf msgs "BuildFailed" = some "template" :=
  h.failedKind

/-- The gate never crashes on a non-empty list of integration branches. -/
theorem C06_total (h : TblOK t msgs) (bs ba ke : Bool) (sts : List Status) (hne : sts ≠ []) :
    ∀ why, checkBuild t bs ba ke sts ≠ .crash why := by
  intro why
  by_cases hb : bs = true ∨ ba = true ∨ ke = true
  · rw [C06_bypass t bs ba ke sts hb]; simp
  · obtain ⟨rfl, rfl, rfl⟩ : bs = false ∧ ba = false ∧ ke = false := by
      cases bs <;> cases ba <;> cases ke <;> simp_all
    -- whatever the worst status, the chain has a class for it or it is SUCCESSFUL
    obtain ⟨i, w, _, _, hg⟩ := gate_worst h hne
    rw [hg]
    obtain ⟨ci, hci, _⟩ := h.inProgress
    obtain ⟨cn, hcn, _⟩ := h.notStarted
    cases w <;> simp [h.successful, h.stopped, h.failed, hci, hcn]
end

/-- On the current source: passes iff all green (not bypassed, key configured). -/
theorem C06_pass_iff_gen (sts : List Status) (hne : sts ≠ []) :
    checkBuild BertE.Drv.C06.genTbl false false false sts = .pass ↔ ∀ s ∈ sts, s = .successful :=
  C06_pass_iff C06_table sts hne

/-- Non-vacuity: a concrete mixed vector meets the hypotheses and is decided as the property says. -/
example : checkBuild BertE.Drv.C06.genTbl false false false [.successful, .stopped, .inProgress]
    = .raise "BuildFailed" 1 := by decide +kernel
example : checkBuild BertE.Drv.C06.genTbl false false false [.successful, .notStarted, .inProgress]
    = .raise "BuildNotStarted" 1 := by decide +kernel

end BertE.C06

/-! ### End to end: the build gate inside the composed evaluation (`Model/Eval.lean`)

`evalPr` runs `_handle_pull_request` line by line on the state of the git host and of the repository; how far it
goes is computed. The theorems below say that an evaluation ENTERS the queue (or merges directly) only through the
build gate, read on the integration tips AS THEY ARE IN THE CLONE AFTER `update_integration_branches`, in the
host's own build-status table; and that when the gate refuses, the job ends with the right class and its plan
stops at the push of the `w/` branches. -/
namespace BertE.C06
open BertE.Build BertE.Eval BertE.Flow BertE.Reactor

/-- the build check is bypassed for this pull request (admin comment / command line option, or per-author
    setting), or no build key is configured -/
def e2eBypassed (c : Eval.Cfg) (p : Eval.Pr) (st : State) : Prop :=
  opt st "bypass_build_status" = true ∨ (envFor c p).authorBypass.contains "bypass_build_status" = true ∨
    c.buildKey = ""

/-- every integration commit — the source branch tip for the first target, each `w/` tip for the others, as they
    are in the clone after the update — is SUCCESSFUL in the host's build-status table -/
def e2eAllGreen (h : Host) (s : Sys) (pr : PrInfo) (l4 : Loc) : Prop :=
  ∀ d ∈ s.targets pr.dst, ∃ cm, l4.refs.get (wRef pr pr.dst d) = some cm ∧ h.status cm = .successful

private theorem checkBuildStatus_not_bypassed {c : Eval.Cfg} {h : Host} {p : Eval.Pr} {st : State} {pr : PrInfo} {l4 : Loc}
    {ts : List Dest} {sts : List Status} (hnb : ¬ e2eBypassed c p st)
    (hsts : tipStatuses h (integrationTips l4 pr ts) = some sts) :
    checkBuildStatus c (envFor c p) st h l4 pr ts = checkBuild c.build false false false sts := by
  simp only [e2eBypassed, not_or, Bool.not_eq_true] at hnb
  have hkey : (c.buildKey == "") = false := by simpa using hnb.2.2
  unfold checkBuildStatus
  rw [hsts, hnb.1, hnb.2.1, hkey]

theorem e2e_build_pass {c : Eval.Cfg} {msgs : List BertE.Gen.Messages.Msg} (hT : TblOK c.build msgs)
    {h : Host} {s : Sys} {p : Eval.Pr} {st : State} {pr : PrInfo} {l4 : Loc}
    (hb : checkBuildStatus c (envFor c p) st h l4 pr (s.targets pr.dst) = .pass) :
    e2eBypassed c p st ∨ e2eAllGreen h s pr l4 := by
  by_cases hby : e2eBypassed c p st
  · exact Or.inl hby
  · right
    cases hsts : tipStatuses h (integrationTips l4 pr (s.targets pr.dst)) with
    | none => simp [checkBuildStatus, hsts] at hb
    | some sts =>
      rw [checkBuildStatus_not_bypassed hby hsts] at hb
      have := evalG_tipStatuses h l4 pr (s.targets pr.dst)
      rw [hsts] at this
      obtain ⟨hlen, hex, hmem⟩ := this
      have hne : sts ≠ [] := by
        intro he
        rw [he] at hlen
        exact evalG_targets_ne s pr.dst (List.length_eq_zero_iff.mp hlen.symm)
      have hall := (C06_pass_iff hT sts hne).mp hb
      intro d hd
      cases hg : l4.refs.get (wRef pr pr.dst d) with
      | none => have := hex d hd; rw [hg] at this; cases this
      | some cm => exact ⟨cm, rfl, hall _ ((hmem _).mpr ⟨d, hd, cm, hg, rfl⟩)⟩

/-- **C06, end to end.** If the evaluation of a pull request that was not queued before reaches the final stage
    (its plan is the entry into the queue or the direct merge), then `check_build_status` was evaluated in this
    very evaluation on the tips of the clone AFTER the update of the integration branches, and it is bypassed,
    or no key is configured, or every one of these tips is SUCCESSFUL in the host's table. -/
theorem C06_e2e_entered {c : Eval.Cfg} {msgs : List BertE.Gen.Messages.Msg} (hT : TblOK c.build msgs)
    {h : Host} {s : Sys} {id : Nat} {orc : List Bool} {sel : List Nat}
    (hd : (evalPr c h s id orc sel).declined = false) (hf : (evalPr c h s id orc sel).stage = .final)
    (hnq : alreadyQueued s (evalPr c h s id orc sel).pr = false) :
    ∃ p st src pr sc dc l4 pushW, Entered c h s id orc sel p st src pr sc dc l4 pushW ∧
      (e2eBypassed c p st ∨ e2eAllGreen h s pr l4) := by
  obtain ⟨p, st, src, pr, sc, dc, l4, pushW, he⟩ := evalPr_entered hd hf hnq
  exact ⟨p, st, src, pr, sc, dc, l4, pushW, he, e2e_build_pass hT he.build⟩

/-- The same, read off the plan: if the plan holds ANY operation other than a push of `w/` branches of this pull
    request (a `q/` or `q/w/` ref is created, a destination ref moves, something is deleted), the build gate
    let the pull request through. -/
theorem C06_e2e_ops {c : Eval.Cfg} {msgs : List BertE.Gen.Messages.Msg} (hT : TblOK c.build msgs)
    {h : Host} {s : Sys} {id : Nat} {orc : List Bool} {sel : List Nat}
    (hd : (evalPr c h s id orc sel).declined = false)
    (hnq : alreadyQueued s (evalPr c h s id orc sel).pr = false)
    (hop : ∃ op ∈ (evalPr c h s id orc sel).plan.ops, ¬ Op.onlyW (evalPr c h s id orc sel).pr.src op) :
    ∃ p st src pr sc dc l4 pushW, Entered c h s id orc sel p st src pr sc dc l4 pushW ∧
      (e2eBypassed c p st ∨ e2eAllGreen h s pr l4) := by
  obtain ⟨p, st, src, pr, sc, dc, l4, pushW, he⟩ := evalPr_entered_of_op hd hnq hop
  exact ⟨p, st, src, pr, sc, dc, l4, pushW, he, e2e_build_pass hT he.build⟩

/-- some integration tip of the updated clone is FAILED or STOPPED in the host's table -/
def e2eSomeFailed (h : Host) (s : Sys) (pr : PrInfo) (l4 : Loc) : Prop :=
  ∃ d ∈ s.targets pr.dst, ∃ cm, l4.refs.get (wRef pr pr.dst d) = some cm ∧
    (h.status cm = .failed ∨ h.status cm = .stopped)

theorem e2e_statuses {h : Host} {s : Sys} {pr : PrInfo} {l4 : Loc}
    (hex : ∀ d ∈ s.targets pr.dst, (l4.refs.get (wRef pr pr.dst d)).isSome = true) :
    ∃ sts, tipStatuses h (integrationTips l4 pr (s.targets pr.dst)) = some sts ∧ sts ≠ [] ∧
      (e2eAllGreen h s pr l4 ↔ ∀ x ∈ sts, x = .successful) ∧
      (e2eSomeFailed h s pr l4 ↔ ∃ x ∈ sts, x = .failed ∨ x = .stopped) := by
  have := evalG_tipStatuses h l4 pr (s.targets pr.dst)
  cases hsts : tipStatuses h (integrationTips l4 pr (s.targets pr.dst)) with
  | none =>
    rw [hsts] at this
    obtain ⟨d, hd, hn⟩ := this
    have := hex d hd
    rw [hn] at this
    cases this
  | some sts =>
  rw [hsts] at this
  obtain ⟨hlen, _, hmem⟩ := this
  refine ⟨sts, rfl, ?_, ?_, ?_⟩
  · intro he
    rw [he] at hlen
    exact evalG_targets_ne s pr.dst (List.length_eq_zero_iff.mp hlen.symm)
  · constructor
    · intro hg x hx
      obtain ⟨d, hd, cm, hcm, rfl⟩ := (hmem x).mp hx
      obtain ⟨cm', hcm', hs⟩ := hg d hd
      rw [hcm] at hcm'; cases hcm'
      exact hs
    · intro hall d hd
      cases hg : l4.refs.get (wRef pr pr.dst d) with
      | none => have := hex d hd; rw [hg] at this; cases this
      | some cm => exact ⟨cm, rfl, hall _ ((hmem _).mpr ⟨d, hd, cm, hg, rfl⟩)⟩
  · constructor
    · rintro ⟨d, hd, cm, hcm, hst⟩
      exact ⟨h.status cm, (hmem _).mpr ⟨d, hd, cm, hcm, rfl⟩, hst⟩
    · rintro ⟨x, hx, hfs⟩
      obtain ⟨d, hd, cm, hcm, rfl⟩ := (hmem x).mp hx
      exact ⟨d, hd, cm, hcm, hfs⟩

/-- **C06, end to end, the refusals.** The evaluation reaches the gates (`Reaches`), no skew, the review gate
    passes, the build check is not bypassed and a key is configured, every integration branch exists in the
    updated clone. Then:
    * some tip FAILED or STOPPED: the job ends as `BuildFailed`, which is posted to the author;
    * otherwise, some tip not SUCCESSFUL: the job ends with a silent class and posts nothing more;
    in both cases the stage is `integration` and the plan stops at the push of the `w/` branches. -/
theorem C06_e2e_refused {c : Eval.Cfg} {msgs : List BertE.Gen.Messages.Msg} (hT : TblOK c.build msgs)
    (hk : ∀ cls, c.early.kind cls = kindOf msgs cls)
    {h : Host} {s : Sys} {id : Nat} {orc : List Bool} {sel : List Nat}
    {p : Eval.Pr} {st : State} {src : BertE.Names.Parsed} {pr : PrInfo} {sc dc : BertE.Git.Commit} {l4 : Loc}
    {pushW : List Op} (hr : Reaches c h s id orc sel p st src pr sc dc l4 pushW) (hsk : p.facts.skew = false)
    (ha : BertE.Approvals.checkApprovals (approvalsCfg c (envFor c p) st) (approvalsInput p) = .pass)
    (hnb : ¬ e2eBypassed c p st)
    (hex : ∀ d ∈ s.targets pr.dst, (l4.refs.get (wRef pr pr.dst d)).isSome = true)
    (hng : ¬ e2eAllGreen h s pr l4) :
    (evalPr c h s id orc sel).stage = .integration ∧
    (evalPr c h s id orc sel).plan = ⟨l4.g, pushW, "gate", s.queue⟩ ∧
    (e2eSomeFailed h s pr l4 →
        (evalPr c h s id orc sel).outcome = "BuildFailed" ∧ "BuildFailed" ∈ (evalPr c h s id orc sel).notified) ∧
    (¬ e2eSomeFailed h s pr l4 →
        kindOf msgs (evalPr c h s id orc sel).outcome = some "silent" ∧
        (evalPr c h s id orc sel).notified = greetingOf c h s p ++
          (if integrationDataNotified c h s st pr (s.targets pr.dst) then ["IntegrationDataCreated"] else [])) := by
  obtain ⟨sts, hsts, hne, hgreen, hfail⟩ := e2e_statuses (h := h) hex
  have hcb := checkBuildStatus_not_bypassed hnb hsts
  rw [hr.eq]
  by_cases hf : e2eSomeFailed h s pr l4
  · obtain ⟨i, hi, _⟩ := (C06_failed_iff hT sts hne).mpr (hfail.mp hf)
    obtain ⟨h1, h2, h3, h4⟩ := gates_build_raise c h s p pr st (greetingOf c h s p) sc l4 pushW hsk ha (hcb.trans hi)
    have hkt : c.early.kind "BuildFailed" = some "template" := by rw [hk]; exact hT.failedKind
    refine ⟨h1, h3, fun _ => ⟨?_, ?_⟩, fun hn => absurd hf hn⟩
    · rw [h2, evalL_raise_class]
    · rw [h4, evalL_raise_template hkt]
      simp [decisionPosted]
  · have hnf : ∀ x ∈ sts, x ≠ .failed ∧ x ≠ .stopped := fun x hx =>
      ⟨fun he => hf (hfail.mpr ⟨x, hx, Or.inl he⟩), fun he => hf (hfail.mpr ⟨x, hx, Or.inr he⟩)⟩
    have hns : ∃ x ∈ sts, x ≠ .successful := by
      apply Classical.byContradiction
      intro hc
      exact hng (hgreen.mpr fun x hx => Classical.byContradiction fun hne' => hc ⟨x, hx, hne'⟩)
    obtain ⟨cls, i, hci, hsil⟩ := C06_waits_silently hT sts hne hnf hns
    obtain ⟨h1, h2, h3, h4⟩ := gates_build_raise c h s p pr st (greetingOf c h s p) sc l4 pushW hsk ha (hcb.trans hci)
    have hks : c.early.kind cls = some "silent" := by rw [hk]; exact hsil
    refine ⟨h1, h3, fun hp => absurd hp hf, fun _ => ⟨?_, ?_⟩⟩
    · rw [h2, evalL_raise_class]; exact hsil
    · rw [h4, BertE.Early.raise_silent hks]
      simp [decisionPosted]

/-- **Source obligation**: the calls that `_handle_pull_request` makes to the steps `evalPr` composes occur in the
    current source exactly once each and in the order in which `evalPr` runs them (`Eval.gateOrder`) — in
    particular `jira_checks` before `create_integration_branches`, and `check_build_status` after
    `update_integration_branches` and after `check_approvals`. -/
theorem C06_e2e_source_order :
    BertE.Gen.Early.calls.filter (fun f => Eval.gateOrder.contains f) = Eval.gateOrder := by decide +kernel

/-! Non-vacuity on the tables of the current source: a pull request on a two-branch cascade whose source tip is
    green and whose `w/` tip — created by this very evaluation — has no status yet is NOT let through
    (`BuildNotStarted`); with a green status on the tip the update produces, it enters the queue. -/

def exCfg : Eval.Cfg :=
  { reg := BertE.Drv.C07.genRegistry.withCmdLine ["bypass_jira_check"]
    env := ⟨["admin"], "", "robot", []⟩
    authorOptions := []
    early := BertE.Drv.C12.genTbl
    build := BertE.Drv.C06.genTbl
    buildKey := "pre-merge"
    approvals := { requiredPeers := 0, requiredLeaders := 0, needAuthor := false, projectLeaders := ["admin"],
                   robot := "robot", bypassAuthorS := false, bypassAuthorA := false, bypassPeerS := false,
                   bypassPeerA := false, bypassLeaderS := false, bypassLeaderA := false, approve := false,
                   unanimity := false }
    jira := ⟨false, false, [], [], "", "", [], false⟩
    ticketless := BertE.Drv.Eval.ticketlessOf
    maxCommitDiff := 0
    createBranches := true
    createPrs := false }

def exSys : Sys :=
  (step (BertE.Drv.C01.initSys true false [.dev 4 (some 3), .dev 5 (some 1)]) (.extSet "feature/TEST-1" [1] false)).1

def exPr (approvals : List String := []) : Eval.Pr :=
  { id := 1, author := "contrib", src := "feature/TEST-1", dst := "development/4.3", status := "OPEN",
    comments := [], approvals := approvals, changeRequests := [], participants := approvals }

/-- the source tip (commit 3) is green; the `w/5.1` tip the update creates (commit 4) has no status -/
def exHostStale : Host := ⟨[exPr], [(3, .successful)], []⟩
/-- ... and with a status on that very commit -/
def exHostGreen : Host := ⟨[exPr], [(3, .successful), (4, .successful)], []⟩

example : (evalPr exCfg exHostStale exSys 1 [] []).stage = .integration ∧
    (evalPr exCfg exHostStale exSys 1 [] []).outcome = "BuildNotStarted" ∧
    (evalPr exCfg exHostStale exSys 1 [] []).notified = ["InitMessage", "IntegrationDataCreated"] := by decide +kernel

example : (evalPr exCfg exHostGreen exSys 1 [] []).stage = .final ∧
    (evalPr exCfg exHostGreen exSys 1 [] []).declined = false ∧
    alreadyQueued exSys (evalPr exCfg exHostGreen exSys 1 [] []).pr = false ∧
    (evalPr exCfg exHostGreen exSys 1 [] []).outcome = "Queued" := by decide +kernel

/-- the table hypothesis of `C06_e2e_refused` holds of the generated tables -/
example : ∀ cls ∈ BertE.Gen.Messages.messages.map (·.name), exCfg.early.kind cls = kindOf BertE.Gen.Messages.messages cls :=
  -- both sides are the same lookup in the generated message table, for every class
  fun _ _ => rfl

end BertE.C06
