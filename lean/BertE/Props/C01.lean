import BertE.Lemmas.StepAll
import BertE.Lemmas.QValidateEval
import BertE.Lemmas.SelectEx
import BertE.Drv.C01
import BertE.Lemmas.CloseInvV
import BertE.Lemmas.CloseValidate
import BertE.Lemmas.CloseInvQ
import BertE.Lemmas.CloseEvalObs
import BertE.Lemmas.Full2Inv
/-
C01 — forward-port inclusion of destination branches is an invariant.

`Sys.Incl s`: for all destination branches `a`, `b` present on the remote with `a` before `b` in the
cascade (stabilization/x.y.z before development/x.y and every later development branch; development
branches by (x, y), development/x after every development/x.*), the tip of `a` is an ancestor of the tip of `b`.

The model (`Model/Flow.lean`) computes, for every Bert-E job, the ordered list of remote operations from the
clone (`plan`) and the remote's reaction (`applyOps`); the stage the gates allow, the outcome of every
content merge of git and the selected queue prefix are universally quantified inputs.
-/
namespace BertE.C01
open BertE.Git BertE.Flow

/-- the remote as it can be observed when a job is interrupted after `k` of its operations,
    the server refusing to update the refs selected by `rej` -/
def observable (s : Sys) (p : Plan) (rej : Ref → Bool) (k : Nat) : RefMap :=
  applyOps p.g rej s.remote (p.ops.take k)

theorem incl_of_safe {s : Sys} (hs : s.WF) (hincl : s.Incl) {p : Plan} (hext : Extends s.g p.g)
    (hsafe : ∀ op ∈ p.ops, op.Safe p.g) (rej : Ref → Bool) (k : Nat) :
    InclOn p.g (observable s p rej k) := by
  unfold observable
  apply applyOps_incl rej _ (InclOn.extends hincl hs.valid hext)
  intro op hop
  exact hsafe op (List.mem_of_mem_take hop)

/-- What must hold of the queue selection for a queue merge to be safe: the single atomic push that
    `handle_merge_queues` makes has a content that satisfies inclusion. (Discharged from the queue
    invariant in `C01_queue_safe`.) -/
def QueueSafe (s : Sys) (sel : List Nat) : Prop :=
  ∀ op ∈ (planQueues s sel).ops, op.Safe (planQueues s sel).g

/-- C01 for a pull-request evaluation, at full strength: for every state, every stage the gates allow,
    every outcome of git's content merges, queue and no-queue mode — and at every crash point and for every
    refused ref (this is also the safety half of C02). -/
theorem C01_evalPr (s : Sys) (hs : s.WF) (hincl : s.Incl) (pr : PrInfo) (stage : Stage) (orc : List Bool)
    (sel : List Nat) (hq : QueueSafe s sel) (rej : Ref → Bool) (k : Nat) :
    InclOn (planPr s pr stage orc sel).g (observable s (planPr s pr stage orc sel) rej k) :=
  incl_of_safe hs hincl (planPr_gext hs pr stage orc sel).ext (planPr_safe hs hincl pr stage orc sel hq) rej k

/-- declined pull request, reset / force_reset, rebuild / delete queues, delete branch: only deletions -/
theorem C01_cleanup (s : Sys) (hs : s.WF) (hincl : s.Incl) (ev : Event)
    (hev : (∃ pr cd, ev = .evalDeclined pr cd) ∨ (∃ pr, ev = .reset pr) ∨ ev = .dropQueues ∨
           (∃ d, ev = .deleteBranch d))
    (rej : Ref → Bool) (k : Nat) : InclOn (plan s ev).g (observable s (plan s ev) rej k) := by
  have hdel : ∀ p : Plan, p.g = s.g →
      (∀ op ∈ p.ops, (∃ ws, op = .pushAll (delRefs s.remote ws) true) ∨ ∃ r, op = .delete r) →
      InclOn p.g (observable s p rej k) := by
    intro p hg hops
    refine incl_of_safe hs hincl (hg ▸ Extends.refl _) (fun op hop => ?_) rej k
    rcases hops op hop with ⟨ws, rfl⟩ | ⟨r, rfl⟩
    · rw [hg]; exact ⟨rfl, InclOn.delRefs hincl ws⟩
    · trivial
  rcases hev with ⟨pr, cd, rfl⟩ | ⟨pr, rfl⟩ | rfl | ⟨d, rfl⟩
  · apply hdel
    · simp only [plan, planDeclined]; split <;> rfl
    · simp only [plan, planDeclined]
      split
      · exact fun _ h => nomatch h
      · exact fun op hop => Or.inl ⟨_, List.mem_singleton.mp hop⟩
  · apply hdel
    · simp only [plan, planReset]; split <;> rfl
    · simp only [plan, planReset]
      split
      · exact fun _ h => nomatch h
      · exact fun op hop => Or.inl ⟨_, List.mem_singleton.mp hop⟩
  · apply hdel
    · simp only [plan, planDropQueues]; split <;> rfl
    · simp only [plan, planDropQueues]
      split
      · exact fun _ h => nomatch h
      · exact fun op hop => Or.inl ⟨_, List.mem_singleton.mp hop⟩
  · apply hdel
    · rfl
    · intro op hop
      simp only [plan, List.mem_append, List.mem_cons, List.not_mem_nil, or_false] at hop
      rcases hop with h | rfl
      · split at h
        · exact Or.inr ⟨_, List.mem_singleton.mp h⟩
        · cases h
      · exact Or.inr ⟨_, rfl⟩

/-- a third party pushing to a source branch, an integration branch or any other non-destination branch -/
theorem C01_external (s : Sys) (hs : s.WF) (hincl : s.Incl) (ev : Event)
    (hev : (∃ n ps t, ev = .extSet n ps t) ∨ (∃ d src, ev = .extW d src) ∨ (∃ n, ev = .extDelete n) ∨
           (∃ n c, ev = .extPoint n c)) :
    (step s ev).1.Incl := by
  have hkeep : ∀ (g' : Graph) (m' : RefMap), Extends s.g g' → (∀ d, m'.get (.dest d) = s.remote.get (.dest d)) →
      InclOn g' m' := fun g' m' he hm => (InclOn.extends hincl hs.valid he).of_same hm
  rcases hev with ⟨n, ps, t, rfl⟩ | ⟨d, src, rfl⟩ | ⟨n, rfl⟩ | ⟨n, c, rfl⟩
  · exact hkeep _ _ (addCommit_extends _ _) (fun d => RefMap.get_set_ne _ _ (fun h => nomatch h))
  · simp only [step]
    split
    · exact hkeep _ _ (addCommit_extends _ _) (fun d => RefMap.get_set_ne _ _ (fun h => nomatch h))
    · exact hincl
  · exact hkeep _ _ (Extends.refl _) (fun d => RefMap.get_del_ne _ (fun h => nomatch h))
  · exact hkeep _ _ (Extends.refl _) (fun d => RefMap.get_set_ne _ _ (fun h => nomatch h))

/-- the queue invariant makes every queue merge safe, whatever is selected -/
theorem C01_queue_safe (s : Sys) (hs : s.WF) (hincl : s.Incl) (hq : QueueInv s) (sel : List Nat) : QueueSafe s sel :=
  planQueues_safe hs hincl hq sel

/-- C01, one event. `Inv` = well-formedness of the model state + inclusion + the queue invariant (what the
    robot's own queueing establishes). Every event — pull-request evaluation at any stage with any merge outcomes,
    queue evaluation with any downward-closed selection, declined/reset clean-up, rebuild/delete queues,
    create/delete branch once their checks passed, third-party pushes to non-destination branches — preserves it;
    in particular inclusion holds after the event. -/
theorem C01_step (s : Sys) (h : Inv s) (ev : Event) (hadm : Adm s ev) :
    (step s ev).1.Incl ∧ Inv (step s ev).1 :=
  ⟨(step_inv h ev hadm).incl, step_inv h ev hadm⟩

/-- C01, every finite history, checked after every single event. -/
theorem C01_run (s : Sys) (h : Inv s) (evs : List Event) (hadm : AdmAll s evs) :
    ∀ k, (run s (evs.take k)).Incl :=
  fun k => (run_inv _ h (admAll_take evs s hadm k)).incl

/-- the empty repository satisfies the invariant: histories can start there -/
theorem C01_inv_empty (uq sq : Bool) : Inv ⟨Graph.empty, [], [], [], [], uq, sq⟩ := by
  refine ⟨⟨empty_WF, ?_, List.Pairwise.nil, ?_⟩, ?_, QInv.of_empty rfl (fun _ => rfl)⟩
  · intro r c hc; cases hc
  · intro M m c hc; cases hc
  · intro a b _ ca cb hca; cases hca

theorem inclOn_single (g : Graph) (m : RefMap) (d0 : Dest) (h : ∀ d, d ≠ d0 → m.get (.dest d) = none) :
    InclOn g m := by
  intro a b hab ca cb hca hcb
  have ha : a = d0 := by
    apply Classical.byContradiction; intro hne; rw [h a hne] at hca; cases hca
  have hb : b = d0 := by
    apply Classical.byContradiction; intro hne; rw [h b hne] at hcb; cases hcb
  subst ha; subst hb
  rw [Dest.before_irrefl] at hab; cases hab

/-- Non-vacuity of `Adm`: from the empty repository, an admissible history that creates a first commit, a
    development branch on it and a topic branch. -/
example : AdmAll ⟨Graph.empty, [], [], [], [], true, false⟩
    [.extSet "seed" [] false, .createBranch (.dev 4 (some 3)) 0, .extPoint "topic" 0] := by
  refine ⟨?_, ⟨?_, ?_, ?_⟩, ?_, trivial⟩
  · intro p hp; cases hp
  · decide
  · decide
  · apply inclOn_single _ _ (.dev 4 (some 3))
    intro d hne
    rw [RefMap.get_set_ne _ _ (by intro he; simp only [Ref.dest.injEq] at he; exact hne he)]
    show RefMap.get [(Ref.other "seed", 0)] (.dest d) = none
    rw [RefMap.get_cons]
    simp
  · show (0 : Nat) < _
    decide +kernel

/-- Non-vacuity: a concrete two-branch repository with a pull request meets the hypotheses (`WF`, `Incl`)
    and the direct merge really moves both branches. -/
example :
    let s := BertE.Drv.C01.initSys false false [.dev 4 (some 3), .dev 5 (some 1)]
    let s1 := (step s (.extSet "feature/x" [1] false)).1
    let s2 := (step s1 (.evalPr ⟨1, "feature/x", .dev 4 (some 3), false⟩ .final [] [])).1
    (s2.remote.get (.dest (.dev 4 (some 3))), s2.remote.get (.dest (.dev 5 (some 1)))) = (some 3, some 4)
      ∧ s2.g.le 3 4 = true := by decide +kernel

/-- The same with the option `no_octopus` (the theorems above hold for every `PrInfo`, hence for both strategies):
    the consecutive merges create the integration commit 4 (`consecutive_merge(w/5.1/.., development/5.1, source)`),
    and `consecutive_merge(development/5.1, w/5.1/.., development/4.3)` fast-forwards development/5.1 to it. -/
example :
    let s := BertE.Drv.C01.initSys false false [.dev 4 (some 3), .dev 5 (some 1)]
    let s1 := (step s (.extSet "feature/x" [1] false)).1
    let s2 := (step s1 (.evalPr ⟨1, "feature/x", .dev 4 (some 3), true⟩ .final [] [])).1
    (s2.remote.get (.dest (.dev 4 (some 3))), s2.remote.get (.dest (.dev 5 (some 1)))) = (some 3, some 4)
      ∧ s2.g.le 3 4 = true ∧ s2.g.size = 5 := by decide +kernel

/-! ### the queue selection computed, not assumed (composition with the model of `QueueCollection._process`)

`Select.EventB` are the events of a history in which no selection is an input: a queue evaluation
(`.queues b force`) and a pull-request evaluation (`.pr b p stage orc`) carry the build statuses `b` the git host
reports at that moment, and the pull requests that are merged are `Select.selectOf s b force` — the model of
`QueueCollection._process` run on the collection, the merge paths and the statuses of the state `s`
(`Model/Select.lean`). `Select.AdmB` asks of a queue evaluation only `Select.Validated s` (pull-request ids are
positive and what `validate()` checks of the queue branches before `_process` may run); the side condition
`DownClosed` of `Adm` is PROVED of the computed selection (`Select.downClosed_selectOf`, from C05). -/

open BertE.Select in
/-- C01, one event, selection computed. Every event of a history whose queue evaluations select what the
    model of `QueueCollection` computes from ANY build statuses — with or without force merge — preserves
    inclusion and the invariant. No hypothesis about the selection. -/
theorem C01_step_closed (s : Sys) (h : Inv s) (ev : EventB) (hadm : AdmB s ev) :
    (step s (ev.toEvent s)).1.Incl ∧ Inv (step s (ev.toEvent s)).1 :=
  ⟨(stepB_inv h ev hadm).incl, stepB_inv h ev hadm⟩

open BertE.Select in
/-- C01, every finite history, selections computed: inclusion holds after every single event, whatever build
    statuses the host reports at each queue evaluation. -/
theorem C01_run_closed (s : Sys) (h : Inv s) (evs : List EventB) (hadm : AdmAllB s evs) :
    ∀ k, (runB s (evs.take k)).Incl :=
  fun k => (runB_inv _ h (admAllB_take evs s hadm k)).incl

open BertE.Select in
/-- the `DownClosed` condition of `Adm` holds of the computed selection -/
theorem C01_adm_closed (s : Sys) (h : Inv s) (hv : Validated s) (b : Builds) (force : Bool) :
    Adm s (evalQueuesB s b force) :=
  downClosed_selectOf h hv b force

open BertE.Select in
/-- Non-vacuity: the history `exHistory` (two branches, two pull requests queued through `.pr` events) is
    admissible from the empty repository; continued by a queue evaluation under `exBuilds` (first pull request
    green, second FAILED) it stays admissible, the evaluation selects exactly the first pull request and moves
    both branches. -/
example : AdmAllB exEmpty (exHistory ++ [.queues exBuilds false]) ∧
    selectOf exSys exBuilds false = [1] ∧
    ((step exSys (evalQueuesB exSys exBuilds false)).1.remote.get (.dest (.dev 4 (some 3))),
     (step exSys (evalQueuesB exSys exBuilds false)).1.remote.get (.dest (.dev 5 (some 1))),
     (step exSys (evalQueuesB exSys exBuilds false)).1.queue.map (·.pr)) = (some 1, some 1, [2]) := by
  refine ⟨?_, exSys_select.1, ?_⟩
  · have happ : ∀ (a c : List EventB) (s : Sys), AdmAllB s a → AdmAllB (runB s a) c → AdmAllB s (a ++ c) := by
      intro a
      induction a with
      | nil => intro c s _ hc; exact hc
      | cons e es ih => intro c s ha hc; exact ⟨ha.1, ih c _ ha.2 hc⟩
    exact happ _ _ _ exHistory_adm ⟨exSys_validated, trivial⟩
  · have hev : evalQueuesB exSys exBuilds false = .evalQueues [1] := by
      unfold evalQueuesB; rw [exSys_select.1]
    rw [hev]
    decide +kernel

example := C01_step_closed Select.exSys Select.exSys_inv (.queues Select.exBuilds true) Select.exSys_validated
example := C01_run_closed Select.exEmpty (C01_inv_empty true false) Select.exHistory Select.exHistory_adm

end BertE.C01

/-! ### Queue merges are safe in ANY state of the remote

`C01_step` / `C01_run` carry inclusion through queue merges under the inductive queue invariant - what the
robot's own queueing establishes. A crash or a refused ref in the middle of `add_to_queue`, a third party
touching `q/*` refs, a destination advancing behind the queue: in those states the code relies on
`QueueCollection.validate()`. `Model/QValidate.lean` models the collection as the code builds it from the
remote refs, `validate()` with its error list, and `handle_merge_queues` guarded by it (`evalQueues`).
NO hypothesis about the `q/*` refs below; `CascadeOK` (every stabilization branch has its development
branch: `BranchCascade.validate`, kept by `create_branch`/`delete_branch`) is the only hypothesis beyond
well-formedness and inclusion, and `C01_queue_validated_needs_cascade` shows that it cannot be dropped. -/
namespace BertE.C01
open BertE.Git BertE.Flow BertE.QV

/-- Soundness of `validate()` (DESIGN section 6, "validate qs = ok → Consistent qs"): if
    the modelled validation reports no error on the collection built from the remote, then on every version the
    master queue exists, the queue commits form a chain above the destination's tip, and along the cascade every
    queue commit is contained in a queue commit of the same pull request on every later destination. -/
theorem C01_validate_sound (s : Sys) (hs : s.WF) (hc : CascadeOK s) (hv : validated s = true) :
    Validated s (build s.g s.remote) := by
  obtain ⟨paths, hp, hval⟩ := (qv_validated_iff s).mp hv
  exact qv_validate_sound hs hc hp hval

/-- C01, queue evaluation in any state. For EVERY state with a well-formed graph and inclusion - whatever the
    `q/*` refs are - and every selection `sel` of pull requests (whatever `_process` computes from the build
    statuses) and every set `wgone` of integration branches cleaned up:
    * if `validate()` reports an error (or another exception escapes) the evaluation contains no operation;
    * every operation of the evaluation is safe for inclusion (`Op.Safe`: one atomic pruning push whose content
      satisfies inclusion), hence inclusion holds at every crash prefix `k` and for every refused ref;
    * no commit is created: every destination update is a fast-forward to an existing commit. -/
theorem C01_queue_validated (s : Sys) (hs : s.WF) (hincl : s.Incl) (hc : CascadeOK s) (sel : List Nat)
    (wgone : List (Dest × String)) (rej : Ref → Bool) (k : Nat) :
    (validated s = false → (evalQueues s sel wgone).ops = []) ∧
    (∀ op ∈ (evalQueues s sel wgone).ops, op.Safe (evalQueues s sel wgone).g) ∧
    (evalQueues s sel wgone).g = s.g ∧
    InclOn (evalQueues s sel wgone).g (observable s (evalQueues s sel wgone) rej k) ∧
    (∀ d o n, s.remote.get (.dest d) = some o →
      (observable s (evalQueues s sel wgone) rej k).get (.dest d) = some n → s.g.le o n = true) := by
  obtain ⟨hg, hops, hnone⟩ := qv_evalQueues_spec hs hincl hc sel wgone
  have hsafe := qv_evalQueues_safe hs hincl hc sel wgone
  refine ⟨hnone, hsafe, hg, ?_, ?_⟩
  · exact incl_of_safe hs hincl (by rw [hg]; exact Extends.refl _) hsafe rej k
  · intro d o n ho hn
    have h1 := (qv_evalQueues_oneShot hs hincl hc sel wgone).observable (evalQueues s sel wgone).g
      (fun _ => rej) k s.remote
    have hobs : observable s (evalQueues s sel wgone) rej k =
        applyOpsAt (evalQueues s sel wgone).g (fun _ => rej) 0 s.remote ((evalQueues s sel wgone).ops.take k) := by
      unfold observable; exact (applyOpsAt_const _ rej _ 0 s.remote).symm
    rw [hobs] at hn
    rcases h1 with h | ⟨_, hf⟩
    · rw [h d, ho] at hn
      simp only [Option.some.injEq] at hn; subst hn
      exact le_refl hs.g (hs.valid _ _ ho)
    · exact hf.grow d o n ho hn

/-- C01, pull-request evaluation with its validation guard, any state: the counterpart of `C01_evalPr`
    without the hypothesis `QueueSafe` - a pull request found already queued runs the guarded queue evaluation,
    and `add_to_queue` is entered only after `validate()` passed. -/
theorem C01_evalPr_validated (s : Sys) (hs : s.WF) (hincl : s.Incl) (hc : CascadeOK s) (pr : PrInfo) (stage : Stage)
    (orc : List Bool) (sel : List Nat) (wgone : List (Dest × String)) (rej : Ref → Bool) (k : Nat) :
    InclOn (planPrV s pr stage orc sel wgone).g (observable s (planPrV s pr stage orc sel wgone) rej k) :=
  incl_of_safe hs hincl (qv_planPrV_gext hs hincl hc pr stage orc sel wgone).ext
    (qv_planPrV_safe hs hincl hc pr stage orc sel wgone) rej k

/-- A half-written queue (what a refusal of `q/5.1` in the push of `add_to_queue` leaves behind: `q/w/1/5.1/…` is
    there, `q/5.1` still on the tip of development/5.1): the validation fails and nothing is done. -/
def qvHalf : Sys :=
  ⟨⟨[[0], [0, 1], [0, 1, 2], [0, 1, 3], [0, 1, 2, 3, 4]]⟩,
   [(.dest (.dev 4 (some 3)), 1), (.dest (.dev 5 (some 1)), 2), (.q (.dev 4 (some 3)), 3), (.q (.dev 5 (some 1)), 2),
    (.qw 1 (.dev 4 (some 3)) "feature/x", 3), (.qw 1 (.dev 5 (some 1)) "feature/x", 4)],
   [(4, some 3), (5, some 1)], [], [], true, false⟩

/-- the same queue completely written -/
def qvFull : Sys := { qvHalf with remote := qvHalf.remote.set (.q (.dev 5 (some 1))) 4 }

/-- Non-vacuity: the half-written queue is refused (`MasterQueueLateVsInt`, `QueueInclusionIssue`), the complete one is accepted and its
    merge moves both destinations to the queue commits. -/
example : errorsOf qvHalf = some [.MasterQueueLateVsInt, .QueueInclusionIssue] ∧
    (evalQueues qvHalf [1] []).ops.length = 0 ∧
    validated qvFull = true ∧
    (observable qvFull (evalQueues qvFull [1] []) noRej 1).get (.dest (.dev 4 (some 3))) = some 3 ∧
    (observable qvFull (evalQueues qvFull [1] []) noRej 1).get (.dest (.dev 5 (some 1))) = some 4 := by decide +kernel

/-- `CascadeOK` cannot be dropped: a stabilization branch whose development branch is missing lies on no merge
    path; its queue is only validated horizontally. Here stabilization/5.1.5 (commit 1) and development/10.0
    (commit 2, containing 1) carry pull request 1, whose queue commit on 5.1.5 (3) is NOT contained in its queue
    commit on 10.0 (4): the validation passes and the merge breaks inclusion. The state is not reachable through
    Bert-E (`create_branch` and every pull-request evaluation refuse a cascade without development/5.1). -/
def qvNoDev : Sys :=
  ⟨⟨[[0], [0, 1], [0, 1, 2], [0, 1, 3], [0, 1, 2, 4]]⟩,
   [(.dest (.stab 5 1 5), 1), (.dest (.dev 10 (some 0)), 2), (.q (.stab 5 1 5), 3), (.q (.dev 10 (some 0)), 4),
    (.qw 1 (.stab 5 1 5) "bugfix/x", 3), (.qw 1 (.dev 10 (some 0)) "bugfix/x", 4)],
   [(10, some 0)], [], [], true, false⟩

theorem C01_queue_validated_needs_cascade :
    qvNoDev.g.le 1 2 = true ∧ validated qvNoDev = true ∧
    (observable qvNoDev (evalQueues qvNoDev [1] []) noRej 1).get (.dest (.stab 5 1 5)) = some 3 ∧
    (observable qvNoDev (evalQueues qvNoDev [1] []) noRej 1).get (.dest (.dev 10 (some 0))) = some 4 ∧
    qvNoDev.g.le 3 4 = false := by decide +kernel

end BertE.C01


/-! ### `Validated` is not a per-step hypothesis

`C01_step_closed` / `C01_run_closed` ask `Select.Validated s` at every queue evaluation (through `Select.AdmB`).
The plain invariant `Inv` does not imply it (it says nothing of `q/w/` refs that belong to no queued pull request,
of queue branches no queued pull request targets, of the cascade). `Close.InvV = Inv ∧ Close.VX` adds exactly the
missing clauses (ids positive; every `q/w/` ref belongs to a queued pull request; the development branches of the
bookkeeping exist; queue branches upper-closed along the cascade; every stabilization branch has its development
branch), holds of the empty repository, is preserved by EVERY event (`Close.close_stepV_inv`) and implies
`Validated`. `Close.AdmV` is `Select.AdmB` WITHOUT its `Validated` clauses, plus: the evaluated pull request has a
positive id; `create_branch` of a stabilization branch finds its development branch and `delete_branch` of a
development branch finds no stabilization branch of it (checks of the real jobs, `Close.AdmC`). -/
namespace BertE.C01
open BertE.Git BertE.Flow BertE.Select BertE.Close

theorem C01_validated_of_invV (s : Sys) (h : InvV s) : Validated s := close_validated_of_invV h

theorem C01_invV_init (useQueue skipQueue : Bool) : InvV ⟨Graph.empty, [], [], [], [], useQueue, skipQueue⟩ :=
  close_invV_init useQueue skipQueue

/-- C01, one event, selection computed, no `Validated` hypothesis. Every event — queue evaluations and
    pull-request evaluations with the selection the model of `QueueCollection` computes from ANY build statuses,
    with or without force merge, admin jobs, third-party pushes — preserves inclusion and the strengthened
    invariant, hence `Validated` holds again in the next state. -/
theorem C01_step_closed2 (s : Sys) (h : InvV s) (ev : EventB) (hadm : AdmV s ev) :
    (step s (ev.toEvent s)).1.Incl ∧ InvV (step s (ev.toEvent s)).1 ∧ Validated (step s (ev.toEvent s)).1 :=
  ⟨(close_stepV_inv h ev hadm).inv.incl, close_stepV_inv h ev hadm,
   close_validated_of_invV (close_stepV_inv h ev hadm)⟩

/-- C01, every finite history, selections computed, no `Validated` hypothesis: inclusion (and `Validated`)
    holds after every single event. -/
theorem C01_run_closed2 (s : Sys) (h : InvV s) (evs : List EventB) (hadm : AdmAllV s evs) :
    ∀ k, (runB s (evs.take k)).Incl ∧ Validated (runB s (evs.take k)) :=
  fun k => ⟨(close_runV_inv _ h (close_admAllV_take evs s hadm k)).inv.incl,
    close_validated_of_invV (close_runV_inv _ h (close_admAllV_take evs s hadm k))⟩

/-- Non-vacuity: the history `exHistory` (two branches, two pull requests queued) continued by a queue evaluation
    with ANY statuses and a force merge is admissible from the empty repository in the new sense - no condition on
    the two queue evaluations - and the state it reaches satisfies the strengthened invariant. -/
example (b : Builds) : AdmAllV exEmpty (exHistory ++ [.queues b false, .queues b true]) ∧ InvV exSys := by
  refine ⟨?_, close_exSys_invV⟩
  have happ : ∀ (a c : List EventB) (s : Sys), AdmAllV s a → AdmAllV (runB s a) c → AdmAllV s (a ++ c) := by
    intro a
    induction a with
    | nil => intro c s _ hc; exact hc
    | cons e es ih => intro c s ha hc; exact ⟨ha.1, ih c _ ha.2 hc⟩
  exact happ _ _ _ close_exHistory_admV ⟨trivial, trivial, trivial⟩

example := C01_step_closed2 Select.exSys close_exSys_invV (.queues Select.exBuilds true) trivial
example := C01_run_closed2 Select.exEmpty (close_invV_init true false) Select.exHistory close_exHistory_admV

end BertE.C01


/-! ### Completeness of `validate()` on robot-made queues

`C01_validate_sound` is the soundness of the modelled `QueueCollection.validate()`. Completeness — the robot's own
queueing passes validation — holds on every state that satisfies `Close.InvQ` (= `Close.InvV` plus `Close.QSync`:
the queue branch `q/<v>` follows the newest queued pull request of the version; `InvQ` holds of the empty repository
and is preserved by EVERY event: `Close.close_stepQ_inv`), under the side conditions on the cascade that let
`handle_merge_queues` reach `validate()` at all (`Close.CascadeSide`: one stabilization branch per major.minor, at
least one development branch) and `Close.NoTies` (no two queue-integration refs of one version are the same
commit). Without `NoTies` it fails: that is exactly the known finding D18 (`C05_validate_ties_counterexample`). -/
namespace BertE.C01
open BertE.Git BertE.Flow BertE.Select BertE.Close BertE.QV

/-- Completeness of `validate()` on the collection the code builds from the refs of a robot-made, tie-free state. -/
theorem C01_validate_complete (s : Sys) (h : InvQ s) (hcs : CascadeSide s) (hnt : NoTies s) :
    validate s.g s.remote (build s.g s.remote) (mergePaths (devsPresent s) (stabsPresent s.remote)) = .ok [] ∧
    validated s = true ∧ errorsOf s = some [] :=
  ⟨close_validate_complete h.invV h.sync hcs hnt, close_validated h.invV h.sync hcs hnt⟩

/-- Completeness along histories: after ANY admissible history from the empty repository, if the cascade lets
    the queue evaluation reach `validate()` and there is no tie, `validate()` accepts the queues. Together with
    `C01_validate_sound`: on reachable tie-free states validation neither blocks the robot's own queues nor
    accepts unsafe ones. -/
theorem C01_validate_complete_run (useQueue skipQueue : Bool) (evs : List EventB)
    (hadm : AdmAllV ⟨Graph.empty, [], [], [], [], useQueue, skipQueue⟩ evs)
    (hcs : CascadeSide (runB ⟨Graph.empty, [], [], [], [], useQueue, skipQueue⟩ evs))
    (hnt : NoTies (runB ⟨Graph.empty, [], [], [], [], useQueue, skipQueue⟩ evs)) :
    validated (runB ⟨Graph.empty, [], [], [], [], useQueue, skipQueue⟩ evs) = true :=
  (C01_validate_complete _ (close_runQ_inv evs (close_invQ_init useQueue skipQueue) hadm) hcs hnt).2.1

/-- The ref-based queue evaluation is the bookkeeping-based one (`_partial`: besides the hypotheses of
    completeness it needs the antisymmetry of commit inclusion, `Close.close_Antisym s.g` — true of every graph built
    by `Graph.addCommit` (`close_mono_antisym`, `close_mono_addCommit`). The full statement, without `ha`, is
    `C01_evalQueues_eq` below: antisymmetry is part of `Full2.SysInv`).
    On such a state, for a downward-closed selection that selects a queued pull request, `QV.evalQueues` (reads only
    refs, guarded by `validate()`) and `Flow.planQueues` (reads the ghost bookkeeping `Sys.queue`) are the same
    plan: one atomic pruning push with the same content (as maps), the same graph, bookkeeping and outcome. -/
theorem C01_evalQueues_eq_partial (s : Sys) (h : InvQ s) (ha : close_Antisym s.g) (hcs : CascadeSide s)
    (hnt : NoTies s) (sel : List Nat) (hdc : DownClosed s sel)
    (hne : (s.queue.filter fun e => sel.contains e.pr) ≠ []) :
    ∃ loc loc', (QV.evalQueues s sel (close_wgone s sel)).ops = [.pushAll loc true] ∧
      (planQueues s sel).ops = [.pushAll loc' true] ∧ (∀ x, loc.get x = loc'.get x) ∧
      (QV.evalQueues s sel (close_wgone s sel)).g = (planQueues s sel).g ∧
      (QV.evalQueues s sel (close_wgone s sel)).queue = (planQueues s sel).queue ∧
      (QV.evalQueues s sel (close_wgone s sel)).outcome = (planQueues s sel).outcome :=
  close_evalQueues_eq_partial h.invV ha h.sync hcs hnt sel hdc hne

/-- the same for the selection COMPUTED from any build statuses (it is downward closed: `downClosed_selectOf`) -/
theorem C01_evalQueues_eq_computed_partial (s : Sys) (h : InvQ s) (ha : close_Antisym s.g) (hcs : CascadeSide s)
    (hnt : NoTies s) (b : Builds) (force : Bool)
    (hne : (s.queue.filter fun e => (selectOf s b force).contains e.pr) ≠ []) (rej : Ref → Bool) (k : Nat) (x : Ref) :
    (observable s (QV.evalQueues s (selectOf s b force) (close_wgone s (selectOf s b force))) rej k).get x =
    (observable s (planQueues s (selectOf s b force)) rej k).get x :=
  close_evalQueues_observable h.invV ha h.sync hcs hnt _
    (downClosed_selectOf h.invV.inv (close_validated_of_invV h.invV) b force) hne rej k x

private theorem exSys_cascadeSide : CascadeSide exSys := by decide +kernel

/-- Non-vacuity: `exSys` meets every hypothesis (also the antisymmetry), and pull request 1 is selected under
    `exBuilds`. -/
example : InvQ exSys ∧ close_Antisym exSys.g ∧ CascadeSide exSys ∧ NoTies exSys ∧
    (exSys.queue.filter fun e => (selectOf exSys exBuilds false).contains e.pr) ≠ [] := by
  refine ⟨close_exSys_invQ, close_mono_antisym close_exSys_mono, exSys_cascadeSide, close_exSys_noTies, ?_⟩
  rw [exSys_select.1]; decide

example := C01_validate_complete exSys close_exSys_invQ exSys_cascadeSide close_exSys_noTies
example := C01_validate_complete_run true false exHistory close_exHistory_admV exSys_cascadeSide close_exSys_noTies
example := C01_evalQueues_eq_partial exSys close_exSys_invQ (close_mono_antisym close_exSys_mono) exSys_cascadeSide close_exSys_noTies

end BertE.C01


/-! ### Antisymmetry of commit inclusion is part of the invariant

`Full2.SysInv` = `Close.InvQ` + monotone commit numbering (`close_Mono`, preserved by `addCommit` and every merge of a
job: `full2_step_mono`) + distinct keys of the remote ref map (`full2_step_keys`); every admissible event preserves it
(`full2_step_sysInv`), the closed system `Full.step` preserves it with no admissibility hypothesis (`C01_full_step`).
Under `SysInv` the hypothesis `ha` of `C01_evalQueues_eq_partial` is discharged. -/
namespace BertE.C01
open BertE.Git BertE.Flow BertE.Select BertE.Close BertE.QV

/-- The ref-based queue evaluation is the bookkeeping-based one: the full statement of `C01_evalQueues_eq_partial`,
    the antisymmetry now coming from the invariant. -/
theorem C01_evalQueues_eq (s : Sys) (h : BertE.Full2.SysInv s) (hcs : CascadeSide s)
    (hnt : NoTies s) (sel : List Nat) (hdc : DownClosed s sel)
    (hne : (s.queue.filter fun e => sel.contains e.pr) ≠ []) :
    ∃ loc loc', (QV.evalQueues s sel (close_wgone s sel)).ops = [.pushAll loc true] ∧
      (planQueues s sel).ops = [.pushAll loc' true] ∧ (∀ x, loc.get x = loc'.get x) ∧
      (QV.evalQueues s sel (close_wgone s sel)).g = (planQueues s sel).g ∧
      (QV.evalQueues s sel (close_wgone s sel)).queue = (planQueues s sel).queue ∧
      (QV.evalQueues s sel (close_wgone s sel)).outcome = (planQueues s sel).outcome :=
  C01_evalQueues_eq_partial s h.invQ h.antisym hcs hnt sel hdc hne

/-- the same for the selection COMPUTED from any build statuses, as observable effect at every crash point and for
    every refused ref -/
theorem C01_evalQueues_eq_computed (s : Sys) (h : BertE.Full2.SysInv s) (hcs : CascadeSide s)
    (hnt : NoTies s) (b : Builds) (force : Bool)
    (hne : (s.queue.filter fun e => (selectOf s b force).contains e.pr) ≠ []) (rej : Ref → Bool) (k : Nat) (x : Ref) :
    (observable s (QV.evalQueues s (selectOf s b force) (close_wgone s (selectOf s b force))) rej k).get x =
    (observable s (planQueues s (selectOf s b force)) rej k).get x :=
  C01_evalQueues_eq_computed_partial s h.invQ h.antisym hcs hnt b force hne rej k x

/-- ... along every admissible history of the repository model from the empty repository -/
theorem C01_evalQueues_eq_run (useQueue skipQueue : Bool) (evs : List Event)
    (hadm : BertE.Full2.AdmAllC ⟨Graph.empty, [], [], [], [], useQueue, skipQueue⟩ evs)
    (hcs : CascadeSide (run ⟨Graph.empty, [], [], [], [], useQueue, skipQueue⟩ evs))
    (hnt : NoTies (run ⟨Graph.empty, [], [], [], [], useQueue, skipQueue⟩ evs)) (sel : List Nat)
    (hdc : DownClosed (run ⟨Graph.empty, [], [], [], [], useQueue, skipQueue⟩ evs) sel)
    (hne : ((run ⟨Graph.empty, [], [], [], [], useQueue, skipQueue⟩ evs).queue.filter fun e => sel.contains e.pr) ≠ []) :
    (QV.evalQueues (run ⟨Graph.empty, [], [], [], [], useQueue, skipQueue⟩ evs) sel
        (close_wgone (run ⟨Graph.empty, [], [], [], [], useQueue, skipQueue⟩ evs) sel)).outcome =
      (planQueues (run ⟨Graph.empty, [], [], [], [], useQueue, skipQueue⟩ evs) sel).outcome := by
  obtain ⟨_, _, _, _, _, _, _, h⟩ := C01_evalQueues_eq _
    (BertE.Full2.full2_run_sysInv evs (BertE.Full2.full2_sysInv_init useQueue skipQueue) hadm) hcs hnt sel hdc hne
  exact h

/-- Non-vacuity: `exSys` satisfies the whole invariant -/
example := C01_evalQueues_eq exSys BertE.Full2.full2_exSys_sysInv exSys_cascadeSide close_exSys_noTies
example : BertE.Full2.SysInv exSys ∧ CascadeSide exSys ∧ NoTies exSys ∧
    (exSys.queue.filter fun e => (selectOf exSys exBuilds false).contains e.pr) ≠ [] := by
  refine ⟨BertE.Full2.full2_exSys_sysInv, exSys_cascadeSide, close_exSys_noTies, ?_⟩
  rw [exSys_select.1]; decide

end BertE.C01
