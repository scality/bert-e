import BertE.Model.Comments
/- Lemmas about the comment thread model: what `find_comment` returns in its three regimes, when
   `_send_comment` posts, and that the command pass only sees the comments newer than the robot's latest one. -/
namespace BertE.Comments
open BertE.Reactor (Comment)

theorem findLoop_cons_ne {u : String} {c : Comment} (h : c.author ≠ u) (sw : Option (List Char)) (b : Bool)
    (rest : List Comment) : findLoop (some u) sw b (c :: rest) = findLoop (some u) sw b rest := by
  simp [findLoop, h]

theorem findLoop_cons_eq (c : Comment) (sw : Option (List Char)) (b : Bool) (rest : List Comment) :
    findLoop (some c.author) sw b (c :: rest) =
      match sw with
      | some p => if p.isPrefixOf c.text then some c else if b then none else findLoop (some c.author) sw b rest
      | none => some c := by
  cases sw <;> simp [findLoop]

theorem findLoop_none (u : String) (b : Bool) (l : List Comment) :
    findLoop (some u) none b l = l.find? (fun c => c.author == u) := by
  induction l with
  | nil => rfl
  | cons c rest ih =>
    by_cases h : c.author = u
    · subst h
      rw [findLoop_cons_eq, List.find?_cons_of_pos (by simp)]
    · rw [findLoop_cons_ne h, List.find?_cons_of_neg (by simpa using h), ih]

/-- regime `-1`: only the latest comment of the author counts -/
theorem findLoop_latest (u : String) (p : List Char) (l : List Comment) :
    findLoop (some u) (some p) true l =
      match l.find? (fun c => c.author == u) with
      | some c => if p.isPrefixOf c.text then some c else none
      | none => none := by
  induction l with
  | nil => rfl
  | cons c rest ih =>
    by_cases h : c.author = u
    · subst h
      rw [findLoop_cons_eq, List.find?_cons_of_pos (by simp)]
      rfl
    · rw [findLoop_cons_ne h, List.find?_cons_of_neg (by simpa using h), ih]

theorem findLoop_some {u : String} {sw : Option (List Char)} {b : Bool} {l : List Comment} {c : Comment}
    (h : findLoop (some u) sw b l = some c) :
    c ∈ l ∧ c.author = u ∧ ∀ p, sw = some p → p.isPrefixOf c.text = true := by
  induction l with
  | nil => cases h
  | cons d rest ih =>
    have htail : findLoop (some u) sw b rest = some c →
        c ∈ d :: rest ∧ c.author = u ∧ ∀ p, sw = some p → p.isPrefixOf c.text = true :=
      fun h' => ⟨List.mem_cons_of_mem _ (ih h').1, (ih h').2⟩
    by_cases hd : d.author = u
    · subst hd
      rw [findLoop_cons_eq] at h
      cases sw with
      | none =>
        cases h
        exact ⟨List.mem_cons_self, rfl, fun _ hp => nomatch hp⟩
      | some p =>
        simp only at h
        split at h
        · next hp =>
          cases h
          exact ⟨List.mem_cons_self, rfl, fun q hq => by cases hq; exact hp⟩
        · split at h
          · cases h
          · exact htail h
    · rw [findLoop_cons_ne hd] at h
      exact htail h

theorem swActive_some (p : List Char) : swActive (some p) = if p = [] then none else some p := by
  cases p <;> rfl

/-- regime −1: the message is posted unless the robot's latest comment starts with it -/
theorem send_latest (robot : String) (cs : List Comment) (msg : List Char) :
    sendComment false robot cs msg (some (-1)) =
      match latestOf robot cs with
      | some c => if msg.isPrefixOf c.text then .exists else .posted (cs ++ [⟨robot, msg⟩])
      | none => .posted (cs ++ [⟨robot, msg⟩]) := by
  have hact : norepeatActive (some (-1)) = true := by decide
  simp only [sendComment, hact, findComment, Bool.false_eq_true, ↓reduceIte, latestOf, swActive_some]
  have h1 : ((-1 : Int) == -1) = true := by decide
  simp only [h1, ↓reduceIte]
  by_cases hm : msg = []
  · subst hm
    simp only [↓reduceIte, findLoop_none]
    cases List.find? (fun c => c.author == robot) cs.reverse with
    | none => rfl
    | some c => simp [List.isPrefixOf]
  · simp only [hm, ↓reduceIte, findLoop_latest]
    cases List.find? (fun c => c.author == robot) cs.reverse with
    | none => rfl
    | some c => cases hp : msg.isPrefixOf c.text <;> simp [hp]

/-- regimes 0 and None: always posted -/
theorem send_always (robot : String) (cs : List Comment) (msg : List Char) (nr : Option Int)
    (h : norepeatActive nr = false) :
    sendComment false robot cs msg nr = .posted (cs ++ [⟨robot, msg⟩]) := by
  simp [sendComment, h]

theorem send_posted {nc : Bool} {robot : String} {cs cs' : List Comment} {msg : List Char} {nr : Option Int}
    (h : sendComment nc robot cs msg nr = .posted cs') : cs' = cs ++ [⟨robot, msg⟩] := by
  unfold sendComment at h
  split at h
  · cases h
  · split at h
    · split at h
      · cases h
      · cases h
      · cases h; rfl
    · cases h; rfl

theorem send_window_newest (robot : String) (cs : List Comment) (msg : List Char) (n : Int) (hn : 1 ≤ n ∨ n = -1) :
    sendComment false robot (cs ++ [⟨robot, msg⟩]) msg (some n) = .exists := by
  have hact : norepeatActive (some n) = true := by
    simp only [norepeatActive, bne_iff_ne, ne_eq]; omega
  simp only [sendComment, hact, findComment, Bool.false_eq_true, ↓reduceIte, List.reverse_append,
    List.reverse_cons, List.reverse_nil, List.nil_append, List.cons_append]
  have hpre : msg.isPrefixOf msg = true := List.isPrefixOf_iff_prefix.mpr (List.prefix_refl _)
  have hloop : ∀ (b : Bool) (rest : List Comment),
      findLoop (some robot) (swActive (some msg)) b (⟨robot, msg⟩ :: rest) = some ⟨robot, msg⟩ := by
    intro b rest
    rw [swActive_some]
    by_cases hm : msg = []
    · simp [hm, findLoop]
    · simp [hm, findLoop, hpre]
  rcases hn with hn | hn
  · have h1 : (n == -1) = false := by simp; omega
    have h2 : ¬ n < 0 := by omega
    have h3 : n.toNat = (n.toNat - 1) + 1 := by omega
    simp only [h1, Bool.false_eq_true, ↓reduceIte, h2]
    rw [h3, List.take_succ_cons, hloop]
  · subst hn
    have h1 : ((-1 : Int) == -1) = true := by decide
    simp only [h1, ↓reduceIte, hloop]

theorem latestOf_append_robot (robot : String) (cs : List Comment) (t : List Char) :
    latestOf robot (cs ++ [⟨robot, t⟩]) = some ⟨robot, t⟩ := by
  simp [latestOf]

theorem latestOf_append_other (robot : String) (cs : List Comment) (c : Comment) (h : c.author ≠ robot) :
    latestOf robot (cs ++ [c]) = latestOf robot cs := by
  simp [latestOf, h]

theorem latestOf_eq_getLast (robot : String) (cs : List Comment) :
    latestOf robot cs = (cs.filter (fun c => c.author == robot)).getLast? := by
  rw [List.getLast?_filter]; rfl

theorem newerThanRobot_append_robot (robot : String) (cs : List Comment) (t : List Char) :
    newerThanRobot robot (cs ++ [⟨robot, t⟩]) = [] := by
  simp [newerThanRobot]

theorem pendingCommands_append_robot (ctok : BertE.Reactor.CmdTok) (reg : BertE.Reactor.Registry) (robot : String)
    (cs : List Comment) (t : List Char) : pendingCommands ctok reg robot (cs ++ [⟨robot, t⟩]) = [] := by
  simp [pendingCommands, newerThanRobot_append_robot]

open BertE.Reactor in
theorem commandPass_newer (ctok : CmdTok) (reg : Registry) (env : Env) (st : State) (rev : List Comment) :
    commandPass ctok reg env st rev = commandPass ctok reg env st (rev.takeWhile (fun c => c.author != env.robot)) := by
  induction rev with
  | nil => rfl
  | cons c rest ih =>
    by_cases h : c.author = env.robot
    · simp [commandPass, h]
    · have h1 : (c.author == env.robot) = false := by simp [h]
      have h2 : (c.author != env.robot) = true := by simp [h]
      simp only [List.takeWhile_cons, h2, ↓reduceIte, commandPass, h1, Bool.false_eq_true]
      cases ctok c.text with
      | none => exact ih
      | some kv =>
        obtain ⟨key, args⟩ := kv
        simp only
        cases reg.dispatch key with
        | unknown => rfl
        | opt _ => exact ih
        | cmd _ => rfl

open BertE.Reactor in
/-- the pass may still stop on an error (an unknown word) -/
theorem commandPass_no_pending (ctok : CmdTok) (reg : Registry) (env : Env) (st : State) (rev : List Comment)
    (h : ∀ c ∈ rev.takeWhile (fun c => c.author != env.robot), ∀ key args, ctok c.text = some (key, args) →
      ∀ cm, reg.dispatch key ≠ .cmd cm) :
    ∀ st' name args, commandPass ctok reg env st rev ≠ .command st' name args := by
  induction rev with
  | nil => intro st' name args hc; simp [commandPass] at hc
  | cons c rest ih =>
    intro st' name args
    by_cases hr : c.author = env.robot
    · simp [commandPass, hr]
    · have h1 : (c.author == env.robot) = false := by simp [hr]
      have h2 : (c.author != env.robot) = true := by simp [hr]
      simp only [List.takeWhile_cons, h2, ↓reduceIte] at h
      have ih' := ih (fun d hd => h d (List.mem_cons_of_mem _ hd))
      simp only [commandPass, h1, Bool.false_eq_true, ↓reduceIte]
      cases hk : ctok c.text with
      | none => exact ih' st' name args
      | some kv =>
        obtain ⟨key, as⟩ := kv
        simp only
        cases hd : reg.dispatch key with
        | unknown => simp
        | opt _ => exact ih' st' name args
        | cmd cm => exact absurd hd (h c List.mem_cons_self key as hk cm)

end BertE.Comments
