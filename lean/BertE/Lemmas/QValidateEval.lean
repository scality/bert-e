import BertE.Lemmas.QValidate
import BertE.Lemmas.C02
import BertE.Lemmas.PlanValid
import BertE.Lemmas.C03Direct
/- The queue evaluation guarded by `validate()`, in ANY state of the remote: it does nothing, or one atomic push
   whose content keeps inclusion and carries every selected queue commit. -/
namespace BertE.QV
open BertE.Git BertE.Flow

section
variable {α : Type}

theorem qv_binarySort_perm (lt : α → α → Bool) : ∀ (rest sorted : List α),
    (binarySort lt sorted rest).Perm (sorted ++ rest)
  | [], sorted => by simp [binarySort]
  | x :: rest, sorted => by
    simp only [binarySort]
    refine (qv_binarySort_perm lt rest _).trans ?_
    generalize bisect lt x sorted 0 sorted.length = k
    have h1 := @List.perm_middle _ x (sorted.take k) (sorted.drop k)
    rw [List.take_append_drop] at h1
    exact (h1.append_right rest).trans List.perm_middle.symm

theorem qv_pySort_perm (lt : α → α → Bool) (l : List α) : (pySort lt l).Perm l := by
  unfold pySort
  simp only
  refine (qv_binarySort_perm lt _ _).trans ?_
  generalize (countRun lt l).1 = n
  have h : (if (countRun lt l).2 = true then (l.take n).reverse else l.take n).Perm (l.take n) := by
    split
    · exact List.reverse_perm _
    · exact List.Perm.refl _
  have := h.append_right (l.drop n)
  rwa [List.take_append_drop] at this

theorem qv_pySortRev_perm (lt : α → α → Bool) (l : List α) : (pySortRev lt l).Perm l :=
  (List.reverse_perm _).trans ((qv_pySort_perm lt _).trans (List.reverse_perm _))

end

def keys (c : Coll) : List Dest := c.map (·.d)

theorem qv_keys_updateV (c : Coll) (d : Dest) (f : VQ → VQ) (hf : ∀ v, (f v).d = v.d) : keys (updateV c d f) = keys c := by
  unfold keys updateV
  rw [List.map_map]
  apply List.map_congr_left
  intro v _
  simp only [Function.comp]
  split
  · exact hf v
  · rfl

theorem qv_keys_addVersion (c : Coll) (d : Dest) (h : (keys c).Nodup) : (keys (addVersion c d)).Nodup := by
  unfold addVersion
  split
  · exact h
  · next hany =>
    have hk : (keys (pySort (fun a b : VQ => cmpQueuesLt a.d b.d) (c ++ [⟨d, none, []⟩]))).Perm (keys c ++ [d]) := by
      have := (qv_pySort_perm (fun a b : VQ => cmpQueuesLt a.d b.d) (c ++ [⟨d, none, []⟩])).map (fun v : VQ => v.d)
      simpa [keys] using this
    rw [hk.nodup_iff, List.nodup_append]
    refine ⟨h, by simp, ?_⟩
    rintro a ha b hb rfl
    obtain rfl := List.mem_singleton.mp hb
    obtain ⟨v, hv, hvd⟩ := List.mem_map.mp ha
    exact hany (List.any_eq_true.mpr ⟨v, hv, by simp [hvd]⟩)

theorem qv_keys_addBranch (c : Coll) (rc : Ref × Commit) (h : (keys c).Nodup) : (keys (addBranch c rc)).Nodup := by
  have hu : ∀ d (f : VQ → VQ), (∀ v, (f v).d = v.d) → (keys (updateV (addVersion c d) d f)).Nodup := fun d f hf => by
    rw [qv_keys_updateV _ d f hf]; exact qv_keys_addVersion c d h
  unfold addBranch
  split
  · exact hu _ _ (fun _ => rfl)
  · exact hu _ _ (fun _ => rfl)
  · exact h

theorem qv_keys_foldl : ∀ (rs : List (Ref × Commit)) (c : Coll), (keys c).Nodup → (keys (rs.foldl addBranch c)).Nodup
  | [], _, h => h
  | rc :: rs, c, h => qv_keys_foldl rs _ (qv_keys_addBranch c rc h)

/-- `_queues` is a dict: one entry per version -/
theorem qv_build_nodup (g : Graph) (remote : RefMap) : (keys (build g remote)).Nodup := by
  unfold build finalize keys
  rw [List.map_map]
  exact qv_keys_foldl _ [] List.nodup_nil

theorem qv_keys_removeUnmergeable (sel : List Nat) (c : Coll) : keys (removeUnmergeable sel c) = keys c := by
  unfold keys removeUnmergeable
  rw [List.map_map]; rfl

theorem qv_intsOf_not_mem {c : Coll} {d : Dest} (h : d ∉ keys c) : intsOf c d = [] := by
  induction c with
  | nil => rfl
  | cons x xs ih =>
    simp only [keys, List.map_cons, List.mem_cons, not_or] at h
    rw [qv_intsOf_cons, if_neg (Ne.symm h.1), ih h.2]

theorem qv_intsOf_mem {c : Coll} {v : VQ} (hn : (keys c).Nodup) (hv : v ∈ c) : intsOf c v.d = v.ints := by
  induction c with
  | nil => cases hv
  | cons x xs ih =>
    simp only [keys, List.map_cons, List.nodup_cons] at hn
    rw [qv_intsOf_cons]
    rcases List.mem_cons.mp hv with rfl | hv'
    · rw [if_pos rfl]
    · rw [if_neg (fun he => hn.1 (List.mem_map.mpr ⟨v, hv', he.symm⟩)), ih hn.2 hv']

theorem qv_intsOf_removeUnmergeable (sel : List Nat) (d : Dest) : ∀ (c : Coll),
    intsOf (removeUnmergeable sel c) d = (intsOf c d).dropWhile (fun i => !sel.contains i.pr)
  | [] => rfl
  | v :: vs => by
    have ih := qv_intsOf_removeUnmergeable sel d vs
    unfold removeUnmergeable at ih ⊢
    rw [List.map_cons, qv_intsOf_cons, qv_intsOf_cons, ih]
    split <;> rfl

theorem qv_mergeQueues_cons {l : Loc} {v : VQ} {vs : Coll} {r : Loc × List Ref}
    (h : mergeQueues l (v :: vs) = some r) :
    (v.ints = [] ∧ mergeQueues l vs = some r) ∨
    ∃ x xs l' r', v.ints = x :: xs ∧ l.merge (.dest v.d) [x.tip] = some l' ∧ mergeQueues l' vs = some r' ∧
      r = (r'.1, v.ints.map (fun i => Ref.qw i.pr v.d i.src) ++ r'.2) := by
  unfold mergeQueues at h
  split at h
  · cases h
  · split at h
    · exact Or.inl ⟨by assumption, h⟩
    · split at h
      · cases h
      · split at h
        · cases h
        · simp only [Option.some.injEq] at h
          exact Or.inr ⟨_, _, _, _, by assumption, by assumption, by assumption, h.symm⟩

/-- where `merge_queues` leaves a destination, given the first remaining queue-integration branch of its version -/
def Moved (g : Graph) (old new : Option Commit) : Option QInt → Prop
  | none => new = old
  | some x => ∃ n, new = some n ∧ g.le x.tip n = true ∧ g.le n x.tip = true

theorem qv_mergeQueues_spec : ∀ (c : Coll) {l : Loc} {r : Loc × List Ref}, l.OK → (keys c).Nodup →
    (∀ v ∈ c, ∃ t, l.refs.get (.dest v.d) = some t ∧ ∀ x ∈ v.ints.head?, l.g.le t x.tip = true) →
    mergeQueues l c = some r →
    r.1.g = l.g ∧ r.1.OK ∧
    ∀ d, Moved l.g (l.refs.get (.dest d)) (r.1.refs.get (.dest d)) (intsOf c d).head?
  | [], l, r, hl, _, _, hm => by
    simp only [mergeQueues, Option.some.injEq] at hm
    subst hm
    exact ⟨rfl, hl, fun _ => rfl⟩
  | v :: vs, l, r, hl, hn, hpre, hm => by
    simp only [keys, List.map_cons, List.nodup_cons] at hn
    have hpre' := fun w hw => hpre w (List.mem_cons_of_mem _ hw)
    -- no later entry is of the version of `v`
    have hv0 : (intsOf vs v.d).head? = none := by rw [qv_intsOf_not_mem hn.1]; rfl
    rcases qv_mergeQueues_cons hm with ⟨hi, hm'⟩ | ⟨x, xs, l', r', hi, hmg, hm', rfl⟩
    · obtain ⟨h1, h2, h3⟩ := qv_mergeQueues_spec vs hl hn.2 hpre' hm'
      refine ⟨h1, h2, fun d => ?_⟩
      rw [qv_intsOf_cons]
      split
      · next hd =>
        subst hd
        have := h3 v.d
        rw [hv0] at this
        rw [hi]
        exact this
      · exact h3 d
    · obtain ⟨t, ht, hle⟩ := hpre v List.mem_cons_self
      -- the destination's tip is contained in the head: the merge is a fast-forward or a no-op
      have hle' := hle x (by rw [hi]; rfl)
      obtain ⟨h, hmg', _, hxh, hhx⟩ := Loc.merge_ff hl ht (h := x.tip) (List.mem_cons_of_mem _ List.mem_cons_self)
        (forall_mem_pair.mpr ⟨hle', le_refl hl.wf (le_size hl.wf hle').2⟩)
      obtain rfl := Option.some.inj (hmg'.symm.trans hmg)
      have hother : ∀ {d}, v.d ≠ d → (l.refs.set (.dest v.d) h).get (.dest d) = l.refs.get (.dest d) :=
        fun hd => RefMap.get_set_ne _ _ (by simpa using Ne.symm hd)
      obtain ⟨h1, h2, h3⟩ := qv_mergeQueues_spec vs (l := { l with refs := l.refs.set (.dest v.d) h })
        ⟨hl.wf, hl.valid.set (le_size hl.wf hxh).2⟩ hn.2
        (fun w hw => by
          rw [hother (fun he => hn.1 (List.mem_map.mpr ⟨w, hw, he.symm⟩))]
          exact hpre' w hw) hm'
      refine ⟨h1, h2, fun d => ?_⟩
      rw [qv_intsOf_cons]
      split
      · next hd =>
        subst hd
        have := h3 v.d
        rw [hv0] at this
        rw [hi]
        exact ⟨h, this.trans (RefMap.get_set_eq _ _ _), hxh, hhx⟩
      · next hd => rw [← hother hd]; exact h3 d

theorem qv_head_dropWhile_above {α : Type} {R : α → α → Prop} (p : α → Bool) : ∀ {l : List α}, l.Pairwise R →
    ∀ {z : α}, z ∈ l → p z = false → ∃ w, (l.dropWhile p).head? = some w ∧ (w = z ∨ R w z)
  | [], _, _, hz, _ => nomatch hz
  | x :: xs, hl, z, hz, hpz => by
    rw [List.pairwise_cons] at hl
    by_cases hx : p x = true
    · rw [List.dropWhile_cons_of_pos hx]
      rcases List.mem_cons.mp hz with rfl | hz'
      · rw [hx] at hpz; cases hpz
      · exact qv_head_dropWhile_above p hl.2 hz' hpz
    · rw [List.dropWhile_cons_of_neg hx]
      refine ⟨x, rfl, ?_⟩
      rcases List.mem_cons.mp hz with rfl | hz'
      · exact Or.inl rfl
      · exact Or.inr (hl.1 z hz')

theorem Validated.ints {s : Sys} {c : Coll} (hv : Validated s c) (d : Dest) :
    (∀ x ∈ intsOf c d, ∃ t, s.remote.get (.dest d) = some t ∧ s.g.le t x.tip = true) ∧
      (intsOf c d).Pairwise (fun a b => s.g.le b.tip a.tip = true) := by
  unfold intsOf
  cases hf : c.find? (fun v => v.d == d) with
  | none => exact ⟨fun _ hx => (nomatch hx), List.Pairwise.nil⟩
  | some v =>
    have hd : v.d = d := by simpa using List.find?_some hf
    obtain ⟨t, ht, hall⟩ := (hv.horiz v (List.mem_of_find?_eq_some hf)).dst
    exact ⟨fun x hx => ⟨t, hd ▸ ht, hall x hx⟩, (hv.horiz v (List.mem_of_find?_eq_some hf)).chain⟩

/-- `merge_queues` on a validated collection: no commit is created (every merge is a fast-forward or a
    no-op) and the resulting refs satisfy inclusion — for ANY selection of pull requests. -/
theorem qv_merge_incl {s : Sys} (hs : s.WF) (hincl : s.Incl) {c : Coll} (hn : (keys c).Nodup)
    (hv : Validated s c) (sel : List Nat) {r : Loc × List Ref}
    (hm : mergeQueues ⟨s.g, s.remote, []⟩ (removeUnmergeable sel c) = some r) :
    r.1.g = s.g ∧ InclOn s.g r.1.refs ∧
      (∀ d o n, s.remote.get (.dest d) = some o → r.1.refs.get (.dest d) = some n → s.g.le o n = true) ∧
      RefsValid s.g r.1.refs ∧
      (∀ d, (r.1.refs.get (.dest d)).isSome = (s.remote.get (.dest d)).isSome) ∧
      (∀ d, ∀ x ∈ intsOf c d, sel.contains x.pr = true →
        ∃ n, r.1.refs.get (.dest d) = some n ∧ s.g.le x.tip n = true) := by
  have hg := hs.g
  let p : QInt → Bool := fun i => !sel.contains i.pr
  obtain ⟨(h1 : r.1.g = s.g), hrok, hnew⟩ := qv_mergeQueues_spec (removeUnmergeable sel c) (l := ⟨s.g, s.remote, []⟩)
    ⟨hs.g, hs.valid⟩ (by rw [qv_keys_removeUnmergeable]; exact hn)
    (fun v' hv' => by
      obtain ⟨v, hvc, rfl⟩ := List.mem_map.mp hv'
      obtain ⟨t, ht, hall⟩ := (hv.horiz v hvc).dst
      exact ⟨t, ht, fun x hx => hall x ((List.dropWhile_sublist _).subset (List.mem_of_mem_head? hx))⟩) hm
  simp only [qv_intsOf_removeUnmergeable] at hnew
  -- a destination has not moved, or it is on the first selected queue-integration branch of its version
  have hcase : ∀ d, r.1.refs.get (.dest d) = s.remote.get (.dest d) ∨
      ∃ w ∈ intsOf c d, p w = false ∧ ∃ n, r.1.refs.get (.dest d) = some n ∧ s.g.le w.tip n = true ∧
        s.g.le n w.tip = true := by
    intro d
    have hd := hnew d
    have hnot := List.head?_dropWhile_not p (intsOf c d)
    cases hh : ((intsOf c d).dropWhile p).head? with
    | none => rw [hh] at hd; exact Or.inl hd
    | some w =>
      rw [hh] at hd hnot
      exact Or.inr ⟨w, (List.dropWhile_sublist p).subset (List.mem_of_mem_head? hh), by simpa using hnot, hd⟩
  have hland : ∀ d, ∀ x ∈ intsOf c d, p x = false →
      ∃ n, r.1.refs.get (.dest d) = some n ∧ s.g.le x.tip n = true := by
    intro d x hx hpx
    obtain ⟨w, hw, hwx⟩ := qv_head_dropWhile_above p (hv.ints d).2 hx hpx
    have hd := hnew d
    rw [hw] at hd
    obtain ⟨n, hn1, hn2, _⟩ := hd
    refine ⟨n, hn1, ?_⟩
    rcases hwx with rfl | hwx
    · exact hn2
    · exact le_trans hg hwx hn2
  have hpres : ∀ d, (r.1.refs.get (.dest d)).isSome = (s.remote.get (.dest d)).isSome := by
    intro d
    rcases hcase d with h | ⟨w, hw, _, n, hn1, _, _⟩
    · rw [h]
    · obtain ⟨t, ht, _⟩ := (hv.ints d).1 w hw
      rw [hn1, ht]
      rfl
  have hgrow : ∀ d o n, s.remote.get (.dest d) = some o → r.1.refs.get (.dest d) = some n → s.g.le o n = true := by
    intro d o n ho hnn
    rcases hcase d with h | ⟨w, hw, _, n', hn1, hn2, _⟩
    · rw [h, ho] at hnn
      cases hnn
      exact le_refl hg (hs.valid _ _ ho)
    · obtain ⟨t, ht, hle⟩ := (hv.ints d).1 w hw
      rw [hnn] at hn1
      rw [ho] at ht
      cases hn1; cases ht
      exact le_trans hg hle hn2
  refine ⟨h1, ?_, hgrow, h1 ▸ hrok.valid, hpres, fun d x hx hsel => hland d x hx (by simp only [p, hsel, Bool.not_true])⟩
  intro a b hab ca cb hca hcb
  have hpb : (s.remote.get (.dest b)).isSome = true := by rw [← hpres, hcb]; rfl
  obtain ⟨ob, hob⟩ := Option.isSome_iff_exists.mp hpb
  rcases hcase a with h | ⟨w, hw, hpw, n, hn1, _, hn3⟩
  · rw [h] at hca
    exact le_trans hg (hincl a b hab ca ob hca hob) (hgrow b ob cb hob hcb)
  · -- `w` is a selected queue-integration branch of `a`: `b` has one of the same pull request above it
    have hpa : (s.remote.get (.dest a)).isSome = true := by rw [← hpres, hca]; rfl
    obtain ⟨z, hzb, hzpr, hwz⟩ := hv.vert a b hab hpa hpb w hw
    obtain ⟨nb, hnb1, hnb2⟩ := hland b z hzb (by simp only [p, hzpr]; exact hpw)
    rw [hca] at hn1
    rw [hcb] at hnb1
    cases hn1; cases hnb1
    exact le_trans hg hn3 (le_trans hg hwz hnb2)

theorem qv_mergeQueues_gone : ∀ (c : Coll) (l : Loc) (r : Loc × List Ref), mergeQueues l c = some r →
    ∀ x ∈ r.2, x.isDest = false
  | [], l, r, hm => by
    simp only [mergeQueues, Option.some.injEq] at hm
    subst hm
    exact fun x hx => nomatch hx
  | v :: vs, l, r, hm => by
    rcases qv_mergeQueues_cons hm with ⟨_, hm'⟩ | ⟨_, _, l', r', _, _, hm', rfl⟩
    · exact qv_mergeQueues_gone vs l r hm'
    · intro x hx
      rcases List.mem_append.mp hx with hx | hx
      · obtain ⟨i, _, rfl⟩ := List.mem_map.mp hx
        rfl
      · exact qv_mergeQueues_gone vs l' r' hm' x hx

/-- every queue commit of a selected pull request is on its destination -/
def QVLanded (s : Sys) (sel : List Nat) (loc : RefMap) : Prop :=
  ∀ d, ∀ x ∈ intsOf (build s.g s.remote) d, sel.contains x.pr = true →
    ∃ n, loc.get (.dest d) = some n ∧ s.g.le x.tip n = true

/-- the content of the single push of a validated queue evaluation -/
structure EvalFinal (s : Sys) (sel : List Nat) (loc : RefMap) : Prop where
  incl : InclOn s.g loc
  landed : QVLanded s sel loc
  valid : RefsValid s.g loc
  /-- destinations only move forward (fast-forward) -/
  grow : ∀ d o n, s.remote.get (.dest d) = some o → loc.get (.dest d) = some n → s.g.le o n = true
  pres : ∀ d, (loc.get (.dest d)).isSome = (s.remote.get (.dest d)).isSome

theorem qv_validated_iff (s : Sys) : validated s = true ↔
    ∃ paths, cascadePaths s = some paths ∧ validate s.g s.remote (build s.g s.remote) paths = .ok [] := by
  unfold validated
  cases hcp : cascadePaths s with
  | none => simp
  | some paths =>
    simp only [Option.some.injEq, exists_eq_left']
    cases hv : validate s.g s.remote (build s.g s.remote) paths with
    | error e => simp
    | ok l => cases l <;> simp

/-- `handle_merge_queues`, any state: the graph is not extended; the plan is empty, or - only when the
    validation passed - it is ONE atomic pruning push with the content `EvalFinal`. -/
theorem qv_evalQueues_spec {s : Sys} (hs : s.WF) (hincl : s.Incl) (hc : CascadeOK s) (sel : List Nat)
    (wgone : List (Dest × String)) :
    (evalQueues s sel wgone).g = s.g ∧
    ((evalQueues s sel wgone).ops = [] ∨
      (validated s = true ∧ ∃ loc, (evalQueues s sel wgone).ops = [.pushAll loc true] ∧ EvalFinal s sel loc)) ∧
    (validated s = false → (evalQueues s sel wgone).ops = []) := by
  unfold evalQueues
  cases hcp : cascadePaths s with
  | none => exact ⟨rfl, Or.inl rfl, fun _ => rfl⟩
  | some paths =>
    simp only
    cases hv : validate s.g s.remote (build s.g s.remote) paths with
    | error e => exact ⟨rfl, Or.inl rfl, fun _ => rfl⟩
    | ok l =>
      cases l with
      | cons e es => exact ⟨rfl, Or.inl rfl, fun _ => rfl⟩
      | nil =>
        have hval : validated s = true := (qv_validated_iff s).mpr ⟨paths, hcp, hv⟩
        simp only
        split
        · exact ⟨rfl, Or.inl rfl, fun _ => rfl⟩
        · cases hm : mergeQueues ⟨s.g, s.remote, []⟩ (removeUnmergeable sel (build s.g s.remote)) with
          | none => exact ⟨rfl, Or.inl rfl, fun _ => rfl⟩
          | some r =>
            simp only
            have hsound := qv_validate_sound hs hc hcp hv
            obtain ⟨h1, h2, h3, h5, h6, h7⟩ :=
              qv_merge_incl hs hincl (qv_build_nodup s.g s.remote) hsound sel hm
            have hgone : ∀ x ∈ r.2 ++ wgone.map (fun p => Ref.w p.1 p.2), x.isDest = false := by
              intro x hx
              rcases List.mem_append.mp hx with h | h
              · exact qv_mergeQueues_gone _ _ _ hm x h
              · obtain ⟨p, _, rfl⟩ := List.mem_map.mp h; rfl
            have hsame := fun d => delRefs_dest_same r.1.refs _ hgone d
            refine ⟨h1, Or.inr ⟨hval, _, rfl, ?_⟩, fun hf => by rw [hval] at hf; cases hf⟩
            refine ⟨InclOn.delRefs h2 _, ?_, h5.delRefs _, ?_, ?_⟩
            · intro d x hx hsel
              obtain ⟨n, hn1, hn2⟩ := h7 d x hx hsel
              exact ⟨n, by rw [hsame]; exact hn1, hn2⟩
            · intro d o n ho hn
              rw [hsame] at hn
              exact h3 d o n ho hn
            · intro d; rw [hsame]; exact h6 d

theorem qv_evalQueues_safe {s : Sys} (hs : s.WF) (hincl : s.Incl) (hc : CascadeOK s) (sel : List Nat)
    (wgone : List (Dest × String)) :
    ∀ op ∈ (evalQueues s sel wgone).ops, op.Safe (evalQueues s sel wgone).g := by
  obtain ⟨hg, hops, _⟩ := qv_evalQueues_spec hs hincl hc sel wgone
  rw [hg]
  rcases hops with h | ⟨_, loc, h, hf⟩
  · rw [h]; exact nil_safe _
  · rw [h]
    intro op hop
    obtain rfl := List.mem_singleton.mp hop
    exact ⟨rfl, hf.incl⟩

theorem qv_evalQueues_oneShot {s : Sys} (hs : s.WF) (hincl : s.Incl) (hc : CascadeOK s) (sel : List Nat)
    (wgone : List (Dest × String)) :
    OneShot (evalQueues s sel wgone).ops (fun loc => validated s = true ∧ EvalFinal s sel loc) := by
  obtain ⟨_, hops, _⟩ := qv_evalQueues_spec hs hincl hc sel wgone
  rcases hops with h | ⟨hv, loc, h, hf⟩
  · rw [h]; exact OneShot.nil _
  · rw [h]; exact OneShot.single loc ⟨hv, hf⟩

theorem qv_planPrV_cases (s : Sys) (pr : PrInfo) (stage : Stage) (orc : List Bool) (sel : List Nat)
    (wgone : List (Dest × String)) :
    planPrV s pr stage orc sel wgone = evalQueues s sel wgone ∨
    planPrV s pr stage orc sel wgone = planPr s pr stage orc [] ∨
    (∃ sc dc l4 pushW, prepare s pr sc dc orc = .inr (l4, pushW) ∧ s.remote.get (.other pr.src) = some sc ∧
      validated { s with g := l4.g, remote := l4.refs } = false ∧
      planPrV s pr stage orc sel wgone = ⟨l4.g, pushW, "QueueOutOfOrder", s.queue⟩) := by
  by_cases h1 : stage = .early
  · right; left; simp [planPrV, planPr, h1]
  · cases hsrc : s.remote.get (.other pr.src) with
    | none => right; left; simp [planPrV, planPr, h1 , hsrc]
    | some sc =>
      cases hdst : s.remote.get (.dest pr.dst) with
      | none => right; left; simp [planPrV, planPr, h1 , hsrc, hdst]
      | some dc =>
        by_cases h2 : s.g.le sc dc = true
        · right; left; simp [planPrV, planPr, h1 , hsrc, hdst, h2]
        · by_cases h3 : alreadyQueued s pr = true
          · left; simp [planPrV, h1 , hsrc, hdst, h2, h3]
          · cases hp : prepare s pr sc dc orc with
            | inl p => right; left; simp [planPrV, planPr, h1 , hsrc, hdst, h2, h3, hp]
            | inr x =>
              obtain ⟨l4, pushW⟩ := x
              by_cases h4 : stage = .integration
              · subst h4
                right; left; simp [planPrV, planPr, hsrc, hdst, h2, h3, hp]
              · by_cases h5 : isNeeded s l4 pr (s.targets pr.dst) = true
                · by_cases h6 : validated { s with g := l4.g, remote := l4.refs } = true
                  · right; left
                    simp [planPrV, planPr, h1 , hsrc, hdst, h2, h3, hp, h4, h5, h6]
                  · right; right
                    refine ⟨sc, dc, l4, pushW, hp, rfl, by simpa using h6, ?_⟩
                    simp [planPrV, h1 , hsrc, hdst, h2, h3, hp, h4, h5, h6]
                · right; left
                  simp [planPrV, planPr, h1 , hsrc, hdst, h2, h3, hp, h4, h5]

theorem qv_planPrV_safe {s : Sys} (hs : s.WF) (hincl : s.Incl) (hc : CascadeOK s) (pr : PrInfo) (stage : Stage)
    (orc : List Bool) (sel : List Nat) (wgone : List (Dest × String)) :
    ∀ op ∈ (planPrV s pr stage orc sel wgone).ops, op.Safe (planPrV s pr stage orc sel wgone).g := by
  rcases qv_planPrV_cases s pr stage orc sel wgone with h | h | ⟨sc, dc, l4, pushW, hp, hsc, _, h⟩
  · rw [h]; exact qv_evalQueues_safe hs hincl hc sel wgone
  · rw [h]
    apply planPr_safe hs hincl pr stage orc []
    rw [show (planQueues s []).ops = [] by simp [planQueues]]
    exact nil_safe _
  · rw [h]
    obtain ⟨_, hsafe⟩ := (prepare_spec hs pr (hs.valid _ _ hsc) (dc := dc) orc).2 l4 pushW hp
    exact hsafe _

theorem qv_planPrV_gext {s : Sys} (hs : s.WF) (hincl : s.Incl) (hc : CascadeOK s) (pr : PrInfo) (stage : Stage)
    (orc : List Bool) (sel : List Nat) (wgone : List (Dest × String)) :
    GExt s.g (planPrV s pr stage orc sel wgone).g := by
  rcases qv_planPrV_cases s pr stage orc sel wgone with h | h | ⟨sc, dc, l4, pushW, hp, hsc, _, h⟩
  · rw [h, (qv_evalQueues_spec hs hincl hc sel wgone).1]; exact GExt.refl hs.g
  · rw [h]; exact planPr_gext hs pr stage orc []
  · rw [h]
    obtain ⟨hw, _⟩ := (prepare_spec hs pr (hs.valid _ _ hsc) (dc := dc) orc).2 l4 pushW hp
    exact ⟨hw.ok.wf, hw.ext⟩

/-- the guard of `_handle_pull_request`: when the validation before `add_to_queue` fails, the job ends with
    `QueueOutOfOrder`, having pushed nothing but the integration branches (no `q/` ref, no destination). -/
theorem qv_enqueue_guard {s : Sys} {pr : PrInfo} {orc : List Bool} {sc dc : Commit} {l4 : Loc} {pushW : List Op}
    (sel : List Nat) (wgone : List (Dest × String))
    (hsrc : s.remote.get (.other pr.src) = some sc) (hdst : s.remote.get (.dest pr.dst) = some dc)
    (hle : s.g.le sc dc = false) (hnq : alreadyQueued s pr = false)
    (hp : prepare s pr sc dc orc = .inr (l4, pushW)) (hneed : isNeeded s l4 pr (s.targets pr.dst) = true)
    (hinv : validated { s with g := l4.g, remote := l4.refs } = false) :
    planPrV s pr .final orc sel wgone = ⟨l4.g, pushW, "QueueOutOfOrder", s.queue⟩ ∧ ∀ op ∈ pushW, op.Quiet := by
  refine ⟨?_, (prepare_quiet s pr sc dc orc).2 l4 pushW hp⟩
  simp [planPrV, hsrc, hdst, hle, hnq, hp, hneed, hinv]

theorem qv_applyOpsAt_valid {g : Graph} {remote0 : RefMap} (rej : Nat → Ref → Bool) (ops : List Op) (i : Nat)
    {remote : RefMap} (hv : RefsValid g remote) (hd : DestSub remote0 remote) (ho : ∀ op ∈ ops, op.Valid g remote0) :
    RefsValid g (applyOpsAt g rej i remote ops) :=
  (applyOpsAt_preserves (I := fun m => RefsValid g m ∧ DestSub remote0 m) (P := fun op => op.Valid g remote0)
    (fun rej _ _ h hop => applyOp_valid rej h.1 h.2 hop) rej ops i ⟨hv, hd⟩ ho).1

/-- the state of the repository when `add_to_queue` (with everything the job pushed before it) is interrupted
    after `k` operations, the server refusing `rej i` in operation `i` -/
def crashState (s : Sys) (p : Plan) (rej : Nat → Ref → Bool) (k : Nat) : Sys :=
  { s with g := p.g, remote := observableAt s p rej k }

/-- an interrupted `add_to_queue` leaves a well-formed repository in which no destination has moved:
    the hypotheses of the soundness theorem hold again, whatever became of the `q/` refs -/
theorem qv_enqueue_crash_state {s : Sys} (hs : s.WF) (hincl : s.Incl) (hc : CascadeOK s) (pr : PrInfo)
    {sc dc : Commit} (hsc : s.remote.get (.other pr.src) = some sc) (orc : List Bool) {l4 : Loc} {pushW : List Op}
    (hp : prepare s pr sc dc orc = .inr (l4, pushW)) (ts : List Dest) (rej : Nat → Ref → Bool) (k : Nat) :
    (crashState s (enqueue s l4 pr ts pushW) rej k).WF ∧ (crashState s (enqueue s l4 pr ts pushW) rej k).Incl ∧
    CascadeOK (crashState s (enqueue s l4 pr ts pushW) rej k) ∧
    (∀ d, (crashState s (enqueue s l4 pr ts pushW) rej k).remote.get (.dest d) = s.remote.get (.dest d)) := by
  have hquiet := enqueue_quiet (s := s) (l4 := l4) (pr := pr) (ts := ts) ((prepare_quiet s pr sc dc orc).2 l4 pushW hp)
  obtain ⟨hw, hpw⟩ := prepare_inr hs pr (hs.valid _ _ hsc) hp
  have hvalid := enqueue_valid (s := s) hw.ok s.remote pr ts (pre := pushW) (hpw ▸ pushWOps_valid hw.ok _ pr _)
  have hge := enqueue_gext (s := s) hw.ok pr ts pushW
  generalize enqueue s l4 pr ts _ = p at hquiet hvalid hge ⊢
  have hext : Extends s.g p.g := hw.ext.trans hge.ext
  have hdest : ∀ d, (crashState s p rej k).remote.get (.dest d) = s.remote.get (.dest d) := fun d =>
    applyOpsAt_quiet_dest _ rej _ 0 s.remote (fun op hop => hquiet op (List.mem_of_mem_take hop)) d
  refine ⟨⟨hge.wf, ?_, hs.sorted, ?_⟩, (InclOn.extends hincl hs.valid hext).of_same hdest, ?_, hdest⟩
  · exact qv_applyOpsAt_valid rej _ 0 (hs.valid.mono hext) (DestSub.refl _)
      (fun op hop => hvalid op (List.mem_of_mem_take hop))
  · intro M m c hcc
    rw [hdest] at hcc
    exact hs.devsOK M m c hcc
  · intro M m u h
    rw [hdest] at h ⊢
    exact hc M m u h

end BertE.QV
