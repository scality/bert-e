import BertE.Lemmas.CascadeOrder
/- Phase 1: `add_branch` over the discovered branches builds the sorted cascade of the lines of the
   repository, one object per slot; it fails exactly on two stabilization branches for one line. -/
namespace BertE.Cascade
open Spec

theorem get?_mem {c : Cascade} {k : Key} {s : BranchSet} (h : get? c k = some s) : (k, s) ∈ c := by
  obtain ⟨p, hp, rfl⟩ := Option.map_eq_some_iff.mp h
  have hk : p.1 = k := by simpa using List.find?_some hp
  rw [← hk]
  exact List.mem_of_find?_eq_some hp

theorem get?_none {c : Cascade} {k : Key} : get? c k = none ↔ ∀ p ∈ c, p.1 ≠ k := by
  unfold get?
  simp only [Option.map_eq_none_iff, List.find?_eq_none, beq_iff_eq]

theorem get?_of_mem {c : Cascade} (hs : Sorted c) {k : Key} {s : BranchSet} (h : (k, s) ∈ c) :
    get? c k = some s := by
  cases hg : get? c k with
  | none => exact absurd rfl (get?_none.mp hg _ h)
  | some s' =>
    have := hs.eq_of_mem (get?_mem hg) h rfl
    simp only [Prod.mk.injEq, true_and] at this
    rw [this]

theorem mem_setAt {c : Cascade} {k : Key} {f : BranchSet → BranchSet} {q : Key × BranchSet} :
    q ∈ setAt c k f ↔ ∃ p ∈ c, q = (if p.1 = k then (p.1, f p.2) else p) := by
  unfold setAt
  simp only [List.mem_map]
  constructor
  · rintro ⟨p, hp, rfl⟩; exact ⟨p, hp, rfl⟩
  · rintro ⟨p, hp, rfl⟩; exact ⟨p, hp, rfl⟩

theorem setAt_keys (c : Cascade) (k : Key) (f : BranchSet → BranchSet) :
    (setAt c k f).map (·.1) = c.map (·.1) := by
  unfold setAt
  rw [List.map_map]
  apply List.map_congr_left
  intro p _
  by_cases h : p.1 = k <;> simp [h]

theorem sorted_iff_keys {c c' : Cascade} (h : c'.map (·.1) = c.map (·.1)) : Sorted c' ↔ Sorted c := by
  unfold Sorted
  rw [← List.pairwise_map (f := fun p : Key × BranchSet => p.1) (R := keyLt),
      ← List.pairwise_map (f := fun p : Key × BranchSet => p.1) (R := keyLt), h]

theorem Sorted.setAt {c : Cascade} (h : Sorted c) (k : Key) (f : BranchSet → BranchSet) :
    Sorted (setAt c k f) := (sorted_iff_keys (setAt_keys c k f)).mpr h

def freshDev (k : Key) : DevB := ⟨k.1, k.2, -1, -1, false⟩

/-- the hotfix slot of the line `k`: only the destination hotfix branch enters -/
def hfSlot (S : List Branch) (dst : Branch) (k : Key) : Option HfB :=
  match dst with
  | .hotfix M m u => if (M, some m) = k ∧ dst ∈ S then some ⟨M, m, u, -1⟩ else none
  | _ => none

theorem hfSlot_hotfix (S : List Branch) (M m u : Nat) (k : Key) :
    hfSlot S (.hotfix M m u) k =
      if (M, some m) = k ∧ Branch.hotfix M m u ∈ S then some ⟨M, m, u, -1⟩ else none := rfl

theorem hfSlot_nonhotfix (S : List Branch) {dst : Branch} (h : dst.isHotfix = false) (k : Key) :
    hfSlot S dst k = none := by
  cases dst <;> first | rfl | simp [Branch.isHotfix] at h

structure EntryOK (S : List Branch) (dst : Branch) (p : Key × BranchSet) : Prop where
  dev : p.2.dev = if Branch.dev p.1.1 p.1.2 ∈ S then some (freshDev p.1) else none
  stbMem : ∀ st, p.2.stb = some st → st.toBranch ∈ S ∧ (st.major, some st.minor) = p.1
  stbNone : p.2.stb = none → ∀ m u, p.1.2 = some m → Branch.stab p.1.1 m u ∉ S
  hf : p.2.hf = hfSlot S dst p.1

/-- the cascade `c` holds exactly the branches `S` (hotfix branches other than the destination excluded) -/
structure Rep (S : List Branch) (dst : Branch) (c : Cascade) : Prop where
  sorted : Sorted c
  entries : ∀ p ∈ c, EntryOK S dst p
  used : ∀ p ∈ c, p.2.dev.isSome ∨ p.2.stb.isSome ∨ p.2.hf.isSome
  keys : ∀ b ∈ S, hotfixSkipped dst b = false → ∃ p ∈ c, p.1 = b.key
  oneStab : ∀ M m u u', Branch.stab M m u ∈ S → Branch.stab M m u' ∈ S → u = u'

section
variable {S : List Branch} {dst b : Branch} {p : Key × BranchSet} {c : Cascade}

theorem hfSlot_some {k : Key} {h : HfB} (e : hfSlot S dst k = some h) :
    dst = h.toBranch ∧ (h.major, some h.minor) = k ∧ dst ∈ S := by
  cases dst with
  | dev M m => cases e
  | stab M m u => cases e
  | hotfix M m u =>
    rw [hfSlot_hotfix] at e
    split at e
    · rename_i hc
      cases e
      exact ⟨rfl, hc.1, hc.2⟩
    · cases e

theorem stb_eq_of_mem (hMem : ∀ st, p.2.stb = some st → st.toBranch ∈ S ∧ (st.major, some st.minor) = p.1)
    (hNone : p.2.stb = none → ∀ m u, p.1.2 = some m → Branch.stab p.1.1 m u ∉ S)
    (hone : ∀ M m u u', Branch.stab M m u ∈ S → Branch.stab M m u' ∈ S → u = u')
    {M m u : Nat} (hb : Branch.stab M m u ∈ S) (hk : p.1 = (M, some m)) : p.2.stb = some ⟨M, m, u⟩ := by
  cases hst : p.2.stb with
  | none =>
    have := hNone hst m u (by rw [hk])
    rw [hk] at this
    exact absurd hb this
  | some st =>
    obtain ⟨h1, h2⟩ := hMem st hst
    obtain ⟨a, b, c⟩ := st
    rw [hk] at h2
    simp only [Prod.mk.injEq, Option.some.injEq] at h2
    obtain ⟨rfl, rfl⟩ := h2
    have : c = u := hone _ _ _ _ h1 hb
    rw [this]

theorem hfSlot_congr {S S' : List Branch} (dst : Branch) (k : Key) (h : dst ∈ S ↔ dst ∈ S') :
    hfSlot S dst k = hfSlot S' dst k := by
  unfold hfSlot
  cases dst <;> simp only [h]

theorem EntryOK.congr {S S' : List Branch} {dst : Branch} {p : Key × BranchSet}
    (h : ∀ x, x ∈ S ↔ x ∈ S') (e : EntryOK S dst p) : EntryOK S' dst p where
  dev := by rw [e.dev]; simp only [h]
  stbMem := fun st hst => ⟨(h _).mp (e.stbMem st hst).1, (e.stbMem st hst).2⟩
  stbNone := fun hn m u hm hmem => e.stbNone hn m u hm ((h _).mpr hmem)
  hf := by rw [e.hf]; exact hfSlot_congr dst p.1 (h dst)

theorem Rep.congr {S S' : List Branch} {dst : Branch} {c : Cascade}
    (h : ∀ x, x ∈ S ↔ x ∈ S') (r : Rep S dst c) : Rep S' dst c where
  sorted := r.sorted
  entries := fun p hp => (r.entries p hp).congr h
  used := r.used
  keys := fun b hb hs => r.keys b ((h b).mpr hb) hs
  oneStab := fun M m u u' h1 h2 => r.oneStab M m u u' ((h _).mpr h1) ((h _).mpr h2)

theorem hotfixSkipped_self_or (dst : Branch) : hotfixSkipped dst dst = false := by
  cases dst <;> simp [hotfixSkipped]

theorem hotfixSkipped_nonhotfix (dst : Branch) {b : Branch} (h : b.isHotfix = false) :
    hotfixSkipped dst b = false := by
  cases b <;> first | rfl | simp [Branch.isHotfix] at h

theorem isHotfix_of_skipped {dst b : Branch} (h : hotfixSkipped dst b = true) : b.isHotfix = true := by
  cases b <;> first | rfl | simp [hotfixSkipped] at h

theorem EntryOK.stbMem_cons (e : EntryOK S dst p) (b : Branch) :
    ∀ st, p.2.stb = some st → st.toBranch ∈ b :: S ∧ (st.major, some st.minor) = p.1 :=
  fun st hst => ⟨List.mem_cons_of_mem _ (e.stbMem st hst).1, (e.stbMem st hst).2⟩

theorem EntryOK.stbNone_cons (e : EntryOK S dst p)
    (hb : ∀ m u, p.1.2 = some m → Branch.stab p.1.1 m u ≠ b) :
    p.2.stb = none → ∀ m u, p.1.2 = some m → Branch.stab p.1.1 m u ∉ b :: S := by
  intro hn m u hm hmem
  rcases List.mem_cons.mp hmem with h | h
  · exact hb m u hm h
  · exact e.stbNone hn m u hm h

theorem oneStab_cons (hb : b.isStab = false)
    (h : ∀ M m u u', Branch.stab M m u ∈ S → Branch.stab M m u' ∈ S → u = u') :
    ∀ M m u u', Branch.stab M m u ∈ b :: S → Branch.stab M m u' ∈ b :: S → u = u' := by
  intro M m u u' h1 h2
  have ne : ∀ v, Branch.stab M m v ≠ b := by rintro v rfl; cases hb
  exact h M m u u' ((List.mem_cons.mp h1).resolve_left (ne u)) ((List.mem_cons.mp h2).resolve_left (ne u'))

theorem devSlot_cons_of_ne (k : Key) (hb : Branch.dev k.1 k.2 ≠ b) :
    (if Branch.dev k.1 k.2 ∈ b :: S then some (freshDev k) else none) =
      (if Branch.dev k.1 k.2 ∈ S then some (freshDev k) else none) := by
  simp only [List.mem_cons, hb, false_or]

theorem devSlot_cons (k : Key) (hb : b.isDev = false) :
    (if Branch.dev k.1 k.2 ∈ b :: S then some (freshDev k) else none) =
      (if Branch.dev k.1 k.2 ∈ S then some (freshDev k) else none) :=
  devSlot_cons_of_ne k (by rintro rfl; cases hb)

theorem hfSlot_cons_of_ne (k : Key) (hb : dst ≠ b) :
    hfSlot (b :: S) dst k = hfSlot S dst k :=
  hfSlot_congr dst k (by simp only [List.mem_cons, hb, false_or])

theorem hfSlot_cons (k : Key) (hb : b.isHotfix = false) :
    hfSlot (b :: S) dst k = hfSlot S dst k := by
  cases dst with
  | dev M m => rfl
  | stab M m u => rfl
  | hotfix M m u => exact hfSlot_cons_of_ne k (by rintro rfl; cases hb)

theorem EntryOK.other (e : EntryOK S dst p) (hk : p.1 ≠ b.key) : EntryOK (b :: S) dst p where
  dev := by rw [e.dev, devSlot_cons_of_ne _ (by rintro rfl; exact hk rfl)]
  stbMem := e.stbMem_cons b
  stbNone := e.stbNone_cons (by rintro m u hm rfl; exact hk (by simp only [Branch.key]; rw [← hm]))
  hf := by
    rw [e.hf]
    by_cases hd : dst = b
    · subst hd
      cases dst with
      | hotfix M m u =>
        have : ¬ ((M, some m) = p.1) := fun h => hk h.symm
        simp [hfSlot, this]
      | dev M m => rfl
      | stab M m u => rfl
    · exact (hfSlot_cons_of_ne _ hd).symm

theorem EntryOK.skipped {S : List Branch} {dst b : Branch} {p : Key × BranchSet}
    (e : EntryOK S dst p) (hs : hotfixSkipped dst b = true) : EntryOK (b :: S) dst p := by
  obtain ⟨M, m, u, rfl⟩ := isHotfix_iff.mp (isHotfix_of_skipped hs)
  have hne : dst ≠ .hotfix M m u := by
    rintro rfl; rw [hotfixSkipped_self_or] at hs; cases hs
  exact
  { dev := by rw [e.dev, devSlot_cons _ rfl]
    stbMem := e.stbMem_cons _
    stbNone := e.stbNone_cons (fun _ _ _ => nofun)
    hf := by rw [e.hf, hfSlot_cons_of_ne _ hne] }

/-! ### the key is created on demand, the cascade stays sorted -/

theorem prepare {S : List Branch} {dst : Branch} {c : Cascade} (r : Rep S dst c) (k : Key) :
    let c1 := if (get? c k).isSome then c else sortCascade (c ++ [(k, emptySet)])
    Sorted c1 ∧ ∃ set, get? c1 k = some set ∧
      (∀ p, p ∈ c1 ↔ p ∈ c ∨ p = (k, set)) ∧
      ((k, set) ∈ c ∨ (set = emptySet ∧ ∀ p ∈ c, p.1 ≠ k)) := by
  intro c1
  cases hg : get? c k with
  | some set =>
    have hc1 : c1 = c := by simp [c1, hg]
    rw [hc1]
    exact ⟨r.sorted, set, hg, fun p => ⟨Or.inl, fun h => h.elim id (fun e => e ▸ get?_mem hg)⟩, Or.inl (get?_mem hg)⟩
  | none =>
    have hc1 : c1 = sortCascade (c ++ [(k, emptySet)]) := by simp [c1, hg]
    have hnk := get?_none.mp hg
    have hnd : ((c ++ [(k, emptySet)]).map (·.1)).Nodup := by
      rw [List.map_append, List.nodup_append]
      refine ⟨r.sorted.nodupKeys, by simp, ?_⟩
      intro a ha b hb
      simp only [List.map_cons, List.map_nil, List.mem_singleton] at hb
      subst hb
      obtain ⟨p, hp, rfl⟩ := List.mem_map.mp ha
      exact hnk p hp
    have hs : Sorted c1 := hc1 ▸ sortCascade_sorted hnd
    have hmem : ∀ p, p ∈ c1 ↔ p ∈ c ∨ p = (k, emptySet) := by
      intro p
      rw [hc1, (sortCascade_perm _).mem_iff]
      simp
    refine ⟨hs, emptySet, get?_of_mem hs ((hmem _).mpr (Or.inr rfl)), hmem, Or.inr ⟨rfl, hnk⟩⟩

theorem fresh_entry (r : Rep S dst c) {k : Key}
    (hnk : ∀ p ∈ c, p.1 ≠ k) : EntryOK S dst (k, emptySet) where
  dev := by
    have : Branch.dev k.1 k.2 ∉ S := by
      intro h
      obtain ⟨p, hp, hk⟩ := r.keys _ h rfl
      exact hnk p hp hk
    simp [emptySet, this]
  stbMem := by intro st h; simp [emptySet] at h
  stbNone := by
    intro _ m u hm h
    obtain ⟨p, hp, hk⟩ := r.keys _ h rfl
    apply hnk p hp
    rw [hk]
    simp only [Branch.key]
    rw [← hm]
  hf := by
    unfold hfSlot
    cases dst with
    | hotfix M m u =>
      have : ¬ ((M, some m) = k ∧ Branch.hotfix M m u ∈ S) := by
        rintro ⟨hk, hmem⟩
        obtain ⟨p, hp, hpk⟩ := r.keys _ hmem (hotfixSkipped_self_or _)
        exact hnk p hp (by rw [hpk, ← hk]; rfl)
      simp [emptySet, this]
    | dev M m => rfl
    | stab M m u => rfl

theorem entries_c1 {S : List Branch} {dst : Branch} {c c1 : Cascade} (r : Rep S dst c) {k : Key} {set : BranchSet}
    (hmem : ∀ p, p ∈ c1 ↔ p ∈ c ∨ p = (k, set))
    (hset : (k, set) ∈ c ∨ (set = emptySet ∧ ∀ p ∈ c, p.1 ≠ k)) :
    ∀ p ∈ c1, EntryOK S dst p := by
  intro p hp
  rcases (hmem p).mp hp with h | rfl
  · exact r.entries p h
  · rcases hset with h | ⟨rfl, hnk⟩
    · exact r.entries _ h
    · exact fresh_entry r hnk

theorem canBeDestination_std (b : Branch) : canBeDestination Cfg.std b = true := by
  cases b <;> rfl

/-- one `add_branch` -/
theorem addBranch_step (r : Rep S dst c) (b : Branch)
    (hb : b ∉ S) :
    (∃ c', addBranch Cfg.std dst c b = .ok c' ∧ Rep (b :: S) dst c') ∨
    (addBranch Cfg.std dst c b = .error .unsupportedMultipleStabBranches ∧
      ∃ M m u u', u ≠ u' ∧ b = .stab M m u ∧ Branch.stab M m u' ∈ S) := by
  unfold addBranch
  simp only [canBeDestination_std, Bool.not_true, Bool.false_eq_true, if_false]
  by_cases hskip : hotfixSkipped dst b = true
  · left
    simp only [hskip, if_true]
    have hns : b.isStab = false := by
      obtain ⟨M, m, u, rfl⟩ := isHotfix_iff.mp (isHotfix_of_skipped hskip)
      rfl
    refine ⟨c, rfl, r.sorted, fun p hp => (r.entries p hp).skipped hskip, r.used, ?_, oneStab_cons hns r.oneStab⟩
    intro b' hb' hs'
    rcases List.mem_cons.mp hb' with rfl | hb'
    · rw [hs'] at hskip; cases hskip
    · exact r.keys b' hb' hs'
  · simp only [hskip, Bool.false_eq_true, if_false]
    have hskip' : hotfixSkipped dst b = false := by simpa using hskip
    obtain ⟨hs1, set, hget, hmem, hset⟩ := prepare r b.key
    generalize hc1 : (if (get? c b.key).isSome then c else sortCascade (c ++ [(b.key, emptySet)])) = c1 at *
    rw [hget]
    have hin : (b.key, set) ∈ c1 := get?_mem hget
    have hent := entries_c1 r hmem hset
    have hE := hent _ hin
    -- the generic part of the new invariant, for a slot update `f` at `b.key`
    have mk : ∀ f : BranchSet → BranchSet, EntryOK (b :: S) dst (b.key, f set) →
        ((f set).dev.isSome ∨ (f set).stb.isSome ∨ (f set).hf.isSome) →
        (∀ M m u u', Branch.stab M m u ∈ b :: S → Branch.stab M m u' ∈ b :: S → u = u') →
        Rep (b :: S) dst (setAt c1 b.key f) := by
      intro f hnew hused hone
      refine ⟨hs1.setAt _ _, ?_, ?_, ?_, hone⟩
      · intro q hq
        obtain ⟨p, hp, rfl⟩ := mem_setAt.mp hq
        by_cases hk : p.1 = b.key
        · have : p = (b.key, set) := hs1.eq_of_mem hp hin hk
          subst this
          simpa using hnew
        · simp only [hk, if_false]
          exact (hent p hp).other hk
      · intro q hq
        obtain ⟨p, hp, rfl⟩ := mem_setAt.mp hq
        by_cases hk : p.1 = b.key
        · have : p = (b.key, set) := hs1.eq_of_mem hp hin hk
          subst this
          simpa using hused
        · simp only [hk, if_false]
          rcases (hmem p).mp hp with h | rfl
          · exact r.used p h
          · exact absurd rfl hk
      · intro b' hb' hs'
        have : ∃ p ∈ c1, p.1 = b'.key := by
          rcases List.mem_cons.mp hb' with rfl | hb'
          · exact ⟨_, hin, rfl⟩
          · obtain ⟨p, hp, hk⟩ := r.keys b' hb' hs'
            exact ⟨p, (hmem p).mpr (Or.inl hp), hk⟩
        obtain ⟨p, hp, hk⟩ := this
        refine ⟨_, mem_setAt.mpr ⟨p, hp, rfl⟩, ?_⟩
        have : (if p.1 = b.key then (p.1, f p.2) else p).1 = p.1 := by split <;> rfl
        rw [this]; exact hk
    cases b with
    | dev M m =>
      left
      have hdev : set.dev = none := by
        rw [hE.dev]; simp only [Branch.key] at hb ⊢; simp [hb]
      simp only [hdev, Option.isSome_none, Bool.false_eq_true, if_false]
      refine ⟨_, rfl, mk _ ?_ (Or.inl rfl) (oneStab_cons rfl r.oneStab)⟩
      exact
        { dev := by simp [Branch.key, freshDev, Cfg.std]
          stbMem := hE.stbMem_cons _
          stbNone := hE.stbNone_cons (fun _ _ _ => nofun)
          hf := by
            show set.hf = _
            rw [hE.hf, hfSlot_cons _ rfl] }
    | stab M m u =>
      cases hst : set.stb with
      | some st =>
        right
        simp only [hst, Option.isSome_some, if_true]
        obtain ⟨h1, h2⟩ := hE.stbMem st hst
        simp only [Branch.key, Prod.mk.injEq, Option.some.injEq] at h2
        obtain ⟨hM, hm⟩ := h2
        refine ⟨trivial, M, m, u, st.micro, ?_, rfl, ?_⟩
        · intro hu
          apply hb
          rw [hu, ← hM, ← hm]
          exact h1
        · rw [← hM, ← hm]; exact h1
      | none =>
        left
        simp only [hst, Option.isSome_none, Bool.false_eq_true, if_false]
        refine ⟨_, rfl, mk _ ?_ (Or.inr (Or.inl rfl)) ?_⟩
        · exact
          { dev := by
              show set.dev = _
              rw [hE.dev, devSlot_cons _ rfl]
            stbMem := by
              intro st' hst'
              simp only [Option.some.injEq] at hst'
              subst hst'
              exact ⟨List.mem_cons_self, rfl⟩
            stbNone := by intro hn; simp at hn
            hf := by
              show set.hf = _
              rw [hE.hf, hfSlot_cons _ rfl] }
        · intro M' m' u1 u2 h1 h2
          have hno : ∀ u', Branch.stab M m u' ∉ S := fun u' => hE.stbNone hst m u' rfl
          rcases List.mem_cons.mp h1 with h | h1 <;> rcases List.mem_cons.mp h2 with h' | h2
          · cases h; cases h'; rfl
          · cases h; exact absurd h2 (hno _)
          · cases h'; exact absurd h1 (hno _)
          · exact r.oneStab M' m' u1 u2 h1 h2
    | hotfix M m u =>
      left
      have hd : dst = Branch.hotfix M m u := by
        cases dst <;> simp_all [hotfixSkipped]
      subst hd
      have hhf : set.hf = none := by
        rw [hE.hf]; simp [hfSlot, hb]
      simp only [hhf, Option.isSome_none, Bool.false_eq_true, if_false]
      refine ⟨_, rfl, mk _ ?_ (Or.inr (Or.inr rfl)) (oneStab_cons rfl r.oneStab)⟩
      exact
        { dev := by
            show set.dev = _
            rw [hE.dev, devSlot_cons _ rfl]
          stbMem := hE.stbMem_cons _
          stbNone := hE.stbNone_cons (fun _ _ _ => nofun)
          hf := by simp [hfSlot, Branch.key, Cfg.std] }

end

theorem rep_nil (dst : Branch) : Rep [] dst [] where
  sorted := List.Pairwise.nil
  entries := by intro p hp; cases hp
  used := by intro p hp; cases hp
  keys := by intro b hb; cases hb
  oneStab := by intro M m u u' h; cases h

theorem multipleStab_of {bs : List Branch} {M m u u' : Nat} (hne : u ≠ u')
    (h1 : Branch.stab M m u ∈ bs) (h2 : Branch.stab M m u' ∈ bs) : multipleStab bs = true := by
  simp only [multipleStab, List.any_eq_true]
  exact ⟨_, h1, _, h2, by simp [Branch.isStab, Branch.key, hne]⟩

theorem not_multipleStab_of {bs : List Branch}
    (h : ∀ M m u u', Branch.stab M m u ∈ bs → Branch.stab M m u' ∈ bs → u = u') : multipleStab bs = false := by
  rw [Bool.eq_false_iff]
  intro hm
  simp only [multipleStab, List.any_eq_true] at hm
  obtain ⟨b, hb, b', hb', hm⟩ := hm
  cases b <;> cases b' <;> simp [Branch.isStab, Branch.key] at hm
  obtain ⟨⟨rfl, rfl⟩, hne⟩ := hm
  exact absurd (h _ _ _ _ hb hb') (hne rfl rfl)

theorem any_congr_mem {α : Type} {l l' : List α} (h : ∀ x, x ∈ l ↔ x ∈ l') (f : α → Bool) : l.any f = l'.any f := by
  rw [Bool.eq_iff_iff, List.any_eq_true, List.any_eq_true]
  constructor
  · rintro ⟨x, hx, hf⟩; exact ⟨x, (h x).mp hx, hf⟩
  · rintro ⟨x, hx, hf⟩; exact ⟨x, (h x).mpr hx, hf⟩

theorem multipleStab_congr {bs bs' : List Branch} (hb : ∀ x, x ∈ bs ↔ x ∈ bs') : multipleStab bs = multipleStab bs' := by
  unfold multipleStab
  rw [any_congr_mem hb]
  congr 1
  funext b
  exact any_congr_mem hb _

theorem addAll_gen (dst : Branch) (bs : List Branch) : ∀ (S : List Branch) (c : Cascade), Rep S dst c →
    (∀ b ∈ bs, b ∉ S) → bs.Nodup →
    (∃ c', addAll Cfg.std dst c bs = .ok c' ∧ Rep (bs.reverse ++ S) dst c') ∨
    (addAll Cfg.std dst c bs = .error .unsupportedMultipleStabBranches ∧
      multipleStab (bs.reverse ++ S) = true) := by
  induction bs with
  | nil => intro S c r _ _; exact Or.inl ⟨c, rfl, by simpa using r⟩
  | cons b bs ih =>
    intro S c r hS hnd
    rw [List.nodup_cons] at hnd
    have hb : b ∉ S := hS b List.mem_cons_self
    unfold addAll
    rcases addBranch_step r b hb with ⟨c', hc', r'⟩ | ⟨he, M, m, u, u', hne, rfl, hmem⟩
    · rw [hc']
      have := ih (b :: S) c' r' (by
        intro x hx hxs
        rcases List.mem_cons.mp hxs with rfl | hxs
        · exact hnd.1 hx
        · exact hS x (List.mem_cons_of_mem _ hx) hxs) hnd.2
      simpa [List.reverse_cons, List.append_assoc] using this
    · right
      rw [he]
      refine ⟨rfl, multipleStab_of hne (M := M) (m := m) (u := u) (u' := u') ?_ ?_⟩
      · simp
      · simp [hmem]

/-- Phase 1: either the sorted cascade of the lines of `bs`, or two stabilization branches on one line. -/
theorem addAll_spec (dst : Branch) {bs : List Branch} (hnd : bs.Nodup) :
    (∃ c, addAll Cfg.std dst [] bs = .ok c ∧ Rep bs dst c ∧ multipleStab bs = false) ∨
    (addAll Cfg.std dst [] bs = .error .unsupportedMultipleStabBranches ∧ multipleStab bs = true) := by
  rcases addAll_gen dst bs [] [] (rep_nil dst) (by intro b _ h; cases h) hnd with ⟨c, hc, r⟩ | ⟨he, hm⟩
  · left
    have r' : Rep bs dst c := r.congr (by intro x; simp)
    exact ⟨c, hc, r', not_multipleStab_of r'.oneStab⟩
  · exact Or.inr ⟨he, (multipleStab_congr (by intro x; simp)).trans hm⟩

end BertE.Cascade
