import BertE.Lemmas.CloseInvV
import BertE.Lemmas.CloseComplete
import BertE.Lemmas.CloseBuild
/-
The ref-based queue evaluation against the bookkeeping-based one, the ingredients: commit graphs in which mutual
inclusion is equality, list lemmas, the fast-forward of `Loc.merge` as an equation, and the exact result of
`merge_queues`.
-/
namespace BertE.Close
open BertE.Git BertE.Flow BertE.Select BertE.QV

/-- ancestry is antisymmetric (in git two commits that contain each other are the same commit; `Graph.WF` does not
    say it) -/
def close_Antisym (g : Graph) : Prop := ∀ a b, g.le a b = true → g.le b a = true → a = b

/-- what `addCommit` maintains: an ancestor never has a greater number than its descendant -/
def close_Mono (g : Graph) : Prop := ∀ c a, a ∈ g.ancsOf c → a ≤ c

theorem close_mono_antisym {g : Graph} (h : close_Mono g) : close_Antisym g := by
  intro a b h1 h2
  exact Nat.le_antisymm (h b a (le_iff.mp h1)) (h a b (le_iff.mp h2))

theorem close_mono_empty : close_Mono Graph.empty := by
  intro c a h
  simp [Graph.ancsOf, Graph.empty] at h

/-- whatever the parents: a parent that does not exist contributes no ancestor -/
theorem close_mono_addCommit {g : Graph} (h : close_Mono g) (ps : List Commit) : close_Mono (g.addCommit ps).1 := by
  intro c a ha
  by_cases hc : c < g.size
  · rw [addCommit_ancsOf_old hc] at ha
    exact h c a ha
  · by_cases hc' : c = g.size
    · subst hc'
      rw [addCommit_ancsOf_new] at ha
      rcases List.mem_cons.mp ha with rfl | ha'
      · exact Nat.le_refl _
      · obtain ⟨p, _, hap⟩ := mem_parentsAncs.mp ha'
        have hp : p < g.size := Nat.lt_of_not_le fun hge => by rw [ancsOf_ge hge] at hap; cases hap
        exact Nat.le_of_lt (Nat.lt_of_le_of_lt (h p a hap) hp)
    · rw [ancsOf_ge (by rw [addCommit_size]; exact Nat.lt_of_le_of_ne (Nat.le_of_not_lt hc) (Ne.symm hc'))] at ha
      cases ha

theorem close_head_dropWhile {α : Type} (p : α → Bool) (l : List α) :
    (l.dropWhile p).head? = l.find? (fun x => !p x) := by
  induction l with
  | nil => rfl
  | cons x xs ih => by_cases hx : p x = true <;> simp [hx, ih]

theorem close_mem_dropWhile {α : Type} (p : α → Bool) : ∀ (l : List α) {x : α}, x ∈ l → p x = false →
    x ∈ l.dropWhile p
  | [], _, h, _ => nomatch h
  | y :: ys, x, h, hp => by
    by_cases hy : p y = true
    · rw [List.dropWhile_cons_of_pos hy]
      rcases List.mem_cons.mp h with rfl | h'
      · rw [hy] at hp; cases hp
      · exact close_mem_dropWhile p ys h' hp
    · rw [List.dropWhile_cons_of_neg hy]; exact h

theorem close_dropWhile_closed {α : Type} (p : α → Bool) : ∀ (l : List α),
    l.Pairwise (fun a b => p a = false → p b = false) → ∀ x ∈ l.dropWhile p, p x = false
  | [], _, _, h => nomatch h
  | y :: ys, hpw, x, hx => by
    rw [List.pairwise_cons] at hpw
    by_cases hy : p y = true
    · rw [List.dropWhile_cons_of_pos hy] at hx
      exact close_dropWhile_closed p ys hpw.2 x hx
    · rw [List.dropWhile_cons_of_neg hy] at hx
      have hy' : p y = false := by simpa using hy
      rcases List.mem_cons.mp hx with rfl | h'
      · exact hy'
      · exact hpw.1 x h' hy'

theorem close_eval_lastTargeting_eq (selp : QEntry → Bool) (d : Dest) (q : List QEntry) :
    lastTargeting (q.filter selp) d = (q.filter fun e => e.targets.contains d).reverse.find? selp := by
  rw [close_lastTargeting_eq, close_filter_filter_comm, List.getLast?_filter]

/-! ### `destination.merge(latest)` is the fast-forward to `latest` -/

theorem close_topHead_ff {g : Graph} (ha : close_Antisym g) {t x : Commit} (hle : g.le t x = true)
    (hxx : g.le x x = true) : topHead g [t, x] = some x := by
  unfold topHead
  by_cases hxt : g.le x t = true
  · have : t = x := ha t x hle hxt
    subst this
    simp [hxx]
  · have hxt' : g.le x t = false := by simpa using hxt
    simp [hxt', hle, hxx]

/-- without antisymmetry `git merge` of a commit that contains the tip need not end ON that commit: the hypothesis
    `close_Antisym` of `close_evalQueues_eq_partial` is used -/
example : topHead ⟨[[0, 1], [1, 0]]⟩ [0, 1] = some 0 ∧ (Graph.mk [[0, 1], [1, 0]]).le 0 1 = true := by decide

theorem close_merge_ff {l : Loc} (ha : close_Antisym l.g) (hwf : l.g.WF) {d : Dest} {t x : Commit}
    (ht : l.refs.get (.dest d) = some t) (hle : l.g.le t x = true) :
    l.merge (.dest d) [x] = some { l with refs := l.refs.set (.dest d) x } := by
  have hxx : l.g.le x x = true := le_refl hwf (le_size hwf hle).2
  unfold Loc.merge
  rw [ht]
  simp only
  rw [close_topHead_ff ha hle hxx]

theorem close_intsOf_cons (v : VQ) (vs : Coll) (d : Dest) :
    intsOf (v :: vs) d = if v.d = d then v.ints else intsOf vs d := by
  unfold intsOf
  by_cases h : v.d = d
  · simp [h]
  · simp [h]

def close_goneOf (c : Coll) : List Ref := c.flatMap fun v => v.ints.map fun i => Ref.qw i.pr v.d i.src

/-- `merge_queues` on a collection whose first queue-integration branches contain their destination's tip: no crash,
    no new commit, every destination EXACTLY on the first remaining queue-integration branch of its version -/
theorem close_mergeQueues_exact {g : Graph} (ha : close_Antisym g) (hwf : g.WF) : ∀ (c : Coll) (l : Loc), l.g = g →
    (keys c).Nodup → (∀ v ∈ c, v.master.isSome = true) →
    (∀ v ∈ c, ∀ x ∈ v.ints.head?, ∃ t, l.refs.get (.dest v.d) = some t ∧ g.le t x.tip = true) →
    ∃ r, mergeQueues l c = some r ∧ r.1.g = g ∧ r.2 = close_goneOf c ∧
      (∀ y, (∀ d, y ≠ .dest d) → r.1.refs.get y = l.refs.get y) ∧
      (∀ d, r.1.refs.get (.dest d) = match (intsOf c d).head? with
        | some x => some x.tip
        | none => l.refs.get (.dest d))
  | [], l, hg, _, _, _ => ⟨(l, []), rfl, hg, rfl, fun _ _ => rfl, fun _ => rfl⟩
  | v :: vs, l, hg, hn, hm, hpre => by
    simp only [keys, List.map_cons, List.nodup_cons] at hn
    have hnotin : ∀ w ∈ vs, w.d ≠ v.d := fun w hw he => hn.1 (List.mem_map.mpr ⟨w, hw, he⟩)
    have hvd : intsOf vs v.d = [] := qv_intsOf_not_mem hn.1
    unfold mergeQueues
    cases hmq : v.master with
    | none => have := hm v List.mem_cons_self; rw [hmq] at this; cases this
    | some mq =>
      simp only
      cases hi : v.ints with
      | nil =>
        simp only
        obtain ⟨r, h1, h2, h3, h4, h5⟩ := close_mergeQueues_exact ha hwf vs l hg hn.2
          (fun w hw => hm w (List.mem_cons_of_mem _ hw)) (fun w hw => hpre w (List.mem_cons_of_mem _ hw))
        refine ⟨r, h1, h2, ?_, h4, ?_⟩
        · rw [h3]; simp [close_goneOf, hi]
        · intro d
          rw [h5 d, close_intsOf_cons]
          by_cases hd : v.d = d
          · subst hd
            rw [if_pos rfl, hvd, hi]
          · rw [if_neg hd]
      | cons x xs =>
        simp only
        obtain ⟨t, ht, hle⟩ := hpre v List.mem_cons_self x (by rw [hi]; simp)
        have hmg := close_merge_ff (l := l) (by rw [hg]; exact ha) (by rw [hg]; exact hwf) ht (by rw [hg]; exact hle)
        rw [hmg]
        simp only
        have hother : ∀ y, y ≠ .dest v.d → (l.refs.set (.dest v.d) x.tip).get y = l.refs.get y :=
          fun y hy => RefMap.get_set_ne _ _ hy
        obtain ⟨r, h1, h2, h3, h4, h5⟩ := close_mergeQueues_exact ha hwf vs
          { l with refs := l.refs.set (.dest v.d) x.tip } hg hn.2
          (fun w hw => hm w (List.mem_cons_of_mem _ hw))
          (fun w hw y hy => by
            obtain ⟨t', ht', hle'⟩ := hpre w (List.mem_cons_of_mem _ hw) y hy
            refine ⟨t', ?_, hle'⟩
            simp only
            rw [hother _ (by simp only [ne_eq, Ref.dest.injEq]; exact hnotin w hw)]
            exact ht')
        rw [h1]
        refine ⟨_, rfl, h2, ?_, ?_, ?_⟩
        · simp only [h3, close_goneOf, List.flatMap_cons, hi]
        · intro y hy
          simp only
          rw [h4 y hy]
          exact hother y (hy v.d)
        · intro d
          simp only
          rw [h5 d, close_intsOf_cons]
          by_cases hd : v.d = d
          · subst hd
            rw [if_pos rfl, hvd, hi]
            simp only [List.head?_nil, List.head?_cons]
            exact RefMap.get_set_eq _ _ _
          · rw [if_neg hd]
            cases (intsOf vs d).head? with
            | some _ => rfl
            | none =>
              simp only
              exact hother _ (by simp only [ne_eq, Ref.dest.injEq]; exact fun h => hd h.symm)

end BertE.Close
