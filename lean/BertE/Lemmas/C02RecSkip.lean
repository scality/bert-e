import BertE.Lemmas.C02Content
/- C02, recovery of a direct merge in every mode: the content of the publishing push is a closed-form function of the
   snapshot, although with queues enabled (`skip_queue_when_not_needed`) the in-sync integration branches are put back
   to their remote value (`settle`) and the q/ branches are deleted before the publishing push. -/
namespace BertE.Flow
open BertE.Git

/-- in every mode an integration branch handed over to the merge holds AT LEAST what it held in the snapshot and AT
    MOST what the update gives it (reached in no-queue mode; an in-sync branch put back stays at the lower bound) -/
theorem rec_prepare_content {s : Sys} (hs : s.WF) (pr : PrInfo) {sc dc : Commit}
    (hsclt : sc < s.g.size) (orc : List Bool) {l4 : Loc} {pushW : List Op}
    (hprep : prepare s pr sc dc orc = .inr (l4, pushW)) {rest : List Dest}
    (hrest : (s.targets pr.dst).drop 1 = rest) (hnd' : rest.Nodup) :
    pushW = pushWOps l4 pr rest ∧
    (∀ x, (∀ d ∈ rest, x ≠ .w d pr.src) → l4.refs.get x = s.remote.get x) ∧
    ∀ pre d post, rest = pre ++ d :: post → ∃ w', l4.refs.get (.w d pr.src) = some w' ∧
      ∀ a, a < s.g.size →
        (Wc s.g s.remote pr.src d a → l4.g.le a w' = true) ∧
        (l4.g.le a w' = true →
          (s.g.le a sc = true ∨ ∃ d'' ∈ pre ++ [d], Wc s.g s.remote pr.src d'' a ∨ Dc s.g s.remote d'' a)) := by
  subst hrest
  obtain ⟨hpw, hsame, hw⟩ := prepare_wcontent hs pr hsclt orc hprep
  have hext : Extends s.g l4.g := (prepare_inr hs pr hsclt hprep).1.ext
  refine ⟨hpw, hsame, fun pre d post hsplit => ?_⟩
  obtain ⟨w', hw', h⟩ := hw pre d post hsplit
  refine ⟨w', hw', fun a ha => ?_⟩
  rcases h with h | ⟨_, h0⟩
  · rw [h a ha]
    exact ⟨fun hd => Or.inr ⟨d, by simp, Or.inl hd⟩, id⟩
  · rw [hext.2 a w' (hs.valid _ _ h0)]
    exact ⟨(tip_iff h0 a).mp, fun hle => Or.inr ⟨d, by simp, Or.inl ((tip_iff h0 a).mpr hle)⟩⟩

/-- as `DirectRun`, with the deletions of the queue branches between the push of the integration branches and the
    publishing push, and with the integration branches known between two bounds only -/
structure rec_Run (s : Sys) (pr : PrInfo) (sc : Commit) (p : Plan) (loc : RefMap) (l4 : Loc) (qs : List Ref) : Prop where
  ok : l4.OK
  ext1 : Extends s.g l4.g
  ext2 : Extends l4.g p.g
  wf : p.g.WF
  qonly : ∀ r ∈ qs, ∃ d, r = .q d
  ops : p.ops = pushWOps l4 pr ((s.targets pr.dst).drop 1) ++ qs.map Op.delete ++ [Op.pushAll loc true]
  same : ∀ x, (∀ d ∈ (s.targets pr.dst).drop 1, x ≠ .w d pr.src) → l4.refs.get x = s.remote.get x
  wcont : ∀ pre d post, (s.targets pr.dst).drop 1 = pre ++ d :: post → ∃ w', l4.refs.get (.w d pr.src) = some w' ∧
    ∀ a, a < s.g.size →
      (Wc s.g s.remote pr.src d a → l4.g.le a w' = true) ∧
      (l4.g.le a w' = true →
        (s.g.le a sc = true ∨ ∃ d'' ∈ pre ++ [d], Wc s.g s.remote pr.src d'' a ∨ Dc s.g s.remote d'' a))
  first : ∃ n1, loc.get (.dest pr.dst) = some n1 ∧ ∀ a, a < s.g.size →
    (p.g.le a n1 = true ↔ FirstC s.g s.remote sc pr.dst a)
  further : ∀ pre d post, (s.targets pr.dst).drop 1 = pre ++ d :: post → ∃ n, loc.get (.dest d) = some n ∧
    ∀ a, a < s.g.size → (p.g.le a n = true ↔ FinalC s.g s.remote pr.src sc pr.dst (pre ++ [d]) a)

/-- field `wcont` for a target `d'` among the further targets up to `d`, in the form `FinalC_congr` takes -/
theorem wcont_upto {s : Sys} {pr : PrInfo} {sc : Commit} {l4 : Loc}
    (hwcont : ∀ pre d post, (s.targets pr.dst).drop 1 = pre ++ d :: post →
      ∃ w', l4.refs.get (.w d pr.src) = some w' ∧ ∀ a, a < s.g.size →
        (Wc s.g s.remote pr.src d a → l4.g.le a w' = true) ∧
        (l4.g.le a w' = true →
          (s.g.le a sc = true ∨ ∃ d'' ∈ pre ++ [d], Wc s.g s.remote pr.src d'' a ∨ Dc s.g s.remote d'' a)))
    {pre : List Dest} {d : Dest} {post : List Dest} (hsplit : (s.targets pr.dst).drop 1 = pre ++ d :: post)
    {d' : Dest} (hd' : d' ∈ pre ++ [d]) {a : Commit} (ha : a < s.g.size) :
    (Wc s.g s.remote pr.src d' a → Wc l4.g l4.refs pr.src d' a) ∧
    (Wc l4.g l4.refs pr.src d' a → FinalC s.g s.remote pr.src sc pr.dst (pre ++ [d]) a) := by
  obtain ⟨p1, p2, hp12⟩ := List.append_of_mem hd'
  obtain ⟨w', hw', hcw⟩ := hwcont p1 d' (p2 ++ post) (by
    rw [hsplit, List.append_cons, hp12, List.append_assoc, List.cons_append])
  refine ⟨fun h => ⟨w', hw', (hcw a ha).1 h⟩, ?_⟩
  rintro ⟨w, hw, hle⟩
  rw [hw'] at hw
  cases hw
  rcases (hcw a ha).2 hle with h | ⟨d'', hd'', h | h⟩
  · exact Or.inl (Or.inr h)
  · exact Or.inr ⟨d'', rec_mem_prefix hp12 hd'', Or.inr h⟩
  · exact Or.inr ⟨d'', rec_mem_prefix hp12 hd'', Or.inl h⟩

theorem planPr_final_direct {s : Sys} (pr : PrInfo) (hnaq : alreadyQueued s pr = false) (orc : List Bool)
    (sel : List Nat) {loc : RefMap} (hlast : (planPr s pr .final orc sel).ops.getLast? = some (.pushAll loc true)) :
    ∃ sc dc l4 pushW, s.remote.get (.other pr.src) = some sc ∧ prepare s pr sc dc orc = .inr (l4, pushW) ∧
      isNeeded s l4 pr (s.targets pr.dst) = false ∧
      planPr s pr .final orc sel = directMerge s l4 pr sc (s.targets pr.dst) pushW := by
  revert hlast
  refine planPr_elim (motive := fun p => p.ops.getLast? = some (.pushAll loc true) →
      ∃ sc dc l4 pushW, s.remote.get (.other pr.src) = some sc ∧ prepare s pr sc dc orc = .inr (l4, pushW) ∧
        isNeeded s l4 pr (s.targets pr.dst) = false ∧ p = directMerge s l4 pr sc (s.targets pr.dst) pushW)
    s pr .final orc sel (fun _ h => nomatch h) (fun h => absurd (hnaq ▸ h) Bool.false_ne_true)
    (fun sc dc p _ _ hp h => absurd h (quiet_getLast ((prepare_quiet s pr sc dc orc).1 p hp)))
    fun sc dc l4 pushW hsc _ hp _ => ?_
  have hquiet := (prepare_quiet s pr sc dc orc).2 l4 pushW hp
  exact ⟨fun h => absurd h (quiet_getLast hquiet), fun _ h => absurd h (quiet_getLast (enqueue_quiet hquiet)),
    fun _ hneed _ => ⟨sc, dc, l4, pushW, hsc, hp, hneed, rfl⟩⟩

/-- The content of a direct merge is a function of the snapshot: among the commits that existed when the job started,
    the new tip of the first target holds exactly those of its old tip and of the source, the new tip of every further
    target those of the first target's new tip and of the destination and integration branches of the targets up to
    it. No merge oracle, no commit identity appears. -/
theorem planPr_run {s : Sys} (hs : s.WF) (pr : PrInfo) (hnaq : alreadyQueued s pr = false) (orc : List Bool)
    (sel : List Nat) {sc : Commit} (hsc : s.remote.get (.other pr.src) = some sc) {loc : RefMap}
    (hlast : (planPr s pr .final orc sel).ops.getLast? = some (.pushAll loc true)) :
    ∃ dc l4 pushW, prepare s pr sc dc orc = .inr (l4, pushW) ∧
      rec_Run s pr sc (planPr s pr .final orc sel) loc l4 (if s.useQueue then qOnly l4.refs else []) := by
  obtain ⟨sc', dc, l4, pushW, hsc', hprep, _, hp⟩ := planPr_final_direct pr hnaq orc sel hlast
  rw [hsc] at hsc'
  cases hsc'
  rw [hp] at hlast ⊢
  have hsclt : sc < s.g.size := hs.valid _ _ hsc
  obtain ⟨hw, _⟩ := prepare_inr hs pr hsclt hprep
  have hsc4 : sc < l4.g.size := hw.ext.lt hsclt
  have hnd : (s.targets pr.dst).Nodup := pairwise_before_nodup (targets_pairwise hs.sorted pr.dst)
  obtain ⟨hpw, hsame, hwcont⟩ :=
    rec_prepare_content hs pr hsclt orc hprep rfl (hnd.sublist (List.drop_sublist 1 _))
  have hgx := directMerge_gext (s := s) hw.ok pr hsc4 (s.targets pr.dst) hnd pushW
  obtain ⟨hops, ⟨n1, hn1, hfirst⟩, hfurther⟩ := directMerge_content (s := s) (pr := pr) (targets_cons s pr.dst)
    s.g.size hw.ok hsc4 hw.ext.1 hnd ((prepare_quiet s pr sc dc orc).2 l4 pushW hprep) hlast
  have hDc : ∀ a d, Dc l4.g l4.refs d a ↔ Dc s.g s.remote d a :=
    fun a d => Dc_congr hs.valid hw.ext (hw.dests (.dest d) fun _ _ he => nomatch he) a
  refine ⟨dc, l4, pushW, hprep, hw.ok, hw.ext, hgx.ext, hgx.wf, directMerge_qs s l4, hpw ▸ hops, hsame, hwcont,
    ⟨n1, hn1, fun a ha => (hfirst a ha).trans (FirstC_congr (hDc a pr.dst) (hw.ext.2 a sc hsclt))⟩,
    fun pre d post hsplit => ?_⟩
  obtain ⟨n, hn, hc⟩ := hfurther pre d post hsplit
  exact ⟨n, hn, fun a ha => (hc a ha).trans
    (FinalC_congr (hDc a) (hw.ext.2 a sc hsclt) fun d' hd' => wcont_upto hwcont hsplit hd' ha)⟩

theorem rec_planPr_run {s : Sys} (hs : s.WF) (pr : PrInfo) (hnaq : alreadyQueued s pr = false) (orc : List Bool)
    (sel : List Nat) {sc : Commit} (hsc : s.remote.get (.other pr.src) = some sc) {loc : RefMap}
    (hlast : (planPr s pr .final orc sel).ops.getLast? = some (.pushAll loc true)) :
    ∃ l4 qs, rec_Run s pr sc (planPr s pr .final orc sel) loc l4 qs :=
  let ⟨_, l4, _, _, hr⟩ := planPr_run hs pr hnaq orc sel hsc hlast
  ⟨l4, _, hr⟩

/-- what the remote may look like before the publishing push: every ref where it was, or an integration branch
    of a further target already on its new value, or a queue branch already deleted -/
def rec_Mid (s : Sys) (pr : PrInfo) (l4 : Loc) (m : RefMap) : Prop :=
  ∀ x, m.get x = s.remote.get x ∨
    (∃ d ∈ (s.targets pr.dst).drop 1, x = .w d pr.src ∧ m.get x = l4.refs.get x) ∨
    (∃ d, x = .q d ∧ m.get x = none)

theorem rec_Mid.same {s : Sys} {pr : PrInfo} {l4 : Loc} {m : RefMap} (h : rec_Mid s pr l4 m) {x : Ref}
    (hw : ∀ d src, x ≠ .w d src) (hq : ∀ d, x ≠ .q d) : m.get x = s.remote.get x := by
  rcases h x with h | ⟨d, _, he, _⟩ | ⟨d, he, _⟩
  · exact h
  · exact absurd he (hw d _)
  · exact absurd he (hq d)

/-- the operations of a direct merge before its publishing push -/
def rec_MidOp (s : Sys) (pr : PrInfo) (l4 : Loc) (op : Op) : Prop :=
  op = Op.push (tipsOf l4.refs (((s.targets pr.dst).drop 1).map (fun d => Ref.w d pr.src))) ∨ ∃ d, op = .delete (.q d)

theorem rec_applyOp_mid {s : Sys} {pr : PrInfo} {l4 : Loc} (g : Graph) (rej : Ref → Bool) {m : RefMap} {op : Op}
    (hm : rec_Mid s pr l4 m) (hop : rec_MidOp s pr l4 op) : rec_Mid s pr l4 (applyOp g rej m op) := by
  intro x
  rcases hop with rfl | ⟨d, rfl⟩
  · rcases applyOp_push_cases g rej _ m x with h | ⟨c, hc, h⟩
    · rw [h]
      exact hm x
    · obtain ⟨hmem, hget⟩ := mem_tipsOf.mp hc
      obtain ⟨d, hd, rfl⟩ := List.mem_map.mp hmem
      exact Or.inr (Or.inl ⟨d, hd, rfl, h.trans hget.symm⟩)
  · rw [applyOp_delete]
    split
    · exact hm x
    · rw [RefMap.get_del]
      split
      · next hx => exact Or.inr (Or.inr ⟨d, hx, rfl⟩)
      · exact hm x

theorem rec_interrupted {s : Sys} {pr : PrInfo} {sc : Commit} {p : Plan} {loc : RefMap} {l4 : Loc} {qs : List Ref}
    (hr : rec_Run s pr sc p loc l4 qs) (rej : Nat → Ref → Bool) {k : Nat} (hk : k < p.ops.length) :
    rec_Mid s pr l4 (observableAt s p rej k) := by
  unfold observableAt
  rw [hr.ops] at hk ⊢
  rw [List.take_append_of_le_length (by rw [List.length_append] at hk; exact Nat.le_of_lt_succ hk)]
  apply applyOpsAt_preserves (fun rej _ _ hm hop => rec_applyOp_mid p.g rej hm hop) rej _ 0 (fun x => Or.inl rfl)
  intro op hop
  rcases List.mem_append.mp (List.mem_of_mem_take hop) with h | h
  · unfold pushWOps at h
    split at h
    · cases h
    · exact Or.inl (List.mem_singleton.mp h)
  · obtain ⟨r, hr', rfl⟩ := List.mem_map.mp h
    obtain ⟨d, rfl⟩ := hr.qonly r hr'
    exact Or.inr ⟨d, rfl⟩

theorem rec_interrupted_dest {s : Sys} {pr : PrInfo} {sc : Commit} {p : Plan} {loc : RefMap} {l4 : Loc} {qs : List Ref}
    (hr : rec_Run s pr sc p loc l4 qs) (rej : Nat → Ref → Bool) {k : Nat} (hk : k < p.ops.length) (d : Dest) :
    (observableAt s p rej k).get (.dest d) = s.remote.get (.dest d) :=
  (rec_interrupted hr rej hk).same (fun _ _ h => nomatch h) (fun _ h => nomatch h)

theorem rec_interrupted_WF {s : Sys} (hs : s.WF) {pr : PrInfo} {sc : Commit} {p : Plan} {loc : RefMap} {l4 : Loc}
    {qs : List Ref} (hr : rec_Run s pr sc p loc l4 qs) (rej : Nat → Ref → Bool) {k : Nat} (hk : k < p.ops.length) :
    (interrupted s p rej k).WF := by
  refine ⟨hr.wf, ?_, hs.sorted, ?_⟩
  · intro x c hc
    simp only [interrupted] at hc ⊢
    rcases rec_interrupted hr rej hk x with h | ⟨_, _, _, h⟩ | ⟨_, _, h⟩
    · rw [h] at hc
      exact (hr.ext1.trans hr.ext2).lt (hs.valid _ _ hc)
    · rw [h] at hc
      exact hr.ext2.lt (hr.ok.valid _ _ hc)
    · rw [h] at hc; cases hc
  · intro M m c hc
    simp only [interrupted] at hc
    rw [rec_interrupted_dest hr rej hk] at hc
    exact hs.devsOK M m c hc

theorem rec_interrupted_notQueued {s : Sys} {pr : PrInfo} (hnaq : alreadyQueued s pr = false) {sc : Commit} {p : Plan}
    {loc : RefMap} {l4 : Loc} {qs : List Ref} (hr : rec_Run s pr sc p loc l4 qs) (rej : Nat → Ref → Bool) {k : Nat}
    (hk : k < p.ops.length) : alreadyQueued (interrupted s p rej k) pr = false := by
  have hh : ∀ d, (observableAt s p rej k).has (.qw pr.id d pr.src) = s.remote.has (.qw pr.id d pr.src) := fun d => by
    unfold RefMap.has
    rw [(rec_interrupted hr rej hk).same (x := .qw pr.id d pr.src) (fun _ _ h => nomatch h) (fun _ h => nomatch h)]
  unfold alreadyQueued at hnaq ⊢
  simp only [interrupted, hh]
  exact hnaq

/-- whichever integration branches were already pushed and queue branches deleted, `FinalC` yields on the interrupted
    remote what it yielded on the snapshot -/
theorem rec_finalC_interrupted {s : Sys} (hs : s.WF) {pr : PrInfo} {sc : Commit} (hsc : sc < s.g.size) {p : Plan}
    {loc : RefMap} {l4 : Loc} {qs : List Ref} (hr : rec_Run s pr sc p loc l4 qs) (rej : Nat → Ref → Bool) {k : Nat}
    (hk : k < p.ops.length) {pre : List Dest} {d : Dest} {post : List Dest}
    (hsplit : (s.targets pr.dst).drop 1 = pre ++ d :: post) (a : Commit) (ha : a < s.g.size) :
    FinalC p.g (observableAt s p rej k) pr.src sc pr.dst (pre ++ [d]) a ↔
    FinalC s.g s.remote pr.src sc pr.dst (pre ++ [d]) a := by
  have hx : Extends s.g p.g := hr.ext1.trans hr.ext2
  refine FinalC_congr (fun d' => Dc_congr hs.valid hx (rec_interrupted_dest hr rej hk d') a) (hx.2 a sc hsc)
    fun d' hd' => ?_
  rcases rec_interrupted hr rej hk (.w d' pr.src) with hsame | ⟨_, _, _, hnew⟩ | ⟨_, he, _⟩
  · -- the integration branch is where it was
    have h := Wc_congr hs.valid hx hsame a
    exact ⟨h.mpr, fun hw => Or.inr ⟨d', hd', Or.inr (h.mp hw)⟩⟩
  · -- the integration branch as pushed by the interrupted job
    have h := Wc_congr hr.ok.valid hr.ext2 hnew a
    obtain ⟨hlo, hhi⟩ := wcont_upto (sc := sc) hr.wcont hsplit hd' ha
    exact ⟨fun hw => h.mpr (hlo hw), fun hw => hhi (h.mp hw)⟩
  · cases he

/-- the statement behind `C02_recovery_skipqueue` -/
theorem rec_direct_recovery {s : Sys} (hs : s.WF) (pr : PrInfo) (hnaq : alreadyQueued s pr = false)
    (orc : List Bool) (sel : List Nat) {sc : Commit} (hsc : s.remote.get (.other pr.src) = some sc)
    {locU : RefMap} (hU : (planPr s pr .final orc sel).ops.getLast? = some (.pushAll locU true))
    (rej : Nat → Ref → Bool) {k : Nat} (hk : k < (planPr s pr .final orc sel).ops.length)
    (orc' : List Bool) (sel' : List Nat) {locR : RefMap}
    (hR : (planPr (interrupted s (planPr s pr .final orc sel) rej k) pr .final orc' sel').ops.getLast? =
      some (.pushAll locR true)) :
    ∀ d ∈ s.targets pr.dst, ∃ t₁ t₂, locU.get (.dest d) = some t₁ ∧ locR.get (.dest d) = some t₂ ∧
      ∀ a, a < s.g.size → ((planPr s pr .final orc sel).g.le a t₁ = true ↔
        (planPr (interrupted s (planPr s pr .final orc sel) rej k) pr .final orc' sel').g.le a t₂ = true) := by
  obtain ⟨l4, qs, hrU⟩ := rec_planPr_run hs pr hnaq orc sel hsc hU
  have hsc' : (interrupted s (planPr s pr .final orc sel) rej k).remote.get (.other pr.src) = some sc :=
    ((rec_interrupted hrU rej hk).same (x := .other pr.src) (fun _ _ h => nomatch h) (fun _ h => nomatch h)).trans hsc
  obtain ⟨l4R, qsR, hrR⟩ := rec_planPr_run (rec_interrupted_WF hs hrU rej hk) pr
    (rec_interrupted_notQueued hnaq hrU rej hk) orc' sel' hsc' hR
  have hsclt : sc < s.g.size := hs.valid _ _ hsc
  have hx : Extends s.g (planPr s pr .final orc sel).g := hrU.ext1.trans hrU.ext2
  intro d hd
  rw [targets_cons] at hd
  rcases List.mem_cons.mp hd with rfl | hd
  · obtain ⟨n1, h1, c1⟩ := hrU.first
    obtain ⟨n1R, h1R, c1R⟩ := hrR.first
    refine ⟨n1, n1R, h1, h1R, fun a ha => ?_⟩
    rw [c1 a ha, c1R a (hx.lt ha)]
    exact (FirstC_congr (Dc_congr hs.valid hx (rec_interrupted_dest hrU rej hk pr.dst) a) (hx.2 a sc hsclt)).symm
  · obtain ⟨pre, post, hsplit⟩ := List.append_of_mem hd
    obtain ⟨n, hn, c⟩ := hrU.further pre d post hsplit
    obtain ⟨nR, hnR, cR⟩ := hrR.further pre d post hsplit
    refine ⟨n, nR, hn, hnR, fun a ha => ?_⟩
    rw [c a ha, cR a (hx.lt ha)]
    exact (rec_finalC_interrupted hs hsclt hrU rej hk hsplit a ha).symm

/-- with queues enabled, a direct merge means that `skip_queue_when_not_needed` is on and the queue is empty -/
theorem rec_direct_needs_skip {s : Sys} (huq : s.useQueue = true) (pr : PrInfo) (hnaq : alreadyQueued s pr = false)
    (orc : List Bool) (sel : List Nat) {loc : RefMap}
    (hU : (planPr s pr .final orc sel).ops.getLast? = some (.pushAll loc true)) :
    s.skipQueue = true ∧ s.queue = [] := by
  obtain ⟨_, _, l4, _, _, _, hneed, _⟩ := planPr_final_direct pr hnaq orc sel hU
  unfold isNeeded at hneed
  rw [huq] at hneed
  simp only [Bool.not_true, Bool.false_eq_true, if_false] at hneed
  split at hneed
  · cases hneed
  · rename_i hcond
    simp only [Bool.or_eq_true, Bool.not_eq_true', not_or, Bool.not_eq_true, Bool.not_eq_false] at hcond
    exact ⟨hcond.1.1, List.isEmpty_iff.mp hcond.2⟩

/-- `planPr_run` in no-queue mode: no queue branch to delete, the integration branches known exactly -/
theorem planPr_direct_run {s : Sys} (hs : s.WF) (hnq : s.useQueue = false) (pr : PrInfo) (orc : List Bool)
    (sel : List Nat) {sc : Commit} (hsc : s.remote.get (.other pr.src) = some sc) {loc : RefMap}
    (hlast : (planPr s pr .final orc sel).ops.getLast? = some (.pushAll loc true)) :
    ∃ l4, DirectRun s pr sc (planPr s pr .final orc sel) loc l4 := by
  have hnaq : alreadyQueued s pr = false := by simp [alreadyQueued, hnq]
  obtain ⟨dc, l4, pushW, hprep, hr⟩ := planPr_run hs pr hnaq orc sel hsc hlast
  obtain ⟨_, _, hw⟩ := prepare_wcontent hs pr (hs.valid _ _ hsc) orc hprep
  refine ⟨l4, hr.ok, hr.ext1, hr.ext2, hr.wf, ?_, hr.same, fun pre d post hsplit => ?_, hr.first, hr.further⟩
  · rw [hr.ops, hnq]
    simp
  · obtain ⟨w', hw', h | ⟨huq, _⟩⟩ := hw pre d post hsplit
    · exact ⟨w', hw', h⟩
    · exact absurd (hnq.symm.trans huq) Bool.false_ne_true

end BertE.Flow
