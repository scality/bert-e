import BertE.Lemmas.C02RecEnqueueCrash
import BertE.Lemmas.QueueStep
/- C02, recovery of `add_to_queue`: the evaluation delivered again. On a state that is `rec_Rebuilt` its queue commits
   have the content of the uninterrupted ones; `rec_Rebuilt` is reached by the rebuild-queues job when nothing else
   is queued, and by a crash before the final push without any reset. -/
namespace BertE.Flow
open BertE.Git

/-- The state `sR` in which the pull request is evaluated again, after the job that should have queued it was
    interrupted (state `s'`) and the queues were reset and rebuilt: same branches, destinations and source as in
    the snapshot `s`; the integration branches of the pull request as the interrupted job left them; the pull
    request not queued; and (`q`) the rebuilt queue branches have the content that the queue branches had, a
    destination branch standing for a queue branch that does not exist yet. -/
structure rec_Rebuilt (s : Sys) (pr : PrInfo) (s' sR : Sys) : Prop where
  wf : sR.WF
  devs : sR.devs = s.devs
  ext : Extends s'.g sR.g
  dest : ∀ d, sR.remote.get (.dest d) = s.remote.get (.dest d)
  src : sR.remote.get (.other pr.src) = s.remote.get (.other pr.src)
  w : ∀ d ∈ (s.targets pr.dst).drop 1, sR.remote.get (.w d pr.src) = s'.remote.get (.w d pr.src)
  q : ∀ d ∈ s.targets pr.dst, ∀ a, a < s.g.size → (rec_Qc0 sR.g sR.remote d a ↔ rec_Qc0 s.g s.remote d a)
  fresh : alreadyQueued sR pr = false
  qwfresh : ∀ d ∈ s.targets pr.dst, sR.remote.get (.qw pr.id d pr.src) = none
  tip : rec_QTip sR.g sR.remote

theorem rec_targets_devs {s sR : Sys} (h : sR.devs = s.devs) (d : Dest) : sR.targets d = s.targets d := by
  unfold Sys.targets
  rw [h]

/-- the queue commits of the evaluation delivered again have the content of the uninterrupted ones -/
theorem rec_enqueue_recovery {s : Sys} (hs : s.WF) (hqt : rec_QTip s.g s.remote) (pr : PrInfo)
    (hnaq : alreadyQueued s pr = false) (orc : List Bool) (sel : List Nat) {sc : Commit}
    (hsc : s.remote.get (.other pr.src) = some sc)
    (hU : (planPr s pr .final orc sel).outcome = "Queued") (rej : Nat → Ref → Bool) (k : Nat) {sR : Sys}
    (hreb : rec_Rebuilt s pr (interrupted s (planPr s pr .final orc sel) rej k) sR)
    (orc' : List Bool) (sel' : List Nat) (hR : (planPr sR pr .final orc' sel').outcome = "Queued") :
    ∃ l4 l8 l4R l8R, rec_QRun s pr sc (planPr s pr .final orc sel) l4 l8 ∧
      rec_QRun sR pr sc (planPr sR pr .final orc' sel') l4R l8R ∧
      ∀ d ∈ s.targets pr.dst, ∃ nU nR, l8.refs.get (.qw pr.id d pr.src) = some nU ∧
        l8R.refs.get (.qw pr.id d pr.src) = some nR ∧
        ∀ a, a < s.g.size → (l8.g.le a nU = true ↔ l8R.g.le a nR = true) := by
  obtain ⟨l4, l8, hrU⟩ := rec_planPr_qrun hs hqt pr hnaq orc sel hsc hU
  obtain ⟨l4R, l8R, hrR⟩ := rec_planPr_qrun hreb.wf hreb.tip pr hreb.fresh orc' sel' (hreb.src.trans hsc) hR
  refine ⟨l4, l8, l4R, l8R, hrU, hrR, ?_⟩
  have hT : sR.targets pr.dst = s.targets pr.dst := rec_targets_devs hreb.devs pr.dst
  have hsclt : sc < s.g.size := hs.valid _ _ hsc
  have hx4R : Extends l4.g sR.g := by
    have := hreb.ext
    simp only [interrupted] at this
    rw [hrU.pg] at this
    exact hrU.ext2.trans this
  have hxR : Extends s.g sR.g := hrU.ext1.trans hx4R
  have hF : ∀ a, a < s.g.size → (rec_QFirst sR.g sR.remote sc pr.dst a ↔ rec_QFirst s.g s.remote sc pr.dst a) := by
    intro a ha
    unfold rec_QFirst
    rw [hreb.q pr.dst (by rw [targets_cons]; exact List.mem_cons_self) a ha, hxR.2 a sc hsclt]
  intro d hd
  rw [targets_cons] at hd
  rcases List.mem_cons.mp hd with rfl | hd
  · obtain ⟨n1, h1, _, c1⟩ := hrU.first
    obtain ⟨n1R, h1R, _, c1R⟩ := hrR.first
    refine ⟨n1, n1R, h1, h1R, fun a ha => ?_⟩
    rw [c1 a ha, c1R a (Nat.lt_of_lt_of_le ha hxR.1)]
    exact (hF a ha).symm
  · obtain ⟨pre, post, hsplit⟩ := List.append_of_mem hd
    obtain ⟨n, hn, _, c⟩ := hrU.further pre d post hsplit
    obtain ⟨nR, hnR, _, cR⟩ := hrR.further pre d post (hT ▸ hsplit)
    refine ⟨n, nR, hn, hnR, fun a ha => ?_⟩
    rw [c a ha, cR a (Nat.lt_of_lt_of_le ha hxR.1)]
    -- the closed form on the rebuilt state is the closed form on the snapshot
    have hq : ∀ d' ∈ pre ++ [d], (rec_Qc0 sR.g sR.remote d' a ↔ rec_Qc0 s.g s.remote d' a) := fun d' hd' =>
      hreb.q d' (by rw [targets_cons]; exact List.mem_cons_of_mem _ (rec_mem_prefix hsplit hd')) a ha
    -- the integration branch in the rebuilt state: as in the snapshot, or as pushed by the interrupted job
    have hwR : ∀ d' ∈ pre ++ [d], sR.remote.get (.w d' pr.src) = s.remote.get (.w d' pr.src) ∨
        sR.remote.get (.w d' pr.src) = l4.refs.get (.w d' pr.src) := by
      intro d' hd'
      rw [hreb.w d' (rec_mem_prefix hsplit hd')]
      exact rec_interruptedQ_w hrU rej k d' pr.src
    unfold rec_QFinal
    constructor
    · rintro (h | ⟨d', hd', h | h⟩)
      · exact Or.inl ((hF a ha).mpr h)
      · exact Or.inr ⟨d', hd', Or.inl ((hq d' hd').mpr h)⟩
      · refine Or.inr ⟨d', hd', Or.inr ?_⟩
        rcases hwR d' hd' with hsame | hnew
        · exact (Wc_congr hs.valid hxR hsame a).mpr h
        · obtain ⟨w', hw', hcw⟩ := rec_wcont_upto hrU.wcont hsplit hd'
          exact ⟨w', hnew.trans hw', hx4R.le (hrU.ok4.valid _ _ hw') ((hcw a ha).1 h)⟩
    · rintro (h | ⟨d', hd', h | h⟩)
      · exact Or.inl ((hF a ha).mp h)
      · exact Or.inr ⟨d', hd', Or.inl ((hq d' hd').mp h)⟩
      · rcases hwR d' hd' with hsame | hnew
        · exact Or.inr ⟨d', hd', Or.inr ((Wc_congr hs.valid hxR hsame a).mp h)⟩
        · -- what the interrupted job pushed is within the bounds of `prepare`
          obtain ⟨w', hw', hcw⟩ := rec_wcont_upto hrU.wcont hsplit hd'
          obtain ⟨w, hw, hle⟩ := h
          rw [hnew, hw'] at hw
          cases hw
          rw [hx4R.2 a w' (hrU.ok4.valid _ _ hw')] at hle
          rcases (hcw a ha).2 hle with h | ⟨d'', hd'', h | h⟩
          · exact Or.inl (Or.inr h)
          · exact Or.inr ⟨d'', hd'', Or.inr h⟩
          · exact Or.inr ⟨d'', hd'', Or.inl (rec_Dc_Qc0 hs.g hqt h)⟩

theorem rec_planQueues_newest (S : Sys) (es : List QEntry) (e : QEntry) (hq : S.queue = es ++ [e]) (sel : List Nat)
    (hsel : sel.contains e.pr = true) (hnd : e.targets.Nodup)
    (hex : ∀ d ∈ e.targets, ∃ c, S.remote.get (.qw e.pr d e.src) = some c) :
    ∃ loc, (planQueues S sel).ops = [Op.pushAll loc true] ∧
      ∀ d ∈ e.targets, loc.get (.dest d) = S.remote.get (.qw e.pr d e.src) := by
  unfold planQueues
  simp only
  have hf : S.queue.filter (fun e => sel.contains e.pr) = es.filter (fun e => sel.contains e.pr) ++ [e] := by
    have hmem : e.pr ∈ sel := by simpa using hsel
    rw [hq, List.filter_append]
    simp [hmem]
  rw [hf]
  have hne : (es.filter (fun e => sel.contains e.pr) ++ [e]).isEmpty = false := by simp
  rw [if_neg (by rw [hne]; exact Bool.false_ne_true)]
  refine ⟨_, rfl, ?_⟩
  intro d hd
  rw [delRefs_dest_same]
  · rw [List.foldl_append]
    simp only [List.foldl_cons, List.foldl_nil]
    have hqs : ∀ d, ((es.filter (fun e => sel.contains e.pr)).foldl mergeEntry S.remote).get (.qw e.pr d e.src) =
        S.remote.get (.qw e.pr d e.src) := fun d => mergeEntries_other _ _ _ (fun _ he => nomatch he)
    have hex' : ∀ d ∈ e.targets, ∃ c,
        ((es.filter (fun e => sel.contains e.pr)).foldl mergeEntry S.remote).get (.qw e.pr d e.src) = some c := by
      intro d hd
      obtain ⟨c, hc⟩ := hex d hd
      exact ⟨c, by rw [hqs]; exact hc⟩
    obtain ⟨_, h2⟩ := mergeEntry_spec e e.targets _ hex' hnd
    simp only [mergeEntry]
    rw [h2 d hd, hqs]
  · intro r hr
    simp only [List.mem_flatMap, List.mem_cons, List.not_mem_nil, or_false] at hr
    obtain ⟨_, _, _, _, rfl | rfl⟩ := hr <;> rfl

theorem rec_merge_newest {s : Sys} (hs : s.WF) {pr : PrInfo} {sc : Commit} {p : Plan} {l4 l8 : Loc}
    (hr : rec_QRun s pr sc p l4 l8) (hfresh : ∀ d ∈ s.targets pr.dst, s.remote.get (.qw pr.id d pr.src) = none)
    (sel : List Nat) (hsel : sel.contains pr.id = true) :
    ∃ loc, (planQueues (s.after p) sel).ops = [Op.pushAll loc true] ∧
      ∀ d ∈ s.targets pr.dst, loc.get (.dest d) = l8.refs.get (.qw pr.id d pr.src) := by
  obtain ⟨loc, hops, hloc⟩ := rec_planQueues_newest (s.after p) s.queue ⟨pr.id, pr.src, s.targets pr.dst⟩ hr.queue
    sel hsel (pairwise_before_nodup (targets_pairwise hs.sorted pr.dst)) (fun d hd => by
      obtain ⟨n, hn⟩ := close_rec_l8_qw hr hd
      exact ⟨n, (rec_after_qw hs hr hfresh hd).trans hn⟩)
  exact ⟨loc, hops, fun d hd => (hloc d hd).trans (rec_after_qw hs hr hfresh hd)⟩

/-- nothing is queued on the targets: every queue branch of a target has the content of its destination branch
    (`validate`: "in case there is no integration queue, the master queue must point on the development branch") -/
def rec_QEmpty (s : Sys) (pr : PrInfo) : Prop :=
  ∀ d ∈ s.targets pr.dst, ∀ a, a < s.g.size → (rec_Qc0 s.g s.remote d a ↔ Dc s.g s.remote d a)

/-- the state after the rebuild-queues job went through on `s'` -/
def rec_dropped (s' : Sys) : Sys :=
  { s' with remote := delRefs s'.remote (allQRefs s'.remote), queue := [] }

theorem rec_dropped_get (s' : Sys) (x : Ref) :
    (rec_dropped s').remote.get x =
      (match x with
       | .q _ => none
       | .qw _ _ _ => none
       | _ => s'.remote.get x) := by
  show (delRefs s'.remote (allQRefs s'.remote)).get x = _
  rw [get_delRefs]
  have hmem : x ∈ allQRefs s'.remote ↔ (∃ c, (x, c) ∈ s'.remote) ∧
      (match x with | .q _ => true | .qw _ _ _ => true | _ => false) = true := by
    simp only [allQRefs, List.mem_map, List.mem_filter, Prod.exists, exists_and_right, exists_eq_right]
    exact Iff.rfl
  -- a queue ref that exists is among the refs deleted; any other ref is not
  cases x with
  | q d =>
    split
    · rfl
    · next hni =>
      cases hc : s'.remote.get (.q d) with
      | none => rfl
      | some c => exact absurd (hmem.mpr ⟨⟨c, RefMap.get_mem hc⟩, rfl⟩) hni
  | qw i d n =>
    split
    · rfl
    · next hni =>
      cases hc : s'.remote.get (.qw i d n) with
      | none => rfl
      | some c => exact absurd (hmem.mpr ⟨⟨c, RefMap.get_mem hc⟩, rfl⟩) hni
  | dest d => rw [if_neg (fun h => nomatch (hmem.mp h).2)]
  | w d n => rw [if_neg (fun h => nomatch (hmem.mp h).2)]
  | other n => rw [if_neg (fun h => nomatch (hmem.mp h).2)]

theorem rec_dropped_is_step (s' : Sys) : (step s' .dropQueues).1 = rec_dropped s' := by
  simp only [step, plan, planDropQueues, rec_dropped]
  split
  · next hempty =>
    rw [List.isEmpty_iff.mp hempty]
    rfl
  · rw [applyOps_single, applyOp_pushAll_delRefs_noRej]

/-- when nothing else is queued, the rebuild-queues job alone makes any interrupted state `rec_Rebuilt` -/
theorem rec_rebuilt_first {s : Sys} (hs : s.WF) (hqt : rec_QTip s.g s.remote) (pr : PrInfo)
    (hnaq : alreadyQueued s pr = false) (orc : List Bool) (sel : List Nat) {sc : Commit}
    (hsc : s.remote.get (.other pr.src) = some sc)
    (hU : (planPr s pr .final orc sel).outcome = "Queued") (hempty : rec_QEmpty s pr)
    (rej : Nat → Ref → Bool) (k : Nat) :
    rec_Rebuilt s pr (interrupted s (planPr s pr .final orc sel) rej k)
      (rec_dropped (interrupted s (planPr s pr .final orc sel) rej k)) := by
  obtain ⟨l4, l8, hrU⟩ := rec_planPr_qrun hs hqt pr hnaq orc sel hsc hU
  have hgx := planPr_gext hs pr .final orc sel
  have hdest := rec_interruptedQ_dest hrU rej k
  have hold : ∀ x c, s.remote.get x = some c → c < (planPr s pr .final orc sel).g.size :=
    fun x c hc => Nat.lt_of_lt_of_le (hs.valid _ _ hc) hgx.ext.1
  refine ⟨⟨hgx.wf, ?_, hs.sorted, ?_⟩, rfl, Extends.refl _, ?_, ?_, ?_, ?_, ?_, ?_, ?_⟩
  · intro x c hc
    rw [rec_dropped_get] at hc
    cases x with
    | q d => cases hc
    | qw i d n => cases hc
    | dest d => exact hold _ c ((hdest d).symm.trans hc)
    | other n => exact hold _ c ((close_rec_src hrU rej k n).symm.trans hc)
    | w d n =>
      rcases rec_interruptedQ_w hrU rej k d n with h | h
      · exact hold _ c (h.symm.trans hc)
      · show c < (planPr s pr .final orc sel).g.size
        rw [hrU.pg]
        exact Nat.lt_of_lt_of_le (hrU.ok4.valid _ c (h.symm.trans hc)) hrU.ext2.1
  · intro M m c hc
    rw [rec_dropped_get] at hc
    exact hs.devsOK M m c ((hdest _).symm.trans hc)
  · intro d
    rw [rec_dropped_get]
    exact hdest d
  · rw [rec_dropped_get]
    exact close_rec_src hrU rej k _
  · intro d _
    rw [rec_dropped_get]
  · intro d hd a ha
    rw [hempty d hd a ha]
    unfold rec_Qc0
    rw [rec_dropped_get]
    simp only
    exact Dc_congr hs.valid hgx.ext (by rw [rec_dropped_get]; exact hdest d) a
  · unfold alreadyQueued
    rw [Bool.and_eq_false_iff]
    right
    rw [List.any_eq_false]
    intro d _
    unfold RefMap.has
    rw [rec_dropped_get]
    simp
  · intro d _
    rw [rec_dropped_get]
  · intro d q t hq _
    rw [rec_dropped_get] at hq
    cases hq

def rec_DQSame (m m' : RefMap) : Prop :=
  (∀ d, m.get (.dest d) = m'.get (.dest d)) ∧ (∀ i d n, m.get (.qw i d n) = m'.get (.qw i d n))

theorem rec_mergeTargets_congr (pr : Nat) (src : String) : ∀ (ts : List Dest) (m m' : RefMap), rec_DQSame m m' →
    rec_DQSame (mergeTargets pr src m ts) (mergeTargets pr src m' ts)
  | [], _, _, h => h
  | t :: ts, m, m', h => by
    simp only [mergeTargets, List.foldl_cons]
    have ih := rec_mergeTargets_congr pr src ts
    simp only [mergeTargets] at ih
    apply ih
    rw [h.2 pr t src]
    cases m'.get (.qw pr t src) with
    | none => exact h
    | some c =>
      refine ⟨?_, ?_⟩
      · intro d
        by_cases hd : d = t
        · subst hd; rw [RefMap.get_set_eq, RefMap.get_set_eq]
        · rw [RefMap.get_set_ne _ _ (by intro he; injection he with he; exact hd he),
            RefMap.get_set_ne _ _ (by intro he; injection he with he; exact hd he)]
          exact h.1 d
      · intro i d n
        rw [RefMap.get_set_ne _ _ (by intro he; cases he), RefMap.get_set_ne _ _ (by intro he; cases he)]
        exact h.2 i d n

theorem rec_mergeEntries_congr : ∀ (es : List QEntry) (m m' : RefMap), rec_DQSame m m' →
    rec_DQSame (es.foldl mergeEntry m) (es.foldl mergeEntry m')
  | [], _, _, h => h
  | e :: es, m, m', h => by
    simp only [List.foldl_cons]
    exact rec_mergeEntries_congr es _ _ (rec_mergeTargets_congr e.pr e.src e.targets m m' h)

/-- the queue merge reads only the queue and the destination and queue-integration refs -/
theorem rec_planQueues_congr (S S' : Sys) (hq : S'.queue = S.queue) (h : rec_DQSame S.remote S'.remote) (sel : List Nat) :
    ((planQueues S sel).ops = [] ∧ (planQueues S' sel).ops = []) ∨
    ∃ loc loc', (planQueues S sel).ops = [Op.pushAll loc true] ∧ (planQueues S' sel).ops = [Op.pushAll loc' true] ∧
      ∀ d, loc.get (.dest d) = loc'.get (.dest d) := by
  unfold planQueues
  simp only [hq]
  split
  · exact Or.inl ⟨rfl, rfl⟩
  · right
    refine ⟨_, _, rfl, rfl, ?_⟩
    intro d
    have hnd : ∀ r ∈ (S.queue.filter (fun e => sel.contains e.pr)).flatMap (fun e =>
        e.targets.flatMap (fun d => [Ref.qw e.pr d e.src, Ref.w d e.src])), r.isDest = false := by
      intro r hr
      simp only [List.mem_flatMap, List.mem_cons, List.not_mem_nil, or_false] at hr
      obtain ⟨_, _, _, _, rfl | rfl⟩ := hr <;> rfl
    rw [delRefs_dest_same _ _ hnd, delRefs_dest_same _ _ hnd]
    exact (rec_mergeEntries_congr _ _ _ h).1 d

/-- the hypothesis `hall` of `C02_recovery_enqueue_queued`, when the final push went through for every `q/w/` ref -/
theorem close_rec_hall {s : Sys} (hs : s.WF) (huq : s.useQueue = true) {pr : PrInfo}
    (hnaq : alreadyQueued s pr = false) {sc : Commit} {p : Plan} {l4 l8 : Loc}
    (hr : rec_QRun s pr sc p l4 l8) (rej : Nat → Ref → Bool) (k : Nat) (hk : p.ops.length ≤ k)
    (hacc : ∀ d ∈ s.targets pr.dst, rej (p.ops.length - 1) (.qw pr.id d pr.src) = false) :
    ∀ i d n, (observableAt s p rej k).get (.qw i d n) = (s.after p).remote.get (.qw i d n) := by
  have hfresh := close_rec_fresh huq hnaq
  intro i d n
  rw [rec_after_observable]
  by_cases hmem : i = pr.id ∧ n = pr.src ∧ d ∈ s.targets pr.dst
  · obtain ⟨rfl, rfl, hd⟩ := hmem
    rw [close_rec_qw_exact hs hr hfresh rej k hd, close_rec_qw_exact hs hr hfresh _ _ hd,
      if_pos ⟨hk, hacc d hd⟩, if_pos ⟨Nat.le_refl _, rfl⟩]
  · rw [close_rec_qw_other hr rej k i d n hmem, close_rec_qw_other hr _ _ i d n hmem]

/-- the server refuses at most ONE ref, in ONE operation ("the server refusing any single branch of a push") -/
def close_rec_Single (rej : Nat → Ref → Bool) : Prop :=
  ∀ i r i' r', rej i r = true → rej i' r' = true → i = i' ∧ r = r'

theorem close_rec_single_none : close_rec_Single (fun _ _ => false) := by
  intro _ _ _ _ h; cases h

theorem close_rec_single_at (n : Nat) (x : Ref) : close_rec_Single (fun i r => i == n && r == x) := by
  intro i r i' r' h h'
  simp only [Bool.and_eq_true, beq_iff_eq] at h h'
  exact ⟨h.1.trans h'.1.symm, h.2.trans h'.2.symm⟩

theorem close_rec_single_target {s : Sys} (hs : s.WF) {pr : PrInfo} {rej : Nat → Ref → Bool}
    (hsingle : close_rec_Single rej) (n : Nat)
    (hall : (s.targets pr.dst).any (fun d => !rej n (.qw pr.id d pr.src)) = false) :
    s.targets pr.dst = [pr.dst] ∧ rej n (.qw pr.id pr.dst pr.src) = true := by
  have hnd := pairwise_before_nodup (targets_pairwise hs.sorted pr.dst)
  rw [List.any_eq_false] at hall
  have h1 : rej n (.qw pr.id pr.dst pr.src) = true := by
    have := hall pr.dst (by rw [targets_cons]; exact List.mem_cons_self)
    simpa using this
  refine ⟨?_, h1⟩
  rw [targets_cons] at hnd hall ⊢
  cases hrest : (s.targets pr.dst).drop 1 with
  | nil => rfl
  | cons d2 ds =>
    exfalso
    rw [hrest] at hnd hall
    have h2 : rej n (.qw pr.id d2 pr.src) = true := by
      have := hall d2 (List.mem_cons_of_mem _ List.mem_cons_self)
      simpa using this
    obtain ⟨_, he⟩ := hsingle _ _ _ _ h1 h2
    simp only [Ref.qw.injEq, true_and, and_true] at he
    rw [List.nodup_cons] at hnd
    exact hnd.1 (he ▸ List.mem_cons_self)

/-- the interrupted state passes the gates that precede the queue in `_handle_pull_request` as the snapshot did -/
theorem close_rec_gates {s : Sys} (hs : s.WF) {pr : PrInfo} {sc dc : Commit} {p : Plan} {l4 l8 : Loc}
    (hr : rec_QRun s pr sc p l4 l8) (hsc : s.remote.get (.other pr.src) = some sc)
    (hdc : s.remote.get (.dest pr.dst) = some dc) (hle : s.g.le sc dc = false)
    (rej : Nat → Ref → Bool) (k : Nat) :
    (interrupted s p rej k).remote.get (.other pr.src) = some sc ∧
    (interrupted s p rej k).remote.get (.dest pr.dst) = some dc ∧
    (interrupted s p rej k).g.le sc dc = false := by
  have hext : Extends s.g p.g := by rw [hr.pg]; exact hr.ext1.trans hr.ext2
  refine ⟨(close_rec_src hr rej k _).trans hsc, (rec_interruptedQ_dest hr rej k _).trans hdc, ?_⟩
  show p.g.le sc dc = false
  rw [hext.2 sc dc (hs.valid _ _ hdc)]; exact hle

/-- crash before the final push: the interrupted state is itself `rec_Rebuilt`, without any queue reset (a freshly
    created queue branch sits on the tip of its destination branch, which stood for it before) -/
theorem close_rec_rebuilt_self {s : Sys} (hs : s.WF) (hqt : rec_QTip s.g s.remote) (huq : s.useQueue = true)
    {pr : PrInfo} (hnaq : alreadyQueued s pr = false) {sc : Commit} {p : Plan} {l4 l8 : Loc}
    (hr : rec_QRun s pr sc p l4 l8) (rej : Nat → Ref → Bool) (k : Nat) (hwf : (interrupted s p rej k).WF)
    (hk : k < p.ops.length) :
    rec_Rebuilt s pr (interrupted s p rej k) (interrupted s p rej k) := by
  have hfresh := close_rec_fresh huq hnaq
  have hext : Extends s.g p.g := by rw [hr.pg]; exact hr.ext1.trans hr.ext2
  have hdest := rec_interruptedQ_dest hr rej k
  have hq : ∀ d, (observableAt s p rej k).get (.q d) = s.remote.get (.q d) ∨
      (s.remote.get (.q d) = none ∧ ∃ t, s.remote.get (.dest d) = some t ∧
        (observableAt s p rej k).get (.q d) = some t) := by
    intro d
    rcases close_rec_observable hr rej k with ⟨_, h⟩ | ⟨h, _⟩
    · rw [h]
      exact close_rec_pre_q hr p.g rej k d
    · omega
  refine ⟨hwf, rfl, Extends.refl _, hdest, close_rec_src hr rej k _, fun _ _ => rfl, ?_, ?_, ?_, ?_⟩
  · intro d _ a _
    rcases hq d with h | ⟨hnone, t, ht, h⟩
    · exact rec_Qc0_congr hs.valid hext h (hdest d) a
    · show rec_Qc0 p.g (observableAt s p rej k) d a ↔ _
      unfold rec_Qc0
      rw [h, hnone]
      simp only
      unfold Dc
      rw [ht]
      simp only [Option.some.injEq, exists_eq_left']
      rw [hext.2 a t (hs.valid _ _ ht)]
  · rw [close_rec_alreadyQueued hs huq hnaq hr rej k]
    have : ¬ p.ops.length ≤ k := by omega
    simp [this]
  · intro d hd
    show (observableAt s p rej k).get _ = none
    rw [close_rec_qw_exact hs hr hfresh rej k hd, if_neg (by omega)]
  · intro d q t hqq htt
    have hqq' : (observableAt s p rej k).get (.q d) = some q := hqq
    have htt' : (observableAt s p rej k).get (.dest d) = some t := htt
    rw [hdest] at htt'
    show p.g.le t q = true
    rcases hq d with h | ⟨_, t', ht', h⟩
    · rw [h] at hqq'
      exact hext.le (hs.valid _ _ hqq') (hqt d q t hqq' htt')
    · rw [h] at hqq'
      rw [ht'] at htt'
      simp only [Option.some.injEq] at hqq' htt'
      subst hqq' htt'
      exact le_refl hwf.g (Nat.lt_of_lt_of_le (hs.valid _ _ ht') hext.1)

end BertE.Flow
