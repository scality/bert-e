import BertE.Model.Prs
import BertE.Lemmas.Names
import BertE.Lemmas.Queue
/- Lemmas for C19: the pull-request table (`createChildren`, `declineChildren`, `redirectPr`, `handleCommit`,
   the description template) and, further down, which `w/` refs the plans of the system model touch. -/
namespace BertE.Prs
open BertE.Names

def cnt (sel : Pr → Bool) (prs : List Pr) (s d : String) : Nat :=
  prs.countP fun p => sel p && p.isOpen && p.src == s && p.dst == d

theorem cnt_cons (sel : Pr → Bool) (c : Pr) (prs : List Pr) (s d : String) :
    cnt sel (c :: prs) s d = cnt sel prs s d + if (sel c && c.isOpen && c.src == s && c.dst == d) = true then 1 else 0 := by
  unfold cnt
  rw [List.countP_cons]

theorem cnt_cons_le (sel : Pr → Bool) (c : Pr) (prs : List Pr) (s d : String) :
    cnt sel (c :: prs) s d ≤ cnt sel prs s d + 1 := by
  rw [cnt_cons]
  split <;> omega

theorem cnt_cons_of_ne {sel : Pr → Bool} {c : Pr} {prs : List Pr} {s d : String} (h : (c.src, c.dst) ≠ (s, d)) :
    cnt sel (c :: prs) s d = cnt sel prs s d := by
  rw [cnt_cons, if_neg, Nat.add_zero]
  simp only [Bool.and_eq_true, beq_iff_eq]
  exact fun hc => h (by rw [hc.1.2, hc.2])

theorem cnt_zero {sel : Pr → Bool} {prs : List Pr} {s d : String}
    (h : ∀ p ∈ prs, p.isOpen = true → p.src = s → p.dst = d → False) : cnt sel prs s d = 0 := by
  unfold cnt
  rw [List.countP_eq_zero]
  intro p hp hc
  simp only [Bool.and_eq_true, beq_iff_eq] at hc
  exact h p hp hc.1.1.2 hc.1.2 hc.2

theorem mem_getOpen {prs : List Pr} {names : List String} {p : Pr} :
    p ∈ getOpen prs names ↔ p ∈ prs ∧ p.isOpen = true ∧ p.src ∈ names := by
  unfold getOpen
  simp only [List.mem_filter, Bool.and_eq_true, List.contains_iff_mem]

theorem childFor_some {open_ : List Pr} {w d : String} {c : Pr} (h : childFor open_ w d = some c) :
    c ∈ open_ ∧ c.src = w ∧ c.dst = d := by
  unfold childFor at h
  have h1 := List.find?_some h
  have h2 := List.mem_of_find?_eq_some h
  simp only [Bool.and_eq_true, beq_iff_eq] at h1
  exact ⟨h2, h1.1, h1.2⟩

theorem childFor_none {prs : List Pr} {names : List String} {w d : String}
    (h : childFor (getOpen prs names) w d = none) (hw : w ∈ names) :
    ∀ p ∈ prs, p.isOpen = true → p.src = w → p.dst = d → False := by
  intro p hp ho hs hd
  unfold childFor at h
  rw [List.find?_eq_none] at h
  have := h p (mem_getOpen.mpr ⟨hp, ho, hs ▸ hw⟩)
  simp [hs, hd] at this

theorem newChild_src (tpl prs parent w d) : (newChild tpl prs parent w d).src = w := rfl
theorem newChild_dst (tpl prs parent w d) : (newChild tpl prs parent w d).dst = d := rfl

/-- the loop creates at most one pull request per listed (branch, target), and only where the lookup found none -/
theorem createRest_cnt (sel : Pr → Bool) (tpl : List Seg) (open_ : List Pr) (parent : Pr) (s d : String) :
    ∀ (rest : List (String × String)) (prs : List Pr), rest.Nodup →
    cnt sel (createRest tpl open_ parent prs rest).1 s d ≤
      cnt sel prs s d + if (s, d) ∈ rest ∧ childFor open_ s d = none then 1 else 0
  | [], prs, _ => by simp [createRest]
  | (w, d0) :: rest, prs, hnd => by
    rw [List.nodup_cons] at hnd
    have ih := createRest_cnt sel tpl open_ parent s d rest
    have hmono : (if (s, d) ∈ rest ∧ childFor open_ s d = none then 1 else 0) ≤
        (if (s, d) ∈ (w, d0) :: rest ∧ childFor open_ s d = none then 1 else 0) := by
      split
      · next h => exact Nat.le_of_eq (if_pos ⟨List.mem_cons_of_mem _ h.1, h.2⟩).symm
      · exact Nat.zero_le _
    simp only [createRest]
    cases hc : childFor open_ w d0 with
    | some c =>
      simp only
      exact Nat.le_trans (ih prs hnd.2) (Nat.add_le_add_left hmono _)
    | none =>
      simp only
      have h1 := ih (newChild tpl prs parent w d0 :: prs) hnd.2
      by_cases hsd : (s, d) = (w, d0)
      · cases hsd
        rw [if_neg (fun h => hnd.1 h.1)] at h1
        rw [if_pos ⟨List.mem_cons_self, hc⟩]
        exact Nat.le_trans h1 (cnt_cons_le ..)
      · rw [cnt_cons_of_ne (fun h => hsd h.symm)] at h1
        exact Nat.le_trans h1 (Nat.add_le_add_left hmono _)

/-- the reuse argument of `C19_inv`: a pull request is created only where the lookup found no OPEN one of any
    author, so "at most one per (source, destination)" survives whatever subset `sel` is counted -/
theorem createChildren_cnt (sel : Pr → Bool) (tpl : List Seg) (prs : List Pr) (parent : Pr)
    (wbranches : List (String × String)) (enabled : Bool) (hnd : wbranches.Nodup) (s d : String)
    (h : cnt sel prs s d ≤ 1) : cnt sel (createChildren tpl prs parent wbranches enabled).prs s d ≤ 1 := by
  unfold createChildren
  split
  · exact h
  · cases wbranches with
    | nil => exact h
    | cons wd rest =>
      obtain ⟨w1, d1⟩ := wd
      simp only
      cases hc1 : childFor (getOpen prs (List.map (·.1) ((w1, d1) :: rest))) w1 d1 with
      | none => exact h
      | some c1 =>
        simp only
        rw [List.nodup_cons] at hnd
        have h1 := createRest_cnt sel tpl (getOpen prs (List.map (·.1) ((w1, d1) :: rest))) parent s d rest prs hnd.2
        by_cases hi : (s, d) ∈ rest ∧ childFor (getOpen prs (List.map (·.1) ((w1, d1) :: rest))) s d = none
        · rw [if_pos hi] at h1
          have hmem : s ∈ List.map (·.1) ((w1, d1) :: rest) :=
            List.mem_map.mpr ⟨(s, d), List.mem_cons_of_mem _ hi.1, rfl⟩
          have hz : cnt sel prs s d = 0 := cnt_zero (childFor_none hi.2 hmem)
          omega
        · rw [if_neg hi] at h1
          omega

theorem le_foldl_max (prs : List Pr) (m : Nat) : m ≤ prs.foldl (fun m p => max m p.id) m := by
  induction prs generalizing m with
  | nil => exact Nat.le_refl _
  | cons p ps ih => exact Nat.le_trans (Nat.le_max_left _ _) (ih _)

theorem id_le_foldl_max (prs : List Pr) (m : Nat) {p : Pr} (hp : p ∈ prs) :
    p.id ≤ prs.foldl (fun m p => max m p.id) m := by
  induction prs generalizing m with
  | nil => cases hp
  | cons q qs ih =>
    simp only [List.foldl_cons]
    rcases List.mem_cons.mp hp with rfl | hp'
    · exact Nat.le_trans (Nat.le_max_right _ _) (le_foldl_max qs _)
    · exact ih _ hp'

theorem lt_nextId {prs : List Pr} {p : Pr} (hp : p ∈ prs) : p.id < nextId prs :=
  Nat.lt_succ_of_le (id_le_foldl_max prs 0 hp)

structure IsNewChild (tpl : List Seg) (prs : List Pr) (parent : Pr) (p : Pr) : Prop where
  robot : p.robot = true
  state : p.state = .opened
  title : p.title = mkTitle parent.id p.dst parent.title
  desc : p.desc = render tpl parent.id p.src.toList
  fresh : ∀ q ∈ prs, q.id < p.id

theorem newChild_isNew (tpl : List Seg) (prs : List Pr) (parent : Pr) (w d : String) :
    IsNewChild tpl prs parent (newChild tpl prs parent w d) :=
  ⟨rfl, rfl, rfl, rfl, fun _ hq => lt_nextId hq⟩

theorem IsNewChild.mono {tpl : List Seg} {prs prs' : List Pr} {parent p : Pr} (h : IsNewChild tpl prs' parent p)
    (hs : ∀ q ∈ prs, q ∈ prs') : IsNewChild tpl prs parent p :=
  { h with fresh := fun q hq => h.fresh q (hs q hq) }

theorem createRest_spec (tpl : List Seg) (open_ : List Pr) (parent : Pr) :
    ∀ (rest : List (String × String)) (prs : List Pr),
    let r := createRest tpl open_ parent prs rest
    (∃ new, r.1 = new ++ prs ∧ ∀ p ∈ new, ∃ c ∈ r.2, c.created = true ∧ c.pr = p) ∧
    r.2.map (fun c => (c.pr.src, c.pr.dst)) = rest ∧
    (∀ c ∈ r.2, c.created = true → c.pr ∈ r.1 ∧ IsNewChild tpl prs parent c.pr ∧
        childFor open_ c.pr.src c.pr.dst = none) ∧
    (∀ c ∈ r.2, c.created = false → childFor open_ c.pr.src c.pr.dst = some c.pr)
  | [], prs => by
    simp only [createRest]
    refine ⟨⟨[], rfl, ?_⟩, rfl, ?_, ?_⟩ <;> intro _ h <;> cases h
  | (w, d) :: rest, prs => by
    simp only [createRest]
    cases hc : childFor open_ w d with
    | some c0 =>
      simp only
      obtain ⟨⟨new, hnew, hnew2⟩, hal, hcr, hre⟩ := createRest_spec tpl open_ parent rest prs
      obtain ⟨_, hc2, hc3⟩ := childFor_some hc
      refine ⟨⟨new, hnew, fun p hp => ?_⟩, ?_, List.forall_mem_cons.mpr ⟨(fun h => nomatch h), hcr⟩,
        List.forall_mem_cons.mpr ⟨fun _ => ?_, hre⟩⟩
      · obtain ⟨c, hcm, h⟩ := hnew2 p hp
        exact ⟨c, List.mem_cons_of_mem _ hcm, h⟩
      · simp only [List.map_cons, hc2, hc3]
        rw [hal]
      · simp only [hc2, hc3]
        exact hc
    | none =>
      simp only
      obtain ⟨⟨new, hnew, hnew2⟩, hal, hcr, hre⟩ :=
        createRest_spec tpl open_ parent rest (newChild tpl prs parent w d :: prs)
      refine ⟨⟨new ++ [newChild tpl prs parent w d], hnew.trans (List.append_cons new _ prs), fun p hp => ?_⟩, ?_,
        List.forall_mem_cons.mpr ⟨fun _ => ⟨hnew ▸ List.mem_append_right _ List.mem_cons_self,
            newChild_isNew tpl prs parent w d, hc⟩,
          fun c hcm hcreated => ?_⟩,
        List.forall_mem_cons.mpr ⟨(fun h => nomatch h), hre⟩⟩
      · rcases List.mem_append.mp hp with hp' | hp'
        · obtain ⟨c, hcm, h⟩ := hnew2 p hp'
          exact ⟨c, List.mem_cons_of_mem _ hcm, h⟩
        · cases List.mem_singleton.mp hp'
          exact ⟨⟨newChild tpl prs parent w d, true⟩, List.mem_cons_self, rfl, rfl⟩
      · simp only [List.map_cons, newChild_src, newChild_dst]
        rw [hal]
      · obtain ⟨h1, h2, h3⟩ := hcr c hcm hcreated
        exact ⟨h1, h2.mono (fun _ h => List.mem_cons_of_mem _ h), h3⟩

theorem notDigit_stops_of_digit {c : Char} {t : List Char} (h : c.isDigit = true) : Stops notDigit (c :: t) := by
  intro x hx
  simp only [List.head?_cons, Option.mem_def, Option.some.injEq] at hx
  subst hx
  simp [notDigit, h]

theorem firstNat_of_decomp {pre post : List Char} (n : Nat) (hpre : ∀ c ∈ pre, notDigit c = true)
    (hpost : Stops Char.isDigit post) : firstNat (pre ++ (natText n ++ post)) = some n := by
  unfold firstNat
  obtain ⟨c, t, hct, hc⟩ := (natText_digits n).head
  have hstop : Stops notDigit (natText n ++ post) := by
    rw [hct]; exact notDigit_stops_of_digit hc
  rw [spanP_append hpre hstop]
  simp only
  rw [digits1_append (natText_digits n) hpost]
  simp only
  rw [digitsVal_natText]

theorem render_decomp (id : Nat) (branch : List Char) (tpl : List Seg) (h : templateOK tpl = true) :
    ∃ pre post, render tpl id branch = pre ++ (natText id ++ post) ∧ (∀ c ∈ pre, notDigit c = true) ∧
      Stops Char.isDigit post := by
  fun_induction templateOK tpl with
  | case1 t rest ih =>
    simp only [Bool.and_eq_true, List.all_eq_true] at h
    obtain ⟨pre, post, hr, hpre, hpost⟩ := ih h.2
    refine ⟨t ++ pre, post, ?_, ?_, hpost⟩
    · simp only [render, List.flatMap_cons] at hr ⊢
      rw [hr, List.append_assoc]
    · intro c hc
      rcases List.mem_append.mp hc with h1 | h1
      · exact h.1 c h1
      · exact hpre c h1
  | case2 => exact ⟨[], [], by simp [render], nofun, stops_nil _⟩
  | case3 c t rest =>
    refine ⟨[], c :: t ++ render rest id branch, by simp [render], nofun, ?_⟩
    intro x hx
    simp only [List.cons_append, List.head?_cons, Option.mem_def, Option.some.injEq] at hx
    subst hx
    simpa [notDigit] using h
  | case4 => cases h

theorem firstNat_render {tpl : List Seg} (h : templateOK tpl = true) (id : Nat) (branch : List Char) :
    firstNat (render tpl id branch) = some id := by
  obtain ⟨pre, post, hr, hpre, hpost⟩ := render_decomp id branch tpl h
  rw [hr]
  exact firstNat_of_decomp id hpre hpost

/-- what `declineFirst` does to one pull request when it is the one declined -/
def dec1 (w d : String) (p : Pr) : Pr :=
  if (p.isOpen && p.src == w && p.dst == d) = true then { p with state := .declined } else p

/-- the declarative result of the loop: every OPEN pull request whose (source, destination) is listed is DECLINED -/
def declAll (ws : List (String × String)) (p : Pr) : Pr :=
  if (p.isOpen && ws.contains (p.src, p.dst)) = true then { p with state := .declined } else p

def cntAll (prs : List Pr) (s d : String) : Nat := cnt (fun _ => true) prs s d

theorem cntAll_cons_le (p : Pr) (ps : List Pr) (s d : String) : cntAll ps s d ≤ cntAll (p :: ps) s d := by
  unfold cntAll; rw [cnt_cons]; omega

theorem dec1_of_not {w d : String} {p : Pr} (h : (p.isOpen && p.src == w && p.dst == d) = false) : dec1 w d p = p := by
  simp [dec1, h]

theorem map_dec1_of_cnt_zero {w d : String} {ps : List Pr} (h : cntAll ps w d = 0) : ps.map (dec1 w d) = ps := by
  unfold cntAll cnt at h
  rw [List.countP_eq_zero] at h
  rw [List.map_congr_left (g := id), List.map_id]
  intro p hp
  exact dec1_of_not (by simpa using h p hp)

theorem declineFirst_map {w d : String} : ∀ {prs : List Pr}, cntAll prs w d ≤ 1 →
    (declineFirst prs w d).1 = prs.map (dec1 w d)
  | [], _ => rfl
  | p :: ps, h => by
    rw [declineFirst, List.map_cons]
    split
    · next hb =>
      have hz : cntAll ps w d = 0 := by
        unfold cntAll at h ⊢
        rw [cnt_cons, Bool.true_and, if_pos hb] at h
        omega
      rw [map_dec1_of_cnt_zero hz, dec1, if_pos hb]
    · next hb =>
      rw [dec1_of_not (by simpa using hb), ← declineFirst_map (Nat.le_trans (cntAll_cons_le p ps w d) h)]

theorem dec1_isOpen_le (w d : String) (p : Pr) : (dec1 w d p).isOpen = true → p.isOpen = true := by
  unfold dec1
  split
  · intro h; simp [Pr.isOpen] at h
  · exact id

theorem dec1_src (w d : String) (p : Pr) : (dec1 w d p).src = p.src := by unfold dec1; split <;> rfl
theorem dec1_dst (w d : String) (p : Pr) : (dec1 w d p).dst = p.dst := by unfold dec1; split <;> rfl

theorem cntAll_map_dec1_le (w d s' d' : String) (prs : List Pr) :
    cntAll (prs.map (dec1 w d)) s' d' ≤ cntAll prs s' d' := by
  unfold cntAll cnt
  rw [List.countP_map]
  apply List.countP_mono_left
  intro p _ h
  simp only [Function.comp, dec1_src, dec1_dst, Bool.and_eq_true, Bool.true_and] at h ⊢
  exact ⟨⟨dec1_isOpen_le w d p h.1.1, h.1.2⟩, h.2⟩

theorem declAll_cons (w d : String) (rest : List (String × String)) (p : Pr) :
    declAll rest (dec1 w d p) = declAll ((w, d) :: rest) p := by
  unfold dec1
  split
  · next hb =>
    -- the pull request declined by this round is not OPEN any more: later rounds leave it
    simp only [Bool.and_eq_true, beq_iff_eq] at hb
    simp [declAll, Pr.isOpen, hb.1.2, hb.2, show p.state = .opened from by simpa [Pr.isOpen] using hb.1.1]
  · next hb =>
    cases ho : p.isOpen
    · simp [declAll, ho]
    · have hne : ((p.src, p.dst) == (w, d)) = false := by simpa [ho] using hb
      simp only [declAll, List.contains_cons, hne, Bool.false_or]

theorem declineChildren_eq : ∀ (ws : List (String × String)) (prs : List Pr) (b : Bool),
    (∀ wd ∈ ws, cntAll prs wd.1 wd.2 ≤ 1) →
    (ws.foldl (fun acc wd =>
      let r := declineFirst acc.1 wd.1 wd.2
      (r.1, acc.2 || r.2)) (prs, b)).1 = prs.map (declAll ws)
  | [], prs, _, _ => by
    simp only [List.foldl_nil]
    have : ∀ p : Pr, declAll [] p = p := by intro p; simp [declAll]
    rw [List.map_congr_left (fun p _ => this p), List.map_id']
  | (w, d) :: rest, prs, b, h => by
    simp only [List.foldl_cons]
    rw [declineFirst_map (h (w, d) List.mem_cons_self)]
    rw [declineChildren_eq rest (prs.map (dec1 w d)) _ (fun wd hwd =>
      Nat.le_trans (cntAll_map_dec1_le w d wd.1 wd.2 prs) (h wd (List.mem_cons_of_mem _ hwd)))]
    rw [List.map_map]
    apply List.map_congr_left
    intro p _
    exact declAll_cons w d rest p

inductive Pointwise {α : Type} (R : α → α → Prop) : List α → List α → Prop
  | nil : Pointwise R [] []
  | cons {a b : α} {l1 l2 : List α} : R a b → Pointwise R l1 l2 → Pointwise R (a :: l1) (b :: l2)

theorem Pointwise.same {α : Type} {R : α → α → Prop} (h : ∀ a, R a a) : ∀ (l : List α), Pointwise R l l
  | [] => .nil
  | a :: l => .cons (h a) (Pointwise.same h l)

theorem Pointwise.map {α : Type} {R : α → α → Prop} {f : α → α} (h : ∀ a, R a (f a)) :
    ∀ (l : List α), Pointwise R l (l.map f)
  | [] => .nil
  | a :: l => .cons (h a) (Pointwise.map h l)

theorem Pointwise.trans {α : Type} {R : α → α → Prop} (ht : ∀ a b c, R a b → R b c → R a c) :
    ∀ {l1 l2 l3 : List α}, Pointwise R l1 l2 → Pointwise R l2 l3 → Pointwise R l1 l3
  | [], _, _, .nil, .nil => .nil
  | _ :: _, _, _, .cons h1 t1, .cons h2 t2 => .cons (ht _ _ _ h1 h2) (Pointwise.trans ht t1 t2)

theorem Pointwise.length {α : Type} {R : α → α → Prop} : ∀ {l1 l2 : List α}, Pointwise R l1 l2 → l1.length = l2.length
  | [], _, .nil => rfl
  | _ :: _, _, .cons _ t => by simp [Pointwise.length t]

theorem Pointwise.get {α : Type} {R : α → α → Prop} : ∀ {l1 l2 : List α}, Pointwise R l1 l2 →
    ∀ (i : Nat) (h1 : i < l1.length) (h2 : i < l2.length), R l1[i] l2[i]
  | _ :: _, _ :: _, .cons h _, 0, _, _ => h
  | _ :: _, _ :: _, .cons _ t, i + 1, h1, h2 => Pointwise.get t i (Nat.lt_of_succ_lt_succ h1) (Nat.lt_of_succ_lt_succ h2)

def DeclStep (ws : List (String × String)) (p p' : Pr) : Prop :=
  p' = p ∨ (p.isOpen = true ∧ (p.src, p.dst) ∈ ws ∧ p' = { p with state := .declined })

theorem declineFirst_step {ws : List (String × String)} {w d : String} (hwd : (w, d) ∈ ws) : ∀ (prs : List Pr),
    Pointwise (DeclStep ws) prs (declineFirst prs w d).1
  | [] => Pointwise.nil
  | p :: ps => by
    simp only [declineFirst]
    cases hb : (p.isOpen && p.src == w && p.dst == d)
    · simp only [Bool.false_eq_true, if_false]
      exact Pointwise.cons (Or.inl rfl) (declineFirst_step hwd ps)
    · simp only [if_true]
      simp only [Bool.and_eq_true, beq_iff_eq] at hb
      refine Pointwise.cons (Or.inr ⟨hb.1.1, ?_, rfl⟩) ?_
      · rw [hb.1.2, hb.2]; exact hwd
      · exact Pointwise.same (R := DeclStep ws) (fun _ => Or.inl rfl) ps

theorem DeclStep.trans {ws : List (String × String)} {a b c : Pr} (h1 : DeclStep ws a b) (h2 : DeclStep ws b c) :
    DeclStep ws a c := by
  rcases h1 with rfl | ⟨ho, hm, rfl⟩
  · exact h2
  · rcases h2 with rfl | ⟨ho', _, _⟩
    · exact Or.inr ⟨ho, hm, rfl⟩
    · simp [Pr.isOpen] at ho'

theorem declineChildren_step (ws0 : List (String × String)) : ∀ (ws : List (String × String)) (prs : List Pr) (b : Bool),
    (∀ wd ∈ ws, wd ∈ ws0) →
    Pointwise (DeclStep ws0) prs (ws.foldl (fun acc wd =>
      let r := declineFirst acc.1 wd.1 wd.2
      (r.1, acc.2 || r.2)) (prs, b)).1
  | [], prs, _, _ => Pointwise.same (R := DeclStep ws0) (fun _ => Or.inl rfl) prs
  | (w, d) :: rest, prs, b, h => by
    simp only [List.foldl_cons]
    exact Pointwise.trans (R := DeclStep ws0) (fun _ _ _ => DeclStep.trans) (declineFirst_step (h (w, d) List.mem_cons_self) prs)
      (declineChildren_step ws0 rest _ _ (fun wd hwd => h wd (List.mem_cons_of_mem _ hwd)))

theorem getPr_some {prs : List Pr} {id : Nat} {q : Pr} (h : getPr prs id = some q) : q ∈ prs ∧ q.id = id := by
  unfold getPr at h
  have h1 := List.find?_some h
  simp only [beq_iff_eq] at h1
  exact ⟨List.mem_of_find?_eq_some h, h1⟩

theorem getPr_append {new prs : List Pr} {id : Nat} (h : ∀ p ∈ new, p.id ≠ id) : getPr (new ++ prs) id = getPr prs id := by
  unfold getPr
  rw [List.find?_append]
  have : new.find? (fun q => q.id == id) = none := by
    rw [List.find?_eq_none]
    intro p hp
    simpa using h p hp
  rw [this]; rfl

theorem minById_none : ∀ {l : List Pr}, minById l = none → l = []
  | [], _ => rfl
  | p :: ps, h => by
    simp only [minById] at h
    split at h
    · cases h
    · split at h <;> cases h

theorem minById_some : ∀ {l : List Pr} {p : Pr}, minById l = some p → p ∈ l ∧ ∀ q ∈ l, p.id ≤ q.id
  | [], _, h => nomatch h
  | x :: xs, p, h => by
    rw [minById] at h
    split at h
    · next hm =>
      cases h
      cases minById_none hm
      exact ⟨List.mem_cons_self, fun q hq => by cases List.mem_singleton.mp hq; exact Nat.le_refl _⟩
    · next m hm =>
      obtain ⟨hm1, hm2⟩ := minById_some hm
      split at h
      · next hle =>
        cases h
        exact ⟨List.mem_cons_self, fun q hq => by
          rcases List.mem_cons.mp hq with rfl | hq'
          · exact Nat.le_refl _
          · exact Nat.le_trans hle (hm2 q hq')⟩
      · next hle =>
        cases h
        exact ⟨List.mem_cons_of_mem _ hm1, fun q hq => by
          rcases List.mem_cons.mp hq with rfl | hq'
          · omega
          · exact hm2 q hq'⟩

theorem classifyAll_some (t : Tbl) : ∀ {names : List String} {l : List (String × Parsed)},
    classifyAll t names = some l → l.map (·.1) = names ∧ ∀ nc ∈ l, classify t nc.1.toList = some nc.2
  | [], l, h => by
    cases h
    exact ⟨rfl, fun _ h => nomatch h⟩
  | n :: ns, l, h => by
    rw [classifyAll] at h
    split at h
    · cases h
    · next c hc =>
      split at h
      · cases h
      · next l' hr =>
        cases h
        obtain ⟨h1, h2⟩ := classifyAll_some t hr
        refine ⟨by rw [List.map_cons, h1], fun nc hnc => ?_⟩
        rcases List.mem_cons.mp hnc with rfl | hnc'
        · exact hc
        · exact h2 nc hnc'

theorem classifyAll_single {t : Tbl} {n : String} {c : Parsed} (h : classify t n.toList = some c) :
    classifyAll t [n] = some [(n, c)] := by
  simp [classifyAll, h]

theorem handleCommit_single {t : Tbl} {n : String} {c : Parsed} (hc : classify t n.toList = some c)
    (hq : c.kind ≠ .queue) (prs : List Pr) (useQueue : Bool) (fuel : Nat) :
    handleCommit t [n] prs useQueue fuel =
      match minById (getOpen prs [parentName n c]) with
      | none => .nothing
      | some p =>
        match getPr prs p.id with
        | none => .crash "Exception"
        | some q => redirectPr prs fuel q := by
  have hk : (c.kind == Kind.queue) = false := by simpa using hq
  simp only [handleCommit, classifyAll_single hc, List.isEmpty_cons, Bool.false_eq_true, if_false, List.any_cons,
    List.any_nil, hk, Bool.or_false, Bool.and_false, List.map_cons, List.map_nil]
  rfl

end BertE.Prs

/-! ## which `w/` refs the plans of the system model touch -/
namespace BertE.Flow
open BertE.Git

def WRel (S : Dest → String → Prop) (m m' : RefMap) : Prop :=
  ∀ d src c, m'.get (.w d src) = some c → m.get (.w d src) = some c ∨ S d src

theorem WRel.refl (S : Dest → String → Prop) (m : RefMap) : WRel S m m := fun _ _ _ h => Or.inl h

/-- an operation that creates or moves no `w/` ref outside `S` (relative to the remote `base` the job started from) -/
def Op.WOk (S : Dest → String → Prop) (base : RefMap) : Op → Prop
  | .push ups => ∀ rc ∈ ups, ∀ d src, rc.1 = .w d src → S d src
  | .pushAll loc _ => WRel S base loc
  | .delete _ => True

theorem applyOp_wrel {S : Dest → String → Prop} {base m : RefMap} (g : Graph) (rej : Ref → Bool) {op : Op}
    (h : WRel S base m) (hop : op.WOk S base) : WRel S base (applyOp g rej m op) := by
  intro d src c hc
  cases op with
  | push ups =>
    rcases applyOp_push_cases g rej ups m (.w d src) with he | ⟨c', hm, _⟩
    · exact h d src c (he ▸ hc)
    · exact Or.inr (hop _ hm d src rfl)
  | pushAll loc prune =>
    rcases applyOp_pushAll_cases g rej m loc prune with he | he
    · rw [he] at hc
      split at hc
      · exact hop d src c hc
      · rw [RefMap.get_append] at hc
        cases hl : loc.get (.w d src) with
        | some c' => exact hop d src c (by rw [hl] at hc ⊢; exact hc)
        | none => exact h d src c (by rw [hl] at hc; exact hc)
    · exact h d src c (he ▸ hc)
  | delete r =>
    rw [applyOp_delete] at hc
    split at hc
    · exact h d src c hc
    · exact h d src c (RefMap.get_del_eq_some.mp hc).2

/-- the refs other than `w/<d>/<src>`, `d ∈ ds`, are the same in both clones -/
def OnlyW (src : String) (ds : List Dest) (m m' : RefMap) : Prop :=
  ∀ x, (∀ d ∈ ds, x ≠ .w d src) → m'.get x = m.get x

theorem OnlyW.refl (src : String) (ds : List Dest) (m : RefMap) : OnlyW src ds m m := fun _ _ => rfl

theorem OnlyW.trans {src : String} {ds : List Dest} {a b c : RefMap} (h1 : OnlyW src ds a b) (h2 : OnlyW src ds b c) :
    OnlyW src ds a c := fun x hx => by rw [h2 x hx, h1 x hx]

theorem OnlyW.cons {src : String} {ds : List Dest} {a b : RefMap} (h : OnlyW src ds a b) (d : Dest) :
    OnlyW src (d :: ds) a b := fun x hx => h x (fun d' hd' => hx d' (List.mem_cons_of_mem _ hd'))

theorem createW_only (pr : PrInfo) : ∀ (ds : List Dest) (l : Loc), OnlyW pr.src ds l.refs (createW l pr ds).refs
  | [], l => OnlyW.refl _ _ _
  | d :: ds, l => by
    rw [createW]
    split
    · refine OnlyW.trans (fun x hx => ?_) ((createW_only pr ds _).cons d)
      exact RefMap.get_set_ne _ _ (hx d List.mem_cons_self)
    · exact (createW_only pr ds l).cons d

theorem conflictCheck_refs (l : Loc) (dc sc : Commit) : (conflictCheck l dc sc).2.refs = l.refs := by
  unfold conflictCheck
  split
  · rfl
  · exact l.ask_g.2

theorem updateW_only (pr : PrInfo) : ∀ (ds : List Dest) (l : Loc) (prev : Commit) (done : List Ref),
    OnlyW pr.src ds l.refs (updateW l pr prev ds done).1.refs
  | [], _, _, _ => OnlyW.refl _ _ _
  | d :: ds, l, prev, done => by
    rw [updateW]
    split
    · exact OnlyW.refl _ _ _
    · split
      · exact OnlyW.refl _ _ _
      · next l' hm =>
        have h1 : OnlyW pr.src (d :: ds) l.refs l'.refs :=
          fun x hx => Loc.mergeN_other hm x (hx d List.mem_cons_self)
        split
        · exact h1
        · exact h1.trans ((updateW_only pr ds l' _ _).cons d)

theorem resetW_only (remote : RefMap) (src : String) : ∀ (rest : List Dest) (m : RefMap),
    OnlyW src rest m (rest.foldl (fun m d => match remote.get (.w d src) with
        | some c => m.set (.w d src) c
        | none => m) m)
  | [], _ => OnlyW.refl _ _ _
  | d :: rest, m => by
    simp only [List.foldl_cons]
    refine OnlyW.trans ?_ ((resetW_only remote src rest _).cons d)
    intro x hx
    cases remote.get (.w d src) with
    | none => rfl
    | some c => exact RefMap.get_set_ne _ _ (hx d List.mem_cons_self)

theorem resetW_get_w (remote : RefMap) (src : String) : ∀ (rest : List Dest) (m : RefMap) (d : Dest) (c : Commit),
    (rest.foldl (fun m d => match remote.get (.w d src) with
        | some c => m.set (.w d src) c
        | none => m) m).get (.w d src) = some c → m.get (.w d src) = some c ∨ remote.get (.w d src) = some c
  | [], _, _, _, h => Or.inl h
  | d0 :: rest, m, d, c, h => by
    simp only [List.foldl_cons] at h
    rcases resetW_get_w remote src rest _ d c h with h1 | h1
    · cases hr : remote.get (.w d0 src) with
      | none => rw [hr] at h1; exact Or.inl h1
      | some c0 =>
        rw [hr] at h1
        simp only at h1
        rw [RefMap.get_set] at h1
        by_cases he : Ref.w d src = Ref.w d0 src
        · rw [if_pos he] at h1
          rw [he, hr]; exact Or.inr h1
        · rw [if_neg he] at h1; exact Or.inl h1
    · exact Or.inr h1

theorem settle_only (s : Sys) (pr : PrInfo) (rest : List Dest) (sync : Bool) (l3 : Loc) :
    OnlyW pr.src rest l3.refs (settle s pr rest sync l3).refs := by
  unfold settle
  split
  · exact resetW_only s.remote pr.src rest l3.refs
  · exact OnlyW.refl _ _ _

theorem tipsOf_w {refs : RefMap} {rs : List Ref} {S : Dest → String → Prop}
    (h : ∀ r ∈ rs, ∀ d src, r = .w d src → S d src) :
    ∀ rc ∈ tipsOf refs rs, ∀ d src, rc.1 = .w d src → S d src :=
  fun rc hrc d src he => h rc.1 (tipsOf_mem hrc) d src he

/-- the targets beyond the first, as integration branches of the pull request -/
def ownW (pr : PrInfo) (rest : List Dest) : Dest → String → Prop := fun d src => src = pr.src ∧ d ∈ rest

/-- a job pushes its integration branches in one push, or pushes nothing -/
theorem pushes_w_ok (base refs : RefMap) (pr : PrInfo) (rest : List Dest) (names : List Ref) (b : Bool)
    (h : ∀ r ∈ names, ∃ d ∈ rest, r = .w d pr.src) :
    ∀ op ∈ (if b = true then [] else [Op.push (tipsOf refs names)]), op.WOk (ownW pr rest) base := by
  intro op hop
  split at hop
  · cases hop
  · cases List.mem_singleton.mp hop
    apply tipsOf_w
    intro r hr d src he
    obtain ⟨d', hd', he'⟩ := h r hr
    cases he'.symm.trans he
    exact ⟨rfl, hd'⟩

/-- what `prepare` returns: every operation is a push of integration branches of the pull request (targets beyond
    the first); the clone it hands over differs from the remote only in these -/
def PrepareWOk (s : Sys) (pr : PrInfo) : Plan ⊕ (Loc × List Op) → Prop
  | .inl p => ∀ op ∈ p.ops, op.WOk (ownW pr ((s.targets pr.dst).drop 1)) s.remote
  | .inr (l4, ops) => OnlyW pr.src ((s.targets pr.dst).drop 1) s.remote l4.refs ∧
      ∀ op ∈ ops, op.WOk (ownW pr ((s.targets pr.dst).drop 1)) s.remote

theorem prepare_wok (s : Sys) (pr : PrInfo) (sc dc : Commit) (orc : List Bool) :
    PrepareWOk s pr (prepare s pr sc dc orc) := by
  refine prepare_elim (motive := PrepareWOk s pr) s pr sc dc orc ?_
  intro l1 l2 u h1 h2 hu
  have o3 : OnlyW pr.src ((s.targets pr.dst).drop 1) s.remote u.1.refs := by
    rw [hu]
    refine OnlyW.trans ?_ (updateW_only pr _ l2 sc [])
    rw [h2, conflictCheck_refs, h1]
    exact createW_only pr _ ⟨s.g, s.remote, orc⟩
  refine ⟨(fun _ h => nomatch h), ?_, fun _ l4 h4 => ⟨?_, ?_⟩⟩
  · rw [hu]
    exact pushes_w_ok _ _ pr _ _ _ (updateW_done_of pr _ _ _ _ _ (fun d hd => ⟨d, hd, rfl⟩) (fun _ h => nomatch h))
  · rw [h4]
    exact o3.trans (settle_only s pr _ _ _)
  · exact pushes_w_ok _ _ pr _ _ _ (fun r hr => by
      obtain ⟨d, hd, rfl⟩ := List.mem_map.mp hr
      exact ⟨d, hd, rfl⟩)

theorem mergeRest_other (pr : PrInfo) (ds : List Dest) {l l' : Loc} {prevD : Commit}
    (hm : mergeRest l pr prevD ds = some l') (x : Ref) (hx : ∀ d, x ≠ .dest d) : l'.refs.get x = l.refs.get x :=
  mergeRest_frame pr ds hm x fun d _ => hx d

/-- entering the queue pushes only `q/` and `q/w/` refs -/
theorem enqueue_wok {S : Dest → String → Prop} {base : RefMap} {s : Sys} {l4 : Loc} {pr : PrInfo} {ts : List Dest}
    {pre : List Op} (hpre : ∀ op ∈ pre, op.WOk S base) :
    ∀ op ∈ (enqueue s l4 pr ts pre).ops, op.WOk S base := by
  have hpq : ∀ op ∈ pre ++ (createQ l4 ts).2, op.WOk S base := fun op hop => by
    rcases List.mem_append.mp hop with h | h
    · exact hpre op h
    · obtain ⟨d, t, rfl⟩ := createQ_ops ts l4 op h
      intro rc hrc d' src he
      cases List.mem_singleton.mp hrc
      cases he
  rcases enqueue_shape s l4 pr ts pre with ⟨g, o, he⟩ | ⟨l8, he⟩
  · rw [he]
    exact hpq
  · rw [he]
    intro op hop
    rcases List.mem_append.mp hop with h | h
    · exact hpq op h
    · cases List.mem_singleton.mp h
      apply tipsOf_w
      intro r hr d src he
      subst he
      simp only [List.mem_append, List.mem_map] at hr
      rcases hr with ⟨_, _, h⟩ | ⟨_, _, h⟩ <;> cases h

/-- the direct merge: deletions of queue branches, then one atomic push whose `w/` refs are those of the clone -/
theorem directMerge_wok {S : Dest → String → Prop} {base : RefMap} {s : Sys} {l4 : Loc} {pr : PrInfo} {sc : Commit}
    {ts : List Dest} {pre : List Op} (hpre : ∀ op ∈ pre, op.WOk S base) (hl4 : WRel S base l4.refs) :
    ∀ op ∈ (directMerge s l4 pr sc ts pre).ops, op.WOk S base := by
  obtain ⟨qs, _, _, rfl, h⟩ := directMerge_shape s l4 pr sc ts pre
  have hpq : ∀ op ∈ pre ++ qs.map Op.delete, op.WOk S base := fun op hop => by
    rcases List.mem_append.mp hop with h | h
    · exact hpre op h
    · obtain ⟨r, _, rfl⟩ := List.mem_map.mp h
      trivial
  rcases h with ⟨_, _, he⟩ | ⟨_, _, _, _, l7, _, _, _, _, hsame, he⟩
  · rw [he]
    exact hpq
  · rw [he]
    intro op hop
    rcases List.mem_append.mp hop with h | h
    · exact hpq op h
    · cases List.mem_singleton.mp h
      intro d src c hc
      have h1 := (get_delRefs_eq_some.mp hc).2
      rw [hsame (.w d src) (fun _ _ he => nomatch he)] at h1
      exact hl4 d src c (get_delRefs_eq_some.mp h1).2

theorem mergeTargets_other_prs (pr : Nat) (src : String) (ts : List Dest) (m : RefMap) (x : Ref)
    (hx : ∀ d, x ≠ .dest d) : (mergeTargets pr src m ts).get x = m.get x := by
  rcases mergeTargets_cases pr src ts m x with h | ⟨d, _, _, hxd, _⟩
  · exact h
  · exact absurd hxd (hx d)

theorem mergeEntries_other_prs : ∀ (es : List QEntry) (m : RefMap) (x : Ref), (∀ d, x ≠ .dest d) →
    (es.foldl mergeEntry m).get x = m.get x
  | [], _, _, _ => rfl
  | e :: es, m, x, hx => by
    simp only [List.foldl_cons]
    rw [mergeEntries_other_prs es _ x hx]
    exact mergeTargets_other_prs e.pr e.src e.targets m x hx

/-- the queue merge: one atomic push that creates or moves no `w/` ref at all -/
theorem planQueues_wok (S : Dest → String → Prop) (s : Sys) (sel : List Nat) :
    ∀ op ∈ (planQueues s sel).ops, op.WOk S s.remote := by
  unfold planQueues
  simp only
  split
  · intro _ h; cases h
  · intro op hop
    simp only [List.mem_cons, List.not_mem_nil, or_false] at hop
    subst hop
    intro d src c hc
    have h1 := (get_delRefs_eq_some.mp hc).2
    rw [mergeEntries_other_prs _ _ (.w d src) (fun _ he => nomatch he)] at h1
    exact Or.inl h1

theorem planQueues_not_success (s : Sys) (sel : List Nat) : (planQueues s sel).outcome ≠ "SuccessMessage" := by
  unfold planQueues
  simp only
  split <;> simp

theorem enqueue_not_success (s : Sys) (l4 : Loc) (pr : PrInfo) (ts : List Dest) (pre : List Op) :
    (enqueue s l4 pr ts pre).outcome ≠ "SuccessMessage" := by
  obtain ⟨l, _, ⟨o, ho, he⟩ | he⟩ := enqueue_spec s l4 pr ts pre <;> rw [he]
  · rintro rfl
    simp at ho
  · simp

theorem directMerge_success {s : Sys} {l4 : Loc} {pr : PrInfo} {sc : Commit} {ts : List Dest} {pre : List Op}
    (h : (directMerge s l4 pr sc ts pre).outcome = "SuccessMessage") :
    ∃ pre' loc, (directMerge s l4 pr sc ts pre).ops = pre' ++ [.pushAll loc true] ∧
      ∀ d ∈ ts.drop 1, loc.get (.w d pr.src) = none := by
  obtain ⟨qs, _, _, _, ⟨_, _, he⟩ | ⟨_, ds, _, _, l7, rfl, _, _, _, _, he⟩⟩ := directMerge_shape s l4 pr sc ts pre
  · rw [he] at h
    simp at h
  · rw [he]
    refine ⟨_, _, rfl, fun d hd => ?_⟩
    rw [get_delRefs]
    exact if_pos (List.mem_map.mpr ⟨d, hd, rfl⟩)

theorem planPr_success {s : Sys} {pr : PrInfo} {stage : Stage} {orc : List Bool} {sel : List Nat}
    (h : (planPr s pr stage orc sel).outcome = "SuccessMessage") :
    ∃ l4 sc pushW, planPr s pr stage orc sel = directMerge s l4 pr sc (s.targets pr.dst) pushW := by
  rcases planPr_cases s pr stage orc sel with
    ⟨o, ho, hp⟩ | hp | ⟨sc, dc, _, _, hpe | ⟨l4, pushW, _, hp | hp | hp⟩⟩
  · rw [hp] at h
    subst h
    simp at ho
  · rw [hp] at h
    exact absurd h (planQueues_not_success s sel)
  · rw [prepare_inl_outcome hpe] at h
    simp at h
  · rw [hp] at h
    simp at h
  · rw [hp] at h
    exact absurd h (enqueue_not_success _ _ _ _ _)
  · exact ⟨l4, sc, pushW, hp⟩

theorem planPr_wok (s : Sys) (pr : PrInfo) (stage : Stage) (orc : List Bool) (sel : List Nat) :
    ∀ op ∈ (planPr s pr stage orc sel).ops, op.WOk (ownW pr ((s.targets pr.dst).drop 1)) s.remote := by
  rcases planPr_cases s pr stage orc sel with
    ⟨o, _, hp⟩ | hp | ⟨sc, dc, _, _, hpe | ⟨l4, pushW, hpe, hp⟩⟩
  · rw [hp]
    exact nofun
  · rw [hp]
    exact planQueues_wok _ s sel
  · have := prepare_wok s pr sc dc orc
    rw [hpe] at this
    exact this
  · have := prepare_wok s pr sc dc orc
    rw [hpe] at this
    obtain ⟨hw, hok⟩ := this
    rcases hp with hp | hp | hp <;> rw [hp]
    · exact hok
    · exact enqueue_wok hok
    · apply directMerge_wok hok
      intro d src c hc
      by_cases hS : ownW pr ((s.targets pr.dst).drop 1) d src
      · exact Or.inr hS
      · left
        rw [← hw (.w d src) (fun d' hd' he => hS (by
          simp only [Ref.w.injEq] at he
          exact ⟨he.2, he.1 ▸ hd'⟩))]
        exact hc

end BertE.Flow

namespace BertE.Prs
open BertE.Names

theorem createChildren_cases (tpl : List Seg) (prs : List Pr) (parent : Pr) (w1 d1 : String)
    (rest : List (String × String)) :
    let open_ := getOpen prs (((w1, d1) :: rest).map (·.1))
    let res := createChildren tpl prs parent ((w1, d1) :: rest) true
    (childFor open_ w1 d1 = none ∧ res.prs = prs ∧ res.children = [] ∧ res.crashed = true) ∨
    (∃ c1, childFor open_ w1 d1 = some c1 ∧ res.prs = (createRest tpl open_ parent prs rest).1 ∧
      res.children = ⟨c1, false⟩ :: (createRest tpl open_ parent prs rest).2 ∧ res.crashed = false) := by
  simp only [createChildren]
  cases hc : childFor (getOpen prs (List.map (·.1) ((w1, d1) :: rest))) w1 d1 with
  | none => left; simp
  | some c1 => right; exact ⟨c1, rfl, by simp⟩

theorem createChildren_disabled (tpl : List Seg) (prs : List Pr) (parent : Pr) (ws : List (String × String)) :
    createChildren tpl prs parent ws false = ⟨prs, [], false⟩ := by
  simp [createChildren]

theorem createChildren_spec (tpl : List Seg) (prs : List Pr) (parent : Pr) (ws : List (String × String))
    (enabled : Bool) {res : CreateResult} (hres : createChildren tpl prs parent ws enabled = res) :
    (∃ new, res.prs = new ++ prs ∧ ∀ p ∈ new, ∃ c ∈ res.children, c.created = true ∧ c.pr = p) ∧
    (∀ c ∈ res.children, c.created = true →
      (c.pr.src, c.pr.dst) ∈ ws.tail ∧ c.pr ∈ res.prs ∧ IsNewChild tpl prs parent c.pr ∧
      ∀ q ∈ prs, q.isOpen = true → q.src = c.pr.src → q.dst = c.pr.dst → False) ∧
    (∀ c ∈ res.children, c.created = false → (c.pr.src, c.pr.dst) ∈ ws ∧ c.pr ∈ prs ∧ c.pr.isOpen = true) ∧
    (enabled = true → res.crashed = false → res.children.map (fun c => (c.pr.src, c.pr.dst)) = ws) := by
  -- `res` stays a variable: only its fields are rewritten
  cases enabled with
  | false =>
    rw [createChildren_disabled] at hres
    subst hres
    exact ⟨⟨[], rfl, (fun _ h => nomatch h)⟩, (fun _ h => nomatch h), (fun _ h => nomatch h), (fun h => nomatch h)⟩
  | true =>
    cases ws with
    | nil =>
      subst hres
      exact ⟨⟨[], rfl, (fun _ h => nomatch h)⟩, (fun _ h => nomatch h), (fun _ h => nomatch h), fun _ _ => rfl⟩
    | cons wd rest =>
      obtain ⟨w1, d1⟩ := wd
      rcases createChildren_cases tpl prs parent w1 d1 rest with ⟨_, h2, h3, h4⟩ | ⟨c1, h1, h2, h3, _⟩
      · rw [hres] at h2 h3 h4
        rw [h2, h3, h4]
        exact ⟨⟨[], rfl, (fun _ h => nomatch h)⟩, (fun _ h => nomatch h), (fun _ h => nomatch h), (fun _ h => nomatch h)⟩
      · obtain ⟨⟨new, hnew, hnew2⟩, hal, hcr, hre⟩ :=
          createRest_spec tpl (getOpen prs (((w1, d1) :: rest).map (·.1))) parent rest prs
        obtain ⟨hm1, hs1, hd1⟩ := childFor_some h1
        have hopen : ∀ q, q ∈ getOpen prs (((w1, d1) :: rest).map (·.1)) → q ∈ prs ∧ q.isOpen = true :=
          fun q hq => ⟨(mem_getOpen.mp hq).1, (mem_getOpen.mp hq).2.1⟩
        have hpair : ∀ c ∈ (createRest tpl (getOpen prs (((w1, d1) :: rest).map (·.1))) parent prs rest).2,
            (c.pr.src, c.pr.dst) ∈ rest := fun c hc => by
          rw [← hal]
          exact List.mem_map.mpr ⟨c, hc, rfl⟩
        rw [hres] at h2 h3
        rw [h2, h3]
        refine ⟨⟨new, hnew, fun p hp => ?_⟩, fun c hc hcreated => ?_, fun c hc hcreated => ?_, fun _ _ => ?_⟩
        · obtain ⟨c, hc, h⟩ := hnew2 p hp
          exact ⟨c, List.mem_cons_of_mem _ hc, h⟩
        · rcases List.mem_cons.mp hc with rfl | hc'
          · cases hcreated
          · obtain ⟨hmem, hn, hnone⟩ := hcr c hc' hcreated
            exact ⟨hpair c hc', hmem, hn, childFor_none hnone
              (List.mem_map.mpr ⟨_, List.mem_cons_of_mem _ (hpair c hc'), rfl⟩)⟩
        · rcases List.mem_cons.mp hc with rfl | hc'
          · simp only
            rw [hs1, hd1]
            exact ⟨List.mem_cons_self, hopen _ hm1⟩
          · exact ⟨List.mem_cons_of_mem _ (hpair c hc'), hopen _ (childFor_some (hre c hc' hcreated)).1⟩
        · rw [List.map_cons, hal, hs1, hd1]

def Weaker (p p' : Pr) : Prop :=
  p'.robot = p.robot ∧ p'.src = p.src ∧ p'.dst = p.dst ∧ (p'.isOpen = true → p.isOpen = true)

theorem DeclStep.weaker {ws : List (String × String)} {p p' : Pr} (h : DeclStep ws p p') : Weaker p p' := by
  rcases h with rfl | ⟨_, _, rfl⟩
  · exact ⟨rfl, rfl, rfl, id⟩
  · exact ⟨rfl, rfl, rfl, fun h => by simp [Pr.isOpen] at h⟩

theorem cnt_le_of_pointwise {prs prs' : List Pr} (h : Pointwise Weaker prs prs') (s d : String) :
    cnt (fun p => p.robot) prs' s d ≤ cnt (fun p => p.robot) prs s d := by
  induction h with
  | nil => exact Nat.le_refl _
  | @cons a b l1 l2 hab _ ih =>
    rw [cnt_cons, cnt_cons]
    obtain ⟨h1, h2, h3, h4⟩ := hab
    rw [h1, h2, h3]
    cases ho : b.isOpen
    · simp only [Bool.and_false, Bool.false_and, Bool.false_eq_true, if_false]
      omega
    · rw [h4 ho]
      omega

theorem Pointwise.imp {α : Type} {R S : α → α → Prop} (h : ∀ a b, R a b → S a b) :
    ∀ {l1 l2 : List α}, Pointwise R l1 l2 → Pointwise S l1 l2
  | _, _, .nil => .nil
  | _, _, .cons hab t => .cons (h _ _ hab) (Pointwise.imp h t)

/-- what can happen to the host's table, as far as the property is concerned -/
inductive TableEv where
  /-- an evaluation reaches `create_integration_pull_requests` -/
  | create (parent : Pr) (wbranches : List (String × String)) (enabled : Bool)
  /-- an evaluation of a declined pull request runs the loop of `handle_declined_pull_request` -/
  | declineFor (ws : List (String × String))
  /-- somebody (a user, the host on a merge) closes a pull request: it leaves the OPEN state -/
  | close (id : Nat) (state : PrState)
  /-- a user opens a pull request -/
  | openByUser (p : Pr)

def TableEv.run (tpl : List Seg) (prs : List Pr) : TableEv → List Pr
  | .create parent wbranches enabled => (createChildren tpl prs parent wbranches enabled).prs
  | .declineFor ws => (declineChildren prs ws).1
  | .close id st => prs.map fun p => if p.id == id && st != .opened then { p with state := st } else p
  | .openByUser p => p :: prs

/-- the evaluation lists distinct (branch, target) pairs; users are not the robot -/
def TableEv.Legal : TableEv → Prop
  | .create _ wbranches _ => wbranches.Nodup
  | .openByUser p => p.robot = false
  | _ => True

theorem wmap_nodup (src : String) (l : List (String × String)) (h : (l.map (·.2)).Nodup) :
    (l.map fun vd => (wName vd.1 src, vd.2)).Nodup := by
  refine List.Pairwise.of_map (S := (· ≠ ·)) (·.2) (fun _ _ hne e => hne (congrArg _ e)) ?_
  rw [List.map_map]
  exact h

theorem wbranchesOf_nodup (src : String) : ∀ (dsts : List (String × String)), (dsts.map (·.2)).Nodup →
    (wbranchesOf src dsts).Nodup
  | [], _ => List.nodup_nil
  | (v1, d1) :: rest, h => by
    rw [List.map_cons, List.nodup_cons] at h
    rw [wbranchesOf, List.nodup_cons]
    refine ⟨fun hm => h.1 ?_, wmap_nodup src rest h.2⟩
    simpa using List.mem_map_of_mem (f := (·.2)) hm

theorem declinedOf_nodup (src : String) (dsts : List (String × String)) (h : (dsts.map (·.2)).Nodup) :
    (declinedOf src dsts).Nodup := wmap_nodup src dsts h

end BertE.Prs
