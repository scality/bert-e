import BertE.Lemmas.Defs
/- The cascade order: `keyLt` is a strict total order on keys, `Dest.before` a strict order; insertion into a sorted
   key list; the target list of a pull request is ordered by `before` and closed upwards. -/
namespace BertE.Flow

theorem keyLt_irrefl (a : Key) : keyLt a a = false := by
  obtain ⟨M, m⟩ := a
  cases m <;> simp [keyLt]

theorem keyLt_trans {a b c : Key} (h1 : keyLt a b = true) (h2 : keyLt b c = true) : keyLt a c = true := by
  obtain ⟨A, a⟩ := a; obtain ⟨B, b⟩ := b; obtain ⟨C, c⟩ := c
  cases a <;> cases b <;> cases c <;> simp [keyLt] at * <;> omega

theorem keyLt_asymm {a b : Key} (h1 : keyLt a b = true) : keyLt b a = false := by
  cases h : keyLt b a
  · rfl
  · have := keyLt_trans h1 h
    rw [keyLt_irrefl] at this; cases this

theorem keyLt_total {a b : Key} (h1 : keyLt a b = false) (h2 : a ≠ b) : keyLt b a = true := by
  obtain ⟨A, a⟩ := a; obtain ⟨B, b⟩ := b
  cases a <;> cases b <;> simp [keyLt] at * <;> omega

theorem keyLe_trans_lt {a b c : Key} (h1 : keyLe a b = true) (h2 : keyLt b c = true) : keyLe a c = true := by
  unfold keyLe at *
  simp only [Bool.or_eq_true, beq_iff_eq] at *
  rcases h1 with rfl | h1
  · exact Or.inr h2
  · exact Or.inr (keyLt_trans h1 h2)

theorem Dest.before_irrefl (a : Dest) : a.before a = false := by
  cases a <;> simp [Dest.before, keyLt_irrefl]

theorem Dest.before_right_dev {a b : Dest} (h : a.before b = true) : ∃ M m, b = .dev M m := by
  cases a <;> cases b <;> simp [Dest.before] at h <;> exact ⟨_, _, rfl⟩

theorem Dest.before_left_not_hotfix {a b : Dest} (h : a.before b = true) : ∀ M m u, a ≠ .hotfix M m u := by
  intro M m u he; subst he; simp [Dest.before] at h

theorem Dest.before_trans {a b c : Dest} (h1 : a.before b = true) (h2 : b.before c = true) :
    a.before c = true := by
  obtain ⟨_, _, rfl⟩ := Dest.before_right_dev h1
  obtain ⟨_, _, rfl⟩ := Dest.before_right_dev h2
  cases a with
  | dev _ _ => exact keyLt_trans h1 h2
  | stab _ _ _ => exact keyLe_trans_lt h1 h2
  | hotfix _ _ _ => exact absurd rfl (Dest.before_left_not_hotfix h1 _ _ _)

theorem Dest.before_asymm {a b : Dest} (h1 : a.before b = true) : b.before a = false := by
  cases h : b.before a
  · rfl
  · have := Dest.before_trans h1 h
    rw [Dest.before_irrefl] at this; cases this

theorem mem_insertKey {k x : Key} : ∀ {ks : List Key}, x ∈ insertKey k ks ↔ x = k ∨ x ∈ ks
  | [] => by simp [insertKey]
  | y :: ys => by
    simp only [insertKey]
    split
    · simp
    · split
      · rename_i h; subst h; simp
      · simp only [List.mem_cons, mem_insertKey (ks := ys)]
        exact or_left_comm

theorem sorted_insertKey (k : Key) : ∀ {ks : List Key}, SortedKeys ks → SortedKeys (insertKey k ks)
  | [], _ => by simp [insertKey, SortedKeys]
  | y :: ys, h => by
    unfold SortedKeys at *
    simp only [insertKey]
    rw [List.pairwise_cons] at h
    split
    · rename_i hlt
      rw [List.pairwise_cons]
      refine ⟨?_, List.pairwise_cons.mpr h⟩
      intro b hb
      rcases List.mem_cons.mp hb with rfl | hb'
      · exact hlt
      · exact keyLt_trans hlt (h.1 b hb')
    · split
      · exact List.pairwise_cons.mpr h
      · rename_i hnlt hne
        rw [List.pairwise_cons]
        refine ⟨?_, sorted_insertKey k h.2⟩
        intro b hb
        rcases mem_insertKey.mp hb with rfl | hb'
        · exact keyLt_total (by simpa using hnlt) hne
        · exact h.1 b hb'

theorem targets_eq_cons (s : Sys) (dst : Dest) :
    s.targets dst = dst :: (s.devs.filter (fun k => dst.before (.dev k.1 k.2))).map (fun k => .dev k.1 k.2) := by
  cases dst <;> simp [Sys.targets, Dest.before]

theorem mem_targets_iff {s : Sys} {dst d : Dest} :
    d ∈ s.targets dst ↔ d = dst ∨ (dst.before d = true ∧ ∃ k ∈ s.devs, d = .dev k.1 k.2) := by
  rw [targets_eq_cons, List.mem_cons]
  apply or_congr_right
  simp only [List.mem_map, List.mem_filter]
  constructor
  · rintro ⟨k, ⟨hk, hb⟩, rfl⟩
    exact ⟨hb, k, hk, rfl⟩
  · rintro ⟨hb, k, hk, rfl⟩
    exact ⟨k, ⟨hk, hb⟩, rfl⟩

theorem dst_mem_targets (s : Sys) (dst : Dest) : dst ∈ s.targets dst := mem_targets_iff.mpr (Or.inl rfl)

theorem targets_closed {s : Sys} {dst t b : Dest} (ht : t ∈ s.targets dst) (hb : t.before b = true)
    {k : Key} (hk : k ∈ s.devs) (hbk : b = .dev k.1 k.2) : b ∈ s.targets dst := by
  refine mem_targets_iff.mpr (Or.inr ⟨?_, k, hk, hbk⟩)
  rcases mem_targets_iff.mp ht with rfl | ⟨h, _⟩
  · exact hb
  · exact Dest.before_trans h hb

theorem targets_pairwise {s : Sys} (hs : SortedKeys s.devs) (dst : Dest) :
    (s.targets dst).Pairwise (fun a b => a.before b = true) := by
  rw [targets_eq_cons, List.pairwise_cons, List.pairwise_map]
  constructor
  · intro b hb
    obtain ⟨k, hk, rfl⟩ := List.mem_map.mp hb
    exact (List.mem_filter.mp hk).2
  · exact (hs.sublist List.filter_sublist).imp (fun h => by simpa [Dest.before] using h)

theorem pairwise_before_nodup {l : List Dest} (h : l.Pairwise (fun a b => a.before b = true)) : l.Nodup :=
  h.imp fun hab he => by rw [he, Dest.before_irrefl] at hab; cases hab

end BertE.Flow
