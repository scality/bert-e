import BertE.Lemmas.Flow
/- What a pull-request evaluation plans, case by case (`prepare_cases`, `planPr_cases`), and that every operation
   it plans is safe for inclusion. -/
namespace BertE.Flow
open BertE.Git

theorem nil_safe (g : Graph) : ∀ op ∈ ([] : List Op), op.Safe g := fun _ h => nomatch h

theorem resetW_get (remote : RefMap) (src : String) : ∀ (rest : List Dest) (m : RefMap) (x : Ref),
    (∀ d s', x ≠ .w d s') →
    (rest.foldl (fun m d => match remote.get (.w d src) with
        | some c => m.set (.w d src) c
        | none => m) m).get x = m.get x
  | [], _, _, _ => rfl
  | d :: rest, m, x, hx => by
    rw [List.foldl_cons, resetW_get remote src rest _ x hx]
    split
    · exact RefMap.get_set_ne _ _ (hx d src)
    · rfl

theorem resetW_valid {g : Graph} (remote : RefMap) (hr : RefsValid g remote) (src : String) :
    ∀ (rest : List Dest) (m : RefMap), RefsValid g m →
    RefsValid g (rest.foldl (fun m d => match remote.get (.w d src) with
        | some c => m.set (.w d src) c
        | none => m) m)
  | [], _, hm => hm
  | d :: rest, m, hm => by
    rw [List.foldl_cons]
    apply resetW_valid remote hr src rest
    split
    · next c hc => exact hm.set (hr _ _ hc)
    · exact hm

theorem settle_wonly {s : Sys} (hs : s.WF) (pr : PrInfo) (rest : List Dest) (sync : Bool) {l0 l3 : Loc}
    (h : WOnly l0 l3) (hg : Extends s.g l3.g) : WOnly l0 (settle s pr rest sync l3) := by
  unfold settle
  split
  · exact ⟨⟨h.ok.wf, resetW_valid s.remote (hs.valid.mono hg) pr.src rest _ h.ok.valid⟩, h.ext,
      fun x hx => (resetW_get s.remote pr.src rest _ x hx).trans (h.dests x hx)⟩
  · exact h

theorem conflictCheck_wonly {l : Loc} (hl : l.OK) (dc sc : Commit) : WOnly l (conflictCheck l dc sc).2 := by
  unfold conflictCheck
  split
  · exact WOnly.refl hl
  · obtain ⟨hg, hr⟩ := l.ask_g
    exact ⟨⟨hg ▸ hl.wf, hg ▸ hr ▸ hl.valid⟩, hg ▸ Extends.refl _, fun x _ => by rw [hr]⟩

theorem pushWOps_safe (g : Graph) (l : Loc) (pr : PrInfo) (rest : List Dest) :
    ∀ op ∈ pushWOps l pr rest, op.Safe g :=
  forall_mem_ite_nil (push_tipsOf_safe g _ _ (List.forall_mem_map.mpr fun _ _ => rfl))

theorem conflictPush_safe (g : Graph) (l : Loc) {updated : List Ref} (hu : ∀ r ∈ updated, r.isDest = false) :
    ∀ op ∈ conflictPush l updated, op.Safe g :=
  forall_mem_ite_nil (push_tipsOf_safe g _ _ hu)

theorem updateW_done_of (pr : PrInfo) (P : Ref → Prop) : ∀ (ds : List Dest) (l : Loc) (prev : Commit) (done : List Ref),
    (∀ d ∈ ds, P (.w d pr.src)) → (∀ r ∈ done, P r) → ∀ r ∈ (updateW l pr prev ds done).2.1, P r
  | [], _, _, _, _, hd => hd
  | d :: ds, l, prev, done, hw, hd => by
    rw [updateW]
    split
    · exact hd
    · split
      · exact hd
      · split
        · exact hd
        · apply updateW_done_of pr P ds _ _ _ (fun d' h => hw d' (List.mem_cons_of_mem _ h))
          intro r hr
          rcases List.mem_append.mp hr with h | h
          · exact hd r h
          · cases List.mem_singleton.mp h
            exact hw d List.mem_cons_self

theorem updateW_done (pr : PrInfo) (ds : List Dest) (l : Loc) (prev : Commit) (done : List Ref)
    (hd : ∀ r ∈ done, r.isDest = false) : ∀ r ∈ (updateW l pr prev ds done).2.1, r.isDest = false :=
  updateW_done_of pr (fun r => r.isDest = false) ds l prev done (fun _ _ => rfl) hd

theorem prepare_elim {motive : Plan ⊕ (Loc × List Op) → Prop} (s : Sys) (pr : PrInfo) (sc dc : Commit) (orc : List Bool)
    (h : ∀ l1 l2 u, l1 = createW ⟨s.g, s.remote, orc⟩ pr ((s.targets pr.dst).drop 1) → l2 = (conflictCheck l1 dc sc).2 →
      u = updateW l2 pr sc ((s.targets pr.dst).drop 1) [] →
      motive (.inl ⟨l2.g, [], "Conflict", s.queue⟩) ∧
      motive (.inl ⟨u.1.g, conflictPush u.1 u.2.1, "Conflict", s.queue⟩) ∧
      (u.2.2 = true → ∀ l4, l4 = settle s pr ((s.targets pr.dst).drop 1)
          (inSync l1.g l1.refs sc ((s.targets pr.dst).map (wRef pr pr.dst))) u.1 →
        motive (.inr (l4, pushWOps l4 pr ((s.targets pr.dst).drop 1))))) :
    motive (prepare s pr sc dc orc) := by
  obtain ⟨h1, h2, h3⟩ := h _ _ _ rfl rfl rfl
  unfold prepare
  simp only
  split
  · exact h1
  · split
    · exact h2
    · rename_i hu
      exact h3 (by simpa using hu) _ rfl

/-- `updated` is empty for the conflict between source and destination -/
theorem prepare_cases {s : Sys} (hs : s.WF) (pr : PrInfo) {sc : Commit} (hsc : sc < s.g.size) (dc : Commit)
    (orc : List Bool) :
    (∃ l updated, WOnly ⟨s.g, s.remote, orc⟩ l ∧ (∀ r ∈ updated, ∃ d, r = .w d pr.src) ∧
      prepare s pr sc dc orc = .inl ⟨l.g, conflictPush l updated, "Conflict", s.queue⟩) ∨
    (∃ l4, WOnly ⟨s.g, s.remote, orc⟩ l4 ∧
      prepare s pr sc dc orc = .inr (l4, pushWOps l4 pr ((s.targets pr.dst).drop 1))) := by
  have hnil : ∀ r ∈ ([] : List Ref), ∃ d, r = .w d pr.src := fun _ h => nomatch h
  -- every branch is kept as an equation `prepare .. = r`
  refine prepare_elim (motive := fun r => prepare s pr sc dc orc = r → _) s pr sc dc orc ?_ rfl
  rintro l1 l2 u rfl rfl rfl
  have hw1 := createW_wonly pr ((s.targets pr.dst).drop 1) (l := ⟨s.g, s.remote, orc⟩) ⟨hs.g, hs.valid⟩
  have hw2 := hw1.trans (conflictCheck_wonly hw1.ok dc sc)
  have hw3 := hw2.trans (updateW_wonly pr ((s.targets pr.dst).drop 1) (done := []) hw2.ok (hw2.ext.lt hsc))
  exact ⟨fun he => Or.inl ⟨_, [], hw2, hnil, he⟩, fun he => Or.inl ⟨_, _, hw3,
      updateW_done_of pr (fun r => ∃ d, r = .w d pr.src) _ _ _ _ (fun d _ => ⟨d, rfl⟩) hnil, he⟩,
    fun _ l4 hl4 he => Or.inr ⟨l4, hl4 ▸ settle_wonly hs pr _ _ hw3 hw3.ext, he⟩⟩

theorem prepare_inl {s : Sys} (hs : s.WF) (pr : PrInfo) {sc dc : Commit} (hsc : sc < s.g.size) {orc : List Bool}
    {p : Plan} (h : prepare s pr sc dc orc = .inl p) :
    ∃ l updated, WOnly ⟨s.g, s.remote, orc⟩ l ∧ (∀ r ∈ updated, ∃ d, r = .w d pr.src) ∧
      p = ⟨l.g, conflictPush l updated, "Conflict", s.queue⟩ := by
  rcases prepare_cases hs pr hsc dc orc with ⟨l, upd, hw, hu, he⟩ | ⟨_, _, he⟩ <;> rw [he] at h <;> cases h
  exact ⟨l, upd, hw, hu, rfl⟩

theorem prepare_inr {s : Sys} (hs : s.WF) (pr : PrInfo) {sc dc : Commit} (hsc : sc < s.g.size) {orc : List Bool}
    {l4 : Loc} {ops : List Op} (h : prepare s pr sc dc orc = .inr (l4, ops)) :
    WOnly ⟨s.g, s.remote, orc⟩ l4 ∧ ops = pushWOps l4 pr ((s.targets pr.dst).drop 1) := by
  rcases prepare_cases hs pr hsc dc orc with ⟨_, _, _, _, he⟩ | ⟨_, hw, he⟩ <;> rw [he] at h <;> cases h
  exact ⟨hw, rfl⟩

theorem prepare_inl_outcome {s : Sys} {pr : PrInfo} {sc dc : Commit} {orc : List Bool} {p : Plan}
    (h : prepare s pr sc dc orc = .inl p) : p.outcome = "Conflict" := by
  refine prepare_elim (motive := fun r => r = .inl p → p.outcome = "Conflict") s pr sc dc orc (fun _ _ _ _ _ _ => ?_) h
  refine ⟨?_, ?_, (fun _ _ _ h => nomatch h)⟩
  · rintro ⟨⟩
    rfl
  · rintro ⟨⟩
    rfl

theorem prepare_spec {s : Sys} (hs : s.WF) (pr : PrInfo) {sc dc : Commit} (hsc : sc < s.g.size) (orc : List Bool) :
    (∀ p, prepare s pr sc dc orc = .inl p → ∀ op ∈ p.ops, op.Safe p.g) ∧
    (∀ l4 ops, prepare s pr sc dc orc = .inr (l4, ops) →
      WOnly ⟨s.g, s.remote, orc⟩ l4 ∧ ∀ g, ∀ op ∈ ops, op.Safe g) := by
  constructor
  · intro p hp
    obtain ⟨l, _, _, hu, rfl⟩ := prepare_inl hs pr hsc hp
    exact conflictPush_safe _ l fun r hr => by
      obtain ⟨d, rfl⟩ := hu r hr
      rfl
  · intro l4 ops hp
    obtain ⟨hw, rfl⟩ := prepare_inr hs pr hsc hp
    exact ⟨hw, fun g => pushWOps_safe g _ pr _⟩

/-- `idle`: nothing is planned; `active`: the evaluation gets to the clone (both branches exist, the source is not
    merged yet) -/
theorem planPr_rec {motive : Plan → Prop} (s : Sys) (pr : PrInfo) (stage : Stage) (orc : List Bool) (sel : List Nat)
    (idle : ∀ o ∈ ["gate", "NothingToDo", "WrongDestination"], motive ⟨s.g, [], o, s.queue⟩)
    (active : ∀ sc dc, s.remote.get (.other pr.src) = some sc → s.remote.get (.dest pr.dst) = some dc →
      s.g.le sc dc = false →
      (alreadyQueued s pr = true → motive (planQueues s sel)) ∧
      (alreadyQueued s pr = false →
        (∀ p, prepare s pr sc dc orc = .inl p → motive p) ∧
        ∀ l4 pushW, prepare s pr sc dc orc = .inr (l4, pushW) →
          (stage = .integration → motive ⟨l4.g, pushW, "gate", s.queue⟩) ∧
          (stage = .final → isNeeded s l4 pr (s.targets pr.dst) = true →
            motive (enqueue s l4 pr (s.targets pr.dst) pushW)) ∧
          (stage = .final → isNeeded s l4 pr (s.targets pr.dst) = false →
            motive (directMerge s l4 pr sc (s.targets pr.dst) pushW)))) :
    motive (planPr s pr stage orc sel) := by
  unfold planPr
  split
  · exact idle _ (by simp)
  · next hearly =>
    split
    · exact idle _ (by simp)
    · exact idle _ (by simp)
    · next sc dc hsc hdc =>
      split
      · exact idle _ (by simp)
      · next hle =>
        obtain ⟨hqueued, hnot⟩ := active sc dc hsc hdc (by simpa using hle)
        split
        · next hq => exact hqueued hq
        · next hq =>
          obtain ⟨hstop, hready⟩ := hnot (by simpa using hq)
          split
          · next p hp => exact hstop p hp
          · next l4 pushW hp =>
            obtain ⟨h1, h2, h3⟩ := hready l4 pushW hp
            split
            · next hst => exact h1 hst
            · next hst =>
              have hfinal : stage = .final := by
                cases stage
                · exact absurd rfl hearly
                · exact absurd rfl hst
                · rfl
              split
              · next hn => exact h2 hfinal hn
              · next hn => exact h3 hfinal (by simpa using hn)

/-- the same with every outcome allowed where nothing is planned -/
theorem planPr_elim {motive : Plan → Prop} (s : Sys) (pr : PrInfo) (stage : Stage) (orc : List Bool) (sel : List Nat)
    (idle : ∀ o, motive ⟨s.g, [], o, s.queue⟩)
    (queued : alreadyQueued s pr = true → motive (planQueues s sel))
    (stopped : ∀ sc dc p, s.remote.get (.other pr.src) = some sc → s.remote.get (.dest pr.dst) = some dc →
      prepare s pr sc dc orc = .inl p → motive p)
    (ready : ∀ sc dc l4 pushW, s.remote.get (.other pr.src) = some sc → s.remote.get (.dest pr.dst) = some dc →
      prepare s pr sc dc orc = .inr (l4, pushW) → alreadyQueued s pr = false →
      motive ⟨l4.g, pushW, "gate", s.queue⟩ ∧
      (isNeeded s l4 pr (s.targets pr.dst) = true → motive (enqueue s l4 pr (s.targets pr.dst) pushW)) ∧
      (stage = .final → isNeeded s l4 pr (s.targets pr.dst) = false →
        motive (directMerge s l4 pr sc (s.targets pr.dst) pushW))) :
    motive (planPr s pr stage orc sel) :=
  planPr_rec s pr stage orc sel (fun o _ => idle o) fun sc dc hsc hdc _ =>
    ⟨queued, fun hq => ⟨fun p hp => stopped sc dc p hsc hdc hp, fun l4 pushW hp =>
      ⟨fun _ => (ready sc dc l4 pushW hsc hdc hp hq).1, fun _ => (ready sc dc l4 pushW hsc hdc hp hq).2.1,
        (ready sc dc l4 pushW hsc hdc hp hq).2.2⟩⟩⟩

/-- the same as a disjunction of equations -/
theorem planPr_cases (s : Sys) (pr : PrInfo) (stage : Stage) (orc : List Bool) (sel : List Nat) :
    (∃ o ∈ ["gate", "NothingToDo", "WrongDestination"], planPr s pr stage orc sel = ⟨s.g, [], o, s.queue⟩) ∨
    planPr s pr stage orc sel = planQueues s sel ∨
    ∃ sc dc, s.remote.get (.other pr.src) = some sc ∧ s.remote.get (.dest pr.dst) = some dc ∧
      (prepare s pr sc dc orc = .inl (planPr s pr stage orc sel) ∨
       ∃ l4 pushW, prepare s pr sc dc orc = .inr (l4, pushW) ∧
         (planPr s pr stage orc sel = ⟨l4.g, pushW, "gate", s.queue⟩ ∨
          planPr s pr stage orc sel = enqueue s l4 pr (s.targets pr.dst) pushW ∨
          planPr s pr stage orc sel = directMerge s l4 pr sc (s.targets pr.dst) pushW)) := by
  -- every branch is kept as an equation `planPr .. = p`
  refine planPr_rec (motive := fun p => planPr s pr stage orc sel = p → _) s pr stage orc sel
    (fun o ho he => .inl ⟨o, ho, he⟩) (fun sc dc hsc hdc _ => ⟨fun _ he => .inr (.inl he), fun _ =>
      ⟨fun _ hp he => .inr (.inr ⟨sc, dc, hsc, hdc, .inl (he ▸ hp)⟩), fun l4 pushW hp =>
        ⟨fun _ he => .inr (.inr ⟨sc, dc, hsc, hdc, .inr ⟨l4, pushW, hp, .inl he⟩⟩),
          fun _ _ he => .inr (.inr ⟨sc, dc, hsc, hdc, .inr ⟨l4, pushW, hp, .inr (.inl he)⟩⟩),
          fun _ _ he => .inr (.inr ⟨sc, dc, hsc, hdc, .inr ⟨l4, pushW, hp, .inr (.inr he)⟩⟩)⟩⟩⟩) rfl

/-- whatever the gates allowed and git's content merges answered; that the queue merge it may trigger is safe is a
    hypothesis (`planQueues_safe`) -/
theorem planPr_safe {s : Sys} (hs : s.WF) (hincl : s.Incl) (pr : PrInfo) (stage : Stage) (orc : List Bool)
    (sel : List Nat)
    (hq : ∀ op ∈ (planQueues s sel).ops, op.Safe (planQueues s sel).g) :
    ∀ op ∈ (planPr s pr stage orc sel).ops, op.Safe (planPr s pr stage orc sel).g := by
  rcases planPr_cases s pr stage orc sel with ⟨_, _, he⟩ | he | ⟨sc, dc, hsc, _, hp | ⟨l4, pushW, hp, he⟩⟩
  · rw [he]
    exact nil_safe _
  · rw [he]
    exact hq
  · exact (prepare_spec hs pr (hs.valid _ _ hsc) orc).1 _ hp
  · have hsclt : sc < s.g.size := hs.valid _ _ hsc
    obtain ⟨hw, hsafe⟩ := (prepare_spec hs pr hsclt orc).2 l4 pushW hp
    rcases he with he | he | he <;> rw [he]
    · exact hsafe _
    · exact enqueue_safe hsafe
    · have hd : ∀ d, l4.refs.get (.dest d) = s.remote.get (.dest d) :=
        fun d => hw.dests (.dest d) (fun _ _ he => nomatch he)
      apply directMerge_safe hw.ok (hw.ext.lt hsclt)
      · exact (InclOn.extends hincl hs.valid hw.ext).of_same hd
      · exact targets_pairwise hs.sorted pr.dst
      · intro t ht b hb hbs
        obtain ⟨M, m, rfl⟩ := Dest.before_right_dev hb
        rw [hd] at hbs
        obtain ⟨c, hc⟩ := Option.isSome_iff_exists.mp hbs
        exact targets_closed ht hb (hs.devsOK M m c hc) rfl
      · exact hsafe
