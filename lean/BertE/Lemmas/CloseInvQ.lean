import BertE.Lemmas.CloseInvV
/-
Every event preserves `InvQ = InvV ∧ QSync`: the queue branch `q/<version>` sits on the queue commit of the newest
pull request queued on the version, or on the tip of the destination branch when nobody is queued on it.
-/
namespace BertE.Close
open BertE.Git BertE.Flow BertE.Select

structure InvQ (s : Sys) : Prop where
  invV : InvV s
  sync : QSync s

theorem close_getLast?_filter_keep {α : Type} {l : List α} {p r : α → Bool} {e : α}
    (h : (l.filter p).getLast? = some e) (hr : r e = true) :
    ((l.filter r).filter p).getLast? = some e := by
  obtain ⟨ys, hys⟩ := List.getLast?_eq_some_iff.mp h
  rw [close_filter_filter_comm, hys, List.filter_append, List.filter_cons_of_pos hr]
  exact List.getLast?_concat

theorem close_last_mem {s : Sys} {d : Dest} {e : QEntry} (h : (entriesOn s d).getLast? = some e) :
    e ∈ s.queue ∧ d ∈ e.targets := mem_entriesOn.mp (List.mem_of_getLast? h)

theorem close_all_selected {s : Sys} {sel : List Nat} (hdc : DownClosed s sel) {d : Dest} {e : QEntry}
    (hl : (entriesOn s d).getLast? = some e) (hsel : sel.contains e.pr = true) :
    ∀ e' ∈ entriesOn s d, sel.contains e'.pr = true := by
  obtain ⟨ys, hys⟩ := List.getLast?_eq_some_iff.mp hl
  have hpw : (entriesOn s d).Pairwise _ := List.Pairwise.sublist List.filter_sublist hdc
  intro e' he'
  have hd' := (mem_entriesOn.mp he').2
  rw [hys] at hpw he'
  rcases List.mem_append.mp he' with he' | he'
  · exact (List.pairwise_append.mp hpw).2.2 e' he' e List.mem_cons_self hsel ⟨d, hd', (close_last_mem hl).2⟩
  · rw [List.mem_singleton.mp he']; exact hsel

theorem close_qsync_of_noq {s : Sys} (h : ∀ d, s.remote.get (.q d) = none) : QSync s := by
  intro d q hq; rw [h] at hq; cases hq

theorem close_qsync_at {s s' : Sys} (h : QSync s) {d : Dest} {q : Commit} (hqd : s.remote.get (.q d) = some q)
    (hE : (entriesOn s' d).getLast? = (entriesOn s d).getLast?)
    (hqw : ∀ e, (entriesOn s d).getLast? = some e →
      s'.remote.get (.qw e.pr d e.src) = s.remote.get (.qw e.pr d e.src))
    (hdest : (entriesOn s d).getLast? = none → s'.remote.get (.dest d) = s.remote.get (.dest d)) :
    match (entriesOn s' d).getLast? with
    | some e => s'.remote.get (.qw e.pr d e.src) = some q
    | none => s'.remote.get (.dest d) = some q := by
  have := h d q hqd
  rw [hE]
  cases hl : (entriesOn s d).getLast? with
  | some e => rw [hl] at this; simp only at this ⊢; rw [hqw e hl]; exact this
  | none => rw [hl] at this; simp only at this ⊢; rw [hdest hl]; exact this

theorem close_qsync_transport {s s' : Sys} (hq : QInv s) (h : QSync s) (hqueue : s'.queue = s.queue)
    (hdest : ∀ d, (s'.remote.get (.q d)).isSome = true → s'.remote.get (.dest d) = s.remote.get (.dest d))
    (hqw : ∀ e ∈ s.queue, ∀ d, s'.remote.get (.qw e.pr d e.src) = s.remote.get (.qw e.pr d e.src))
    (hqq : ∀ d, s'.remote.get (.q d) = s.remote.get (.q d) ∨ s'.remote.get (.q d) = none ∨
      (s.remote.get (.q d) = none ∧ s'.remote.get (.q d) = s.remote.get (.dest d))) : QSync s' := by
  intro d q hqd
  have hE : entriesOn s' d = entriesOn s d := by unfold entriesOn; rw [hqueue]
  have hds := hdest d (by rw [hqd]; rfl)
  rcases hqq d with h1 | h1 | ⟨h1, h2⟩
  · exact close_qsync_at h (h1 ▸ hqd) (by rw [hE]) (fun e hl => hqw e (close_last_mem hl).1 d) (fun _ => hds)
  · rw [h1] at hqd; cases hqd
  · rw [hE, close_entriesOn_nil_of_noq hq h1]
    simp only [List.getLast?_nil]
    rw [hds, ← h2]; exact hqd

theorem TouchesW.qsync {s : Sys} {p : Plan} (hp : TouchesW s p) (hq : QInv s) (h : QSync s) : QSync (s.after p) :=
  close_qsync_transport hq h hp.1 (fun _ _ => hp.2 _ (fun _ _ he => by cases he))
    (fun _ _ _ => hp.2 _ (fun _ _ he => by cases he)) (fun _ => Or.inl (hp.2 _ (fun _ _ he => by cases he)))

theorem close_sync_foreign {s : Sys} (hq : QInv s) (h : QSync s) (g' : Graph) {r : Ref}
    (hr : (∀ d, r ≠ .dest d) ∧ (∀ d, r ≠ .q d) ∧ (∀ pr d src, r ≠ .qw pr d src)) {m' : RefMap}
    (hget : ∀ x, x ≠ r → m'.get x = s.remote.get x) : QSync { s with g := g', remote := m' } :=
  close_qsync_transport hq h rfl (fun d _ => hget _ (hr.1 d).symm) (fun _ _ _ => hget _ (hr.2.2 _ _ _).symm)
    (fun d => Or.inl (hget _ (hr.2.1 d).symm))

theorem close_planDropQueues_sync (s : Sys) : QSync (s.after (planDropQueues s)) :=
  close_qsync_of_noq (fun d => by rw [(close_planDropQueues_after s).1]; exact noq_after_drop _ d)

theorem close_createBranch_sync {s : Sys} (hq : QInv s) (h : QSync s) (d : Dest) (c : Commit)
    (habs : s.remote.get (.dest d) = none) : QSync (s.after (planCreateBranch s d c)) := by
  rcases close_planCreateBranch_after s d c habs with ⟨_, hrem, _⟩ | ⟨_, hrem, hqueue⟩
  · exact close_qsync_of_noq (fun d' => by rw [hrem]; exact noq_after_drop _ d')
  · refine close_qsync_transport hq h hqueue ?_ ?_ ?_
    · intro d' hs
      rw [hrem] at hs ⊢
      rw [RefMap.get_set_ne _ _ (by intro he; cases he)] at hs
      apply RefMap.get_set_ne
      intro he
      simp only [Ref.dest.injEq] at he
      subst he
      have := hq.qdest d' hs
      rw [habs] at this; cases this
    · intro e _ d'; rw [hrem]; exact RefMap.get_set_ne _ _ (by intro he; cases he)
    · intro d'; left; rw [hrem]; exact RefMap.get_set_ne _ _ (by intro he; cases he)

theorem close_deleteBranch_sync {s : Sys} (hq : QInv s) (h : QSync s) (d : Dest) :
    QSync (s.after (plan s (.deleteBranch d))) := by
  refine close_qsync_transport hq h rfl ?_ ?_ ?_
  · intro d' hs
    obtain ⟨_, _, hne⟩ := close_deleteBranch_sub hs
    exact close_deleteBranch_same (fun he => hne (by cases he; rfl)) (by intro he; cases he)
  · intro e _ d'
    exact close_deleteBranch_same (by intro he; cases he) (by intro he; cases he)
  · intro d'
    by_cases hd : d' = d
    · right; left; rw [close_deleteBranch_after, if_pos (Or.inr (by rw [hd]))]
    · left
      exact close_deleteBranch_same (by intro he; cases he) (fun he => hd (by cases he; rfl))

theorem close_planQueues_sync {s : Sys} (h : InvV s) (hy : QSync s) (sel : List Nat) (hdc : DownClosed s sel) :
    QSync (s.after (planQueues s sel)) := by
  by_cases hne : s.queue.filter (fun e => sel.contains e.pr) = []
  · rw [close_planQueues_nothing hne]; exact hy
  · obtain ⟨hqueue, hdest, hother⟩ := close_planQueues_after h.inv sel rfl hne
    have hE : ∀ d, entriesOn (s.after (planQueues s sel)) d =
        (s.queue.filter (fun e => !sel.contains e.pr)).filter (fun e => e.targets.contains d) := by
      intro d; unfold entriesOn; rw [hqueue]
    have hkeep : ∀ e ∈ s.queue, sel.contains e.pr = false → ∀ d,
        (s.after (planQueues s sel)).remote.get (.qw e.pr d e.src) = s.remote.get (.qw e.pr d e.src) := by
      intro e _ hns d
      rw [hother _ (fun _ he => by cases he), if_neg]
      intro hm
      obtain ⟨e', he', _, _, h' | h'⟩ := gone_mem hm
      · simp only [Ref.qw.injEq] at h'
        have := (List.mem_filter.mp he').2
        rw [← h'.1, hns] at this; cases this
      · cases h'
    intro d q hqd
    rw [hother _ (fun _ he => by cases he), if_neg (fun hm => by
      obtain ⟨_, _, _, _, h' | h'⟩ := gone_mem hm <;> cases h')] at hqd
    cases hl : (entriesOn s d).getLast? with
    | none =>
      -- nobody is queued on `d`, before or after, and no merged pull request moves its destination
      have hnil : ∀ r : QEntry → Bool, (s.queue.filter r).filter (fun e => e.targets.contains d) = [] := by
        intro r
        rw [close_filter_filter_comm, show s.queue.filter (fun e => e.targets.contains d) = [] from
          List.getLast?_eq_none_iff.mp hl, List.filter_nil]
      refine close_qsync_at hy hqd (by rw [hE, hnil, hl, List.getLast?_nil]) (fun e he => by rw [hl] at he; cases he) ?_
      intro _
      rw [hdest, close_lastTargeting_eq, hnil, List.getLast?_nil]
    | some e =>
      cases hsel : sel.contains e.pr with
      | false =>
        -- the newest pull request stays queued, with its queue commit
        refine close_qsync_at hy hqd ?_ (fun e' he' => ?_) (fun hn => by rw [hl] at hn; cases hn)
        · rw [hE, hl]; exact close_getLast?_filter_keep hl (by rw [hsel]; rfl)
        · rw [hl] at he'; cases he'
          exact hkeep e (close_last_mem hl).1 hsel d
      | true =>
        -- the newest pull request is merged, hence all of them: the destination moves to its queue commit
        have hyd := hy d q hqd
        rw [hl] at hyd
        have hnil : entriesOn (s.after (planQueues s sel)) d = [] := by
          rw [hE, List.filter_eq_nil_iff]
          intro a ha hd
          obtain ⟨haq, hns⟩ := List.mem_filter.mp ha
          rw [close_all_selected hdc hl hsel a (List.mem_filter.mpr ⟨haq, hd⟩)] at hns
          cases hns
        rw [hnil]
        simp only [List.getLast?_nil]
        rw [hdest, close_lastTargeting_eq, close_getLast?_filter_keep hl hsel]
        exact hyd

theorem close_enqueue_sync {s : Sys} (hs : s.WF) (hq : QInv s) (hy : QSync s) {orc : List Bool} {l4 : Loc}
    (hw : WOnly ⟨s.g, s.remote, orc⟩ l4) (pr : PrInfo) {pre : List Op} (hpre : PushesW pre)
    (hfresh : ∀ d ∈ s.targets pr.dst, s.remote.get (.qw pr.id d pr.src) = none)
    (hid : pr.id ∉ s.queue.map (·.pr)) :
    QSync (s.after (enqueue s l4 pr (s.targets pr.dst) pre)) := by
  obtain ⟨hdest, _, hcases⟩ := close_enqueue_after hs hw pr hpre hfresh rfl
  rcases hcases with ⟨hqueue, hqw, hqq⟩ | ⟨hqueue, hqw, hout, hin⟩
  · exact close_qsync_transport hq hy hqueue (fun d _ => hdest d) (fun _ _ _ => hqw _ _ _)
      (fun d => (hqq d).imp id (fun h => Or.inr ⟨h.2.1, h.2.2⟩))
  · intro d q hqd
    have hE : entriesOn (s.after (enqueue s l4 pr (s.targets pr.dst) pre)) d = entriesOn s d ++
        if (s.targets pr.dst).contains d then [⟨pr.id, pr.src, s.targets pr.dst⟩] else [] := by
      unfold entriesOn
      rw [hqueue, List.filter_append, List.filter_cons, List.filter_nil]
    by_cases hd : d ∈ s.targets pr.dst
    · rw [hE, if_pos (List.contains_iff_mem.mpr hd), List.getLast?_concat]
      simp only
      rw [← (hin d hd).2]; exact hqd
    · rw [hout d hd] at hqd
      refine close_qsync_at hy hqd ?_ (fun e he => hqw _ _ _ (fun hc => hid ?_)) (fun _ => hdest d)
      · rw [hE, if_neg (fun hc => hd (List.contains_iff_mem.mp hc)), List.append_nil]
      · rw [← hc.1]; exact List.mem_map_of_mem (f := fun x => x.pr) (close_last_mem he).1

theorem close_planPr_sync {s : Sys} (h : InvV s) (hy : QSync s) (pr : PrInfo) (stage : Stage) (orc : List Bool)
    (sel : List Nat) (hdown : alreadyQueued s pr = true → DownClosed s sel)
    (hidq : pr.id ∈ s.queue.map (·.pr) → alreadyQueued s pr = true) :
    QSync (s.after (planPr s pr stage orc sel)) := by
  have hq := h.inv.q
  refine close_planPr_cases h.inv.wf pr stage orc sel (P := fun p => QSync (s.after p)) ?_ ?_ ?_ ?_
  · intro p hp; exact hp.qsync hq hy
  · intro haq; exact close_planQueues_sync h hy sel (hdown haq)
  · intro l4 pushW hw hpw hnaq hfresh
    refine close_enqueue_sync h.inv.wf hq hy hw pr hpw hfresh (fun hin => ?_)
    rw [hidq hin] at hnaq; cases hnaq
  · intro l4 pushW sc hw hpw hsc hneed
    exact close_qsync_of_noq (close_directMerge_after h hw pr hpw hsc hneed).2.1

theorem close_step_sync {s : Sys} (h : InvV s) (hy : QSync s) (ev : Event) (hadm : Adm s ev) :
    QSync (step s ev).1 := by
  have hq := h.inv.q
  cases ev with
  | evalPr pr stage orc sel => exact close_planPr_sync h hy pr stage orc sel (fun _ => hadm.1) hadm.2
  | evalDeclined pr cd => exact (close_planDeclined_touchesW s pr cd).qsync hq hy
  | reset pr => exact (close_planReset_touchesW s pr).qsync hq hy
  | evalQueues sel => exact close_planQueues_sync h hy sel hadm
  | dropQueues => exact close_planDropQueues_sync s
  | createBranch d c =>
    obtain ⟨_, habs, _⟩ := hadm
    have := close_createBranch_sync hq hy d c habs
    cases d <;> exact this
  | deleteBranch d =>
    have := close_deleteBranch_sync hq hy d
    cases d <;> exact this
  | extSet n ps t => exact close_sync_foreign hq hy _ (other_foreign n) (fun _ h => RefMap.get_set_ne _ _ h)
  | extW d src =>
    simp only [step]
    split
    · exact close_sync_foreign hq hy _ (w_foreign d src) (fun _ h => RefMap.get_set_ne _ _ h)
    · exact hy
  | extDelete n => exact close_sync_foreign hq hy s.g (other_foreign n) (fun _ h => RefMap.get_del_ne _ h)
  | extPoint n c => exact close_sync_foreign hq hy s.g (other_foreign n) (fun _ h => RefMap.get_set_ne _ c h)

theorem close_stepQ_inv {s : Sys} (h : InvQ s) (ev : EventB) (hadm : AdmV s ev) :
    InvQ (step s (ev.toEvent s)).1 := by
  refine ⟨close_stepV_inv h.invV ev hadm, ?_⟩
  have hval := close_validated_of_invV h.invV
  cases ev with
  | queues b force =>
    exact close_planQueues_sync h.invV h.sync _ (downClosed_selectOf h.invV.inv hval b force)
  | pr b p stage orc =>
    exact close_planPr_sync h.invV h.sync p stage orc _
      (fun _ => downClosed_selectOf h.invV.inv hval b false) hadm.2
  | other ev => exact close_step_sync h.invV h.sync ev hadm.1

theorem close_runQ_inv : ∀ (evs : List EventB) {s : Sys}, InvQ s → AdmAllV s evs → InvQ (runB s evs)
  | [], _, h, _ => h
  | ev :: evs, _, h, hadm => close_runQ_inv evs (close_stepQ_inv h ev hadm.1) hadm.2

theorem close_invQ_init (useQueue skipQueue : Bool) : InvQ ⟨Graph.empty, [], [], [], [], useQueue, skipQueue⟩ :=
  ⟨close_invV_init useQueue skipQueue, close_qsync_of_noq (fun _ => rfl)⟩

theorem close_exSys_invQ : InvQ exSys := close_runQ_inv exHistory (close_invQ_init true false) close_exHistory_admV

end BertE.Close
