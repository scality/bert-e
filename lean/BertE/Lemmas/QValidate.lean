import BertE.Model.QValidate
import BertE.Lemmas.Queue
/- Soundness of the modelled `QueueCollection.validate()` on arbitrary `q/*` refs: a collection that passes is
   `Validated`. -/
namespace BertE.QV
open BertE.Git BertE.Flow

theorem qv_ite_nil {α : Type} {b : Bool} {e : α} (h : (if b = true then ([] : List α) else [e]) = []) : b = true := by
  cases b with
  | true => rfl
  | false => simp at h

theorem qv_chain_ok {g : Graph} (hg : g.WF) {dst : Option Commit} : ∀ (l : List QInt) (next : Commit),
    chainErrs g dst next l = [] →
    ∃ t, dst = some t ∧ g.le t next = true ∧ (∀ x ∈ l, g.le t x.tip = true ∧ g.le x.tip next = true) ∧
      l.Pairwise (fun a b => g.le b.tip a.tip = true)
  | [], next, h => by
    simp only [chainErrs] at h
    have h' := qv_ite_nil h
    cases dst with
    | none => simp [includesOpt] at h'
    | some t => exact ⟨t, rfl, h', (fun _ hx => nomatch hx), List.Pairwise.nil⟩
  | x :: xs, next, h => by
    simp only [chainErrs, List.append_eq_nil_iff] at h
    obtain ⟨h1, h2⟩ := h
    have hx : g.le x.tip next = true := qv_ite_nil h1
    obtain ⟨t, hd, htx, hall, hpw⟩ := qv_chain_ok hg xs x.tip h2
    refine ⟨t, hd, le_trans hg htx hx, ?_, ?_⟩
    · intro y hy
      rcases List.mem_cons.mp hy with rfl | hy'
      · exact ⟨htx, hx⟩
      · exact ⟨(hall y hy').1, le_trans hg (hall y hy').2 hx⟩
    · exact List.Pairwise.cons (fun y hy => (hall y hy).2) hpw

/-- what `_horizontal_validation` without error establishes for one version -/
structure HOK (g : Graph) (remote : RefMap) (v : VQ) : Prop where
  master : v.master.isSome = true
  dst : ∃ t, remote.get (.dest v.d) = some t ∧ ∀ x ∈ v.ints, g.le t x.tip = true
  chain : v.ints.Pairwise (fun a b => g.le b.tip a.tip = true)

theorem qv_horizontal_ok {g : Graph} (hg : g.WF) {remote : RefMap} {v : VQ}
    (h : horizontal g remote v = .ok []) : HOK g remote v := by
  unfold horizontal at h
  split at h
  · simp only [missing] at h
    split at h <;> cases h
  · next mq hm =>
    have hmaster : v.master.isSome = true := by rw [hm]; rfl
    split at h
    · next hi =>
      simp only at h
      split at h
      · cases h
      · next t hd =>
        exact ⟨hmaster, ⟨t, hd, fun x hx => by rw [hi] at hx; cases hx⟩, by rw [hi]; exact List.Pairwise.nil⟩
    · simp only [Except.ok.injEq, List.append_eq_nil_iff] at h
      obtain ⟨t, hd, _, hall, hpw⟩ := qv_chain_ok hg v.ints mq h.2
      exact ⟨hmaster, ⟨t, hd, fun x hx => (hall x hx).1⟩, hpw⟩

/-- the error lists of two passes are appended: no error and no exception means none in either pass -/
theorem qv_seq_ok {a b : Except String (List Err)}
    (h : (match a with
      | .error e => .error e
      | .ok l =>
        match b with
        | .error e => .error e
        | .ok l' => .ok (l ++ l')) = Except.ok []) : a = .ok [] ∧ b = .ok [] := by
  cases a with
  | error e => cases h
  | ok l =>
    cases b with
    | error e => cases h
    | ok l' =>
      simp only [Except.ok.injEq, List.append_eq_nil_iff] at h
      rw [h.1, h.2]
      exact ⟨rfl, rfl⟩

theorem qv_horizAll_ok {g : Graph} (hg : g.WF) {remote : RefMap} : ∀ (c : Coll),
    horizAll g remote c = .ok [] → ∀ v ∈ c, HOK g remote v
  | [], _, _, hv => nomatch hv
  | v :: vs, h, w, hw => by
    obtain ⟨h1, h2⟩ := qv_seq_ok h
    rcases List.mem_cons.mp hw with rfl | hw'
    · exact qv_horizontal_ok hg h1
    · exact qv_horizAll_ok hg vs h2 w hw'

def Covers (g : Graph) (top low : List QInt) : Prop :=
  ∀ x ∈ low, ∃ z ∈ top, z.pr = x.pr ∧ g.le x.tip z.tip = true

theorem Covers.mono {g : Graph} {top top' low : List QInt} (h : Covers g top low) (hs : ∀ z ∈ top, z ∈ top') :
    Covers g top' low := by
  intro x hx
  obtain ⟨z, hz, h1, h2⟩ := h x hx
  exact ⟨z, hs z hz, h1, h2⟩

theorem Covers.trans {g : Graph} (hg : g.WF) {a b c : List QInt} (h1 : Covers g a b) (h2 : Covers g b c) :
    Covers g a c := by
  intro x hx
  obtain ⟨y, hy, hp, hl⟩ := h2 x hx
  obtain ⟨z, hz, hp', hl'⟩ := h1 y hy
  exact ⟨z, hz, hp'.trans hp, le_trans hg hl hl'⟩

theorem Covers.nil (g : Graph) (top : List QInt) : Covers g top [] := fun _ h => nomatch h

def lvInts (e : Level) : List QInt := e.ints.getD []

def Good (g : Graph) : List QInt → List Level → Prop
  | _, [] => True
  | top, e :: rest => Covers g top (lvInts e) ∧ Good g (lvInts e) rest

def AllEmpty (ls : List Level) : Prop := ∀ e ∈ ls, lvInts e = []

def NoHf (ds : List Dest) : Prop := ∀ d ∈ ds, verLen d ≠ 4

theorem qv_allEmpty_good (g : Graph) : ∀ (ls : List Level) (top : List QInt), AllEmpty ls → Good g top ls
  | [], _, _ => trivial
  | e :: rest, top, h =>
    ⟨(h e List.mem_cons_self).symm ▸ Covers.nil g top,
      qv_allEmpty_good g rest _ fun x hx => h x (List.mem_cons_of_mem _ hx)⟩

theorem Good.mono {g : Graph} {top top' : List QInt} (hs : ∀ z ∈ top, z ∈ top') :
    ∀ {ls : List Level}, Good g top ls → Good g top' ls
  | [], _ => trivial
  | _ :: _, h => ⟨h.1.mono hs, h.2⟩

theorem qv_descend_ds (g : Graph) (pr : Nat) : ∀ (ls : List Level) (next : QInt),
    (descend g pr next ls).1.map (·.d) = ls.map (·.d)
  | [], _ => rfl
  | e :: rest, next => by
    unfold descend
    split
    · rfl
    · split
      · simp only [List.map_cons, qv_descend_ds g pr rest next]
      · split
        · split
          · simp only [List.map_cons, qv_descend_ds g pr rest _]
          · rfl
        · rfl

theorem qv_descend_good {g : Graph} {pr : Nat} : ∀ (ls : List Level) (next : QInt) (T : List QInt)
    (ls1 : List Level), NoHf (ls.map (·.d)) → descend g pr next ls = (ls1, []) → next.pr = pr →
    Good g T ls1 → Good g (next :: T) ls
  | [], _, _, _, _, _, _, _ => trivial
  | e :: rest, next, T, ls1, hnh, hd, hpr, hgood => by
    have hmono : ∀ z ∈ T, z ∈ next :: T := fun z hz => List.mem_cons_of_mem _ hz
    -- the loop stops at `e`: nothing has changed
    have hbreak : (e :: rest, ([] : List Err)) = (ls1, []) → Good g (next :: T) (e :: rest) := fun h => by
      cases h; exact hgood.mono hmono
    have hne : (verLen e.d == 4) = false := by simpa using hnh e.d (by simp)
    unfold descend at hd
    split at hd
    · exact hbreak hd
    · next ints hi =>
      simp only [hne, Bool.false_eq_true, if_false] at hd
      split at hd
      · next x xs =>
        split at hd
        · next hx =>
          simp only [Prod.mk.injEq, List.append_eq_nil_iff] at hd
          obtain ⟨rfl, hle, hr2⟩ := hd
          obtain ⟨hc, hg2⟩ := hgood
          have hrest : Good g (x :: xs) rest :=
            qv_descend_good rest x xs _ (fun d hd => hnh d (List.mem_cons_of_mem _ hd)) (Prod.ext rfl hr2) hx hg2
          simp only [Good, lvInts, hi, Option.getD_some]
          refine ⟨?_, hrest⟩
          intro y hy
          rcases List.mem_cons.mp hy with rfl | hy'
          · exact ⟨next, List.mem_cons_self, hpr.trans hx.symm, qv_ite_nil hle⟩
          · exact (hc.mono hmono) y hy'
        · exact hbreak hd
      · exact hbreak hd

theorem qv_while_ds (g : Graph) : ∀ (L : List QInt) (ls : List Level) (prs : List Nat),
    (whileLoop g L ls prs).2.1.map (·.d) = ls.map (·.d)
  | [], _, _ => rfl
  | x :: xs, ls, prs => by
    unfold whileLoop
    split
    · rfl
    · simp only
      rw [qv_while_ds g xs _ _, qv_descend_ds]

theorem qv_while_good {g : Graph} : ∀ (L : List QInt) (ls : List Level) (prs : List Nat),
    NoHf (ls.map (·.d)) → (whileLoop g L ls prs).2.2.2 = [] → (whileLoop g L ls prs).1 = [] →
    AllEmpty (whileLoop g L ls prs).2.1 → Good g L ls
  | [], ls, _, _, _, _, hae => by
    simp only [whileLoop] at hae
    exact qv_allEmpty_good g ls [] hae
  | x :: xs, ls, prs, hnh, herr, hrest, hae => by
    unfold whileLoop at herr hrest hae
    by_cases hc : prs.contains x.pr = true
    · simp only [hc, Bool.not_true, Bool.false_eq_true, if_false, List.append_eq_nil_iff] at herr hrest hae
      have hnh' : NoHf ((descend g x.pr x ls).1.map (·.d)) := by rw [qv_descend_ds]; exact hnh
      have ih := qv_while_good xs (descend g x.pr x ls).1 (prs.erase x.pr) hnh' herr.2 hrest hae
      exact qv_descend_good ls x xs _ hnh (Prod.ext rfl herr.1) rfl ih
    · simp only [hc, Bool.not_false, if_true] at herr hrest hae
      subst hrest
      exact qv_allEmpty_good g ls [x] hae

theorem qv_good_pairwise {g : Graph} (hg : g.WF) : ∀ (ls : List Level) (top : List QInt), Good g top ls →
    (top :: ls.map lvInts).Pairwise (Covers g)
  | [], _, _ => by simp
  | e :: rest, top, h => by
    have ih := qv_good_pairwise hg rest (lvInts e) h.2
    rw [List.map_cons]
    refine List.Pairwise.cons ?_ ih
    intro y hy
    rcases List.mem_cons.mp hy with rfl | hy'
    · exact h.1
    · exact Covers.trans hg h.1 ((List.pairwise_cons.mp ih).1 y hy')

theorem qv_firstLoop_last {stack : Coll} {last : Dest} (hl : stack.find? (fun v => v.d == last) = none) :
    ∀ (pre : List Dest) (hq : Bool), firstLoop stack false (pre ++ [last]) hq = [] →
      hq = false ∧ ∀ d ∈ pre, stack.find? (fun v => v.d == d) = none
  | [], hq, h => by
    simp only [List.nil_append, firstLoop, hl, List.append_nil] at h
    cases hq with
    | false => exact ⟨rfl, fun _ hd => nomatch hd⟩
    | true => simp at h
  | d :: pre, hq, h => by
    simp only [List.cons_append, firstLoop] at h
    split at h
    · next hf =>
      obtain ⟨h1, h2⟩ := qv_firstLoop_last hl pre hq (List.append_eq_nil_iff.mp h).2
      exact ⟨h1, List.forall_mem_cons.mpr ⟨hf, h2⟩⟩
    · cases (qv_firstLoop_last hl pre true (List.append_eq_nil_iff.mp h).2).1

theorem qv_skipHf_noHf : ∀ (ls : List Level) (prs : List Nat), NoHf (ls.map (·.d)) → skipHf ls prs = (ls, prs)
  | [], _, _ => rfl
  | e :: rest, prs, h => by
    have hne : (verLen e.d == 4) = false := by simpa using h e.d (by simp)
    have ih := qv_skipHf_noHf rest prs (fun d hd => h d (List.mem_cons_of_mem _ hd))
    unfold skipHf
    cases hi : e.ints with
    | none => simp only [ih]
    | some ints => simp only [hne, Bool.false_eq_true, if_false, ih]

theorem qv_leftOver_nil {ls : List Level} (h : leftOver ls = []) : ∀ e ∈ ls, lvInts e = [] := by
  intro e he
  have := List.flatMap_eq_nil_iff.mp h e he
  unfold lvInts
  match hi : e.ints with
  | some (_ :: _) => rw [hi] at this; cases this
  | some [] => rfl
  | none => rfl

theorem qv_lvInts_levelOf (stack : Coll) (d : Dest) : lvInts (levelOf stack d) = intsOf stack d := by
  unfold lvInts levelOf intsOf
  cases stack.find? (fun v => v.d == d) <;> rfl

theorem qv_intsOf_cons (v : VQ) (vs : Coll) (d : Dest) :
    intsOf (v :: vs) d = if v.d = d then v.ints else intsOf vs d := by
  unfold intsOf
  by_cases h : v.d = d
  · rw [List.find?_cons_of_pos (by simpa using h), if_pos h]
  · rw [List.find?_cons_of_neg (by simpa using h), if_neg h]

/-- `_vertical_validation` without error on a path without hotfix version: along the path, every
    queue-integration branch of a version has, on every later version, one of the same pull request that
    contains it. -/
theorem qv_vertical_ok {g : Graph} (hg : g.WF) {stack : Coll} {versions : List Dest} (hnh : NoHf versions)
    (hstack : ∀ v ∈ stack, v.d ∈ versions) (h : vertical g stack versions = .ok []) :
    versions.Pairwise (fun a b => Covers g (intsOf stack b) (intsOf stack a)) := by
  unfold vertical at h
  cases hlast : versions.getLast? with
  | none => rw [hlast] at h; cases h
  | some last =>
    rw [hlast] at h
    obtain ⟨pre, rfl⟩ := List.getLast?_eq_some_iff.mp hlast
    have hhf : hfDetected stack = false := by
      match stack, hstack with
      | [], _ => rfl
      | [v], hstack => simpa [hfDetected] using hnh v.d (hstack v List.mem_cons_self)
      | _ :: _ :: _, _ => rfl
    simp only [hhf, List.dropLast_concat] at h
    split at h
    · cases h
    -- the claim, read from the last version of the path downwards
    suffices hs : ((last :: pre.reverse).map (intsOf stack)).Pairwise (Covers g) by
      have hrev : (pre ++ [last]).reverse = last :: pre.reverse := by simp
      exact List.pairwise_reverse.mp (hrev ▸ List.pairwise_map.mp hs)
    cases hf : stack.find? (fun v => v.d == last) with
    | none =>
      rw [hf] at h
      simp only [Except.ok.injEq, List.map_eq_nil_iff] at h
      obtain ⟨_, hnone⟩ := qv_firstLoop_last hf _ _ h
      apply List.pairwise_of_forall_mem_list
      intro a _ b hb
      obtain ⟨d, hd, rfl⟩ := List.mem_map.mp hb
      have : stack.find? (fun v => v.d == d) = none := by
        rcases List.mem_cons.mp hd with rfl | hd
        · exact hf
        · exact hnone d (List.mem_reverse.mp hd)
      unfold intsOf
      rw [this]
      exact Covers.nil _ _
    | some lv =>
      rw [hf] at h
      simp only [Except.ok.injEq, List.append_eq_nil_iff] at h
      obtain ⟨⟨_, hwerr⟩, hfin⟩ := h
      have hlds : (pre.reverse.map (levelOf stack)).map (·.d) = pre.reverse := by
        rw [List.map_map]; exact List.map_id _
      have hnhl : NoHf ((pre.reverse.map (levelOf stack)).map (·.d)) := by
        rw [hlds]
        exact fun d hd => hnh d (List.mem_append_left _ (List.mem_reverse.mp hd))
      generalize hw : whileLoop g lv.ints (pre.reverse.map (levelOf stack)) (extractPrIds stack) = w
        at hwerr hfin
      have hwds : w.2.1.map (·.d) = pre.reverse := by rw [← hw, qv_while_ds, hlds]
      rw [qv_skipHf_noHf] at hfin
      · split at hfin
        · cases hfin
        have hemp := qv_leftOver_nil hfin
        have hgood := qv_while_good _ _ (extractPrIds stack) hnhl (by rw [hw]; exact hwerr)
          (by rw [hw]; simpa [lvInts] using hemp ⟨last, some w.1⟩ (by simp))
          (by rw [hw]; exact fun e he => hemp e (by simp [he]))
        have hpw := qv_good_pairwise hg _ _ hgood
        have hlvi : lv.ints = intsOf stack last := by unfold intsOf; rw [hf]
        have hmap : (pre.reverse.map (levelOf stack)).map lvInts = pre.reverse.map (intsOf stack) := by
          rw [List.map_map]
          exact List.map_congr_left fun d _ => qv_lvInts_levelOf stack d
        rwa [hlvi, hmap] at hpw
      · intro d hd
        simp only [List.map_append, List.map_reverse, hwds, List.map_cons, List.map_nil, List.mem_append,
          List.mem_reverse, List.mem_singleton] at hd
        exact hnh d (by simpa [or_comm] using hd)

/-- every stabilization branch on the remote has its development branch (`BranchCascade.validate`:
    `DevBranchDoesNotExist`; `create_branch` / `delete_branch` refuse to break it) -/
def CascadeOK (s : Sys) : Prop :=
  ∀ M m u, (s.remote.get (.dest (.stab M m u))).isSome = true →
    (s.remote.get (.dest (.dev M (some m)))).isSome = true

theorem qv_sublist_of_sorted : ∀ {l : List Dest}, l.Pairwise (fun a b => a.before b = true) → ∀ {a b : Dest},
    a ∈ l → b ∈ l → a.before b = true → [a, b].Sublist l
  | [], _, _, _, ha, _, _ => nomatch ha
  | x :: xs, hp, a, b, ha, hb, hab => by
    rw [List.pairwise_cons] at hp
    rcases List.mem_cons.mp ha with rfl | ha'
    · rcases List.mem_cons.mp hb with rfl | hb'
      · rw [Dest.before_irrefl] at hab; cases hab
      · exact List.Sublist.cons_cons _ (List.singleton_sublist.mpr hb')
    · rcases List.mem_cons.mp hb with rfl | hb'
      · have := hp.1 a ha'
        rw [Dest.before_asymm hab] at this; cases this
      · exact List.Sublist.cons _ (qv_sublist_of_sorted hp.2 ha' hb' hab)

theorem qv_devs_pairwise {ks : List Key} (h : SortedKeys ks) :
    (ks.map (fun k => Dest.dev k.1 k.2)).Pairwise (fun a b => a.before b = true) := by
  rw [List.pairwise_map]
  exact h.imp (fun {a b} h => by simpa [Dest.before] using h)

theorem qv_mem_devsPresent {s : Sys} (hs : s.WF) {M : Nat} {m : Option Nat}
    (h : (s.remote.get (.dest (.dev M m))).isSome = true) : (M, m) ∈ devsPresent s := by
  obtain ⟨c, hc⟩ := Option.isSome_iff_exists.mp h
  exact List.mem_filter.mpr ⟨hs.devsOK M m c hc, by simp [RefMap.has, hc]⟩

theorem qv_mem_stabsPresent {remote : RefMap} {M m u : Nat}
    (h : (remote.get (.dest (.stab M m u))).isSome = true) : (M, m, u) ∈ stabsPresent remote := by
  obtain ⟨c, hc⟩ := Option.isSome_iff_exists.mp h
  refine List.mem_filterMap.mpr ⟨.dest (.stab M m u), ?_, by simp [RefMap.has, h]⟩
  exact List.mem_eraseDups.mpr (List.mem_map.mpr ⟨(_, c), RefMap.get_mem hc, rfl⟩)

theorem qv_stabPaths_mem {stabs : List (Nat × Nat × Nat)} {k : Key} {st : Nat × Nat × Nat}
    {tl : List (Nat × Nat × Nat)} (hst : stabsFor stabs k = st :: tl) : ∀ (devs : List Key), k ∈ devs →
    ∃ pre ks, devs = pre ++ k :: ks ∧
      (Dest.stab st.1 st.2.1 st.2.2 :: (k :: ks).map (fun k => Dest.dev k.1 k.2)) ∈ stabPaths stabs devs
  | [], h => nomatch h
  | x :: xs, h => by
    by_cases hx : k = x
    · subst hx
      refine ⟨[], xs, rfl, ?_⟩
      simp only [stabPaths, hst]
      exact List.mem_append_left _ (List.mem_singleton.mpr rfl)
    · obtain ⟨pre, ks, he, hm⟩ := qv_stabPaths_mem hst xs ((List.mem_cons.mp h).resolve_left hx)
      refine ⟨x :: pre, ks, by rw [he]; rfl, ?_⟩
      simp only [stabPaths]
      exact List.mem_append_right _ hm

theorem qv_paths_noHf (devs : List Key) (stabs : List (Nat × Nat × Nat)) :
    ∀ p ∈ mergePaths devs stabs, NoHf p := by
  have hdev : ∀ (ks : List Key), NoHf (ks.map (fun k => Dest.dev k.1 k.2)) := by
    intro ks d hd
    obtain ⟨k, _, rfl⟩ := List.mem_map.mp hd
    simp [verLen]
  have hstab : ∀ (ks : List Key), ∀ p ∈ stabPaths stabs ks, NoHf p := by
    intro ks
    induction ks with
    | nil => intro p hp; cases hp
    | cons k ks ih =>
      intro p hp
      simp only [stabPaths] at hp
      rcases List.mem_append.mp hp with h | h
      · split at h
        · rw [List.mem_singleton.mp h]
          intro d hd
          rcases List.mem_cons.mp hd with rfl | hd'
          · simp [verLen]
          · exact hdev (k :: ks) d hd'
        · cases h
      · exact ih p h
  intro p hp
  rcases List.mem_cons.mp hp with rfl | h
  · exact hdev devs
  · exact hstab devs p h

theorem qv_path_of_before {s : Sys} (hs : s.WF) (hc : CascadeOK s)
    (hms : multipleStabs (stabsPresent s.remote) = false) {a b : Dest} (hab : a.before b = true)
    (ha : (s.remote.get (.dest a)).isSome = true) (hb : (s.remote.get (.dest b)).isSome = true) :
    ∃ p ∈ mergePaths (devsPresent s) (stabsPresent s.remote), [a, b].Sublist p := by
  have hsorted : SortedKeys (devsPresent s) := hs.sorted.sublist List.filter_sublist
  obtain ⟨M', m', rfl⟩ := Dest.before_right_dev hab
  have hkb : (M', m') ∈ devsPresent s := qv_mem_devsPresent hs hb
  cases a with
  | hotfix M m u => cases hab
  | dev M m =>
    exact ⟨_, List.mem_cons_self, qv_sublist_of_sorted (qv_devs_pairwise hsorted)
      (List.mem_map.mpr ⟨(M, m), qv_mem_devsPresent hs ha, rfl⟩) (List.mem_map.mpr ⟨(M', m'), hkb, rfl⟩) hab⟩
  | stab M m u =>
    have hk : (M, some m) ∈ devsPresent s := qv_mem_devsPresent hs (hc M m u ha)
    have hst : (M, m, u) ∈ stabsPresent s.remote := qv_mem_stabsPresent ha
    have hin : (M, m, u) ∈ stabsFor (stabsPresent s.remote) (M, some m) :=
      List.mem_filter.mpr ⟨hst, by simp⟩
    have hlen : ¬ (stabsFor (stabsPresent s.remote) (M, some m)).length > 1 := by
      simpa using List.any_eq_false.mp hms (M, m, u) hst
    match hsf : stabsFor (stabsPresent s.remote) (M, some m), hin, hlen with
    | [st], hin, _ =>
      obtain rfl := List.mem_singleton.mp hin
      obtain ⟨pre, ks, he, hm⟩ := qv_stabPaths_mem hsf (devsPresent s) hk
      refine ⟨_, List.mem_cons_of_mem _ hm, List.Sublist.cons_cons _ (List.singleton_sublist.mpr ?_)⟩
      -- (M', m') is not before (M, some m): it is in the suffix
      rw [he] at hkb hsorted
      rcases List.mem_append.mp hkb with hpre | hsuf
      · exfalso
        have hlt : keyLt (M', m') (M, some m) = true :=
          (List.pairwise_append.mp hsorted).2.2 _ hpre _ List.mem_cons_self
        simp only [Dest.before, keyLe, Bool.or_eq_true, beq_iff_eq] at hab
        rcases hab with heq | hlt'
        · rw [heq, keyLt_irrefl] at hlt; cases hlt
        · rw [keyLt_asymm hlt'] at hlt; cases hlt
      · exact List.mem_map.mpr ⟨(M', m'), hsuf, rfl⟩
    | _ :: _ :: _, _, hlen => simp at hlen

theorem qv_find_filter (p : List Dest) {d : Dest} (hd : d ∈ p) (c : Coll) :
    (c.filter (fun v => p.contains v.d)).find? (fun v => v.d == d) = c.find? (fun v => v.d == d) := by
  rw [List.find?_filter]
  congr 1
  funext v
  by_cases hv : v.d = d
  · simp [hv, hd]
  · simp [hv]

theorem qv_intsOf_filter (p : List Dest) {d : Dest} (hd : d ∈ p) (c : Coll) :
    intsOf (c.filter (fun v => p.contains v.d)) d = intsOf c d := by
  unfold intsOf
  rw [qv_find_filter p hd]

theorem qv_vertAll_ok {g : Graph} {c : Coll} : ∀ (paths : List (List Dest)), vertAll g c paths = .ok [] →
    ∀ p ∈ paths, vertical g (c.filter (fun v => p.contains v.d)) p = .ok []
  | [], _, _, hp => nomatch hp
  | q :: qs, h, p, hp => by
    obtain ⟨h1, h2⟩ := qv_seq_ok h
    rcases List.mem_cons.mp hp with rfl | hp'
    · exact h1
    · exact qv_vertAll_ok qs h2 p hp'

/-- what a passing `validate()` means, for any collection -/
structure Validated (s : Sys) (c : Coll) : Prop where
  horiz : ∀ v ∈ c, HOK s.g s.remote v
  vert : ∀ a b, a.before b = true → (s.remote.get (.dest a)).isSome = true →
    (s.remote.get (.dest b)).isSome = true → Covers s.g (intsOf c b) (intsOf c a)

/-- soundness of `validate()` (DESIGN section 6, C01: "validate qs = ok → Consistent qs") -/
theorem qv_validate_sound {s : Sys} (hs : s.WF) (hc : CascadeOK s) {c : Coll} {paths : List (List Dest)}
    (hp : cascadePaths s = some paths) (hv : validate s.g s.remote c paths = .ok []) : Validated s c := by
  unfold cascadePaths at hp
  simp only at hp
  split at hp
  · cases hp
  next hms =>
  simp only [Bool.not_eq_true] at hms
  cases hp
  unfold validate at hv
  cases c with
  | nil => exact ⟨(fun _ h => nomatch h), fun a b _ _ _ => Covers.nil _ _⟩
  | cons v vs =>
    obtain ⟨hH, hV⟩ := qv_seq_ok hv
    refine ⟨qv_horizAll_ok hs.g _ hH, fun a b hab ha hb => ?_⟩
    obtain ⟨p, hpm, hsub⟩ := qv_path_of_before hs hc hms hab ha hb
    have hpw := qv_vertical_ok hs.g (qv_paths_noHf _ _ p hpm)
      (fun v hv => by simpa using (List.mem_filter.mp hv).2) (qv_vertAll_ok _ hV p hpm)
    have := (List.pairwise_cons.mp (hpw.sublist hsub)).1 b List.mem_cons_self
    rwa [qv_intsOf_filter p (hsub.subset List.mem_cons_self),
      qv_intsOf_filter p (hsub.subset (List.mem_cons_of_mem _ List.mem_cons_self))] at this

end BertE.QV
