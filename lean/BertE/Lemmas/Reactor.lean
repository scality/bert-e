import BertE.Model.Reactor
/- Lemmas about the comment reactor model (`Model/Reactor.lean`), stated for arbitrary tokenizers. -/
namespace BertE.Reactor

theorem State.get_set_self (st : State) (k : String) (v : Val) : (st.set k v).get k = some v := by
  simp [State.get, State.set]

theorem State.get_set_ne (st : State) (k k' : String) (v : Val) (h : k' ≠ k) :
    (st.set k v).get k' = st.get k' := by
  have hk : (k == k') = false := by simpa using fun e => h e.symm
  -- looking for `k'` among the entries other than `k` is looking for `k'`
  simp only [State.get, State.set, List.find?_cons, hk, List.find?_filter]
  congr 2
  funext p
  by_cases hp : p.1 = k' <;> simp [hp, h]

theorem Registry.findOpt_some {reg : Registry} {k : String} {o : OptSpec} (h : reg.findOpt k = some o) :
    o ∈ reg.options ∧ o.name = k := by
  unfold Registry.findOpt at h
  exact ⟨List.mem_of_find?_eq_some h, by simpa using List.find?_some h⟩

theorem Registry.dispatch_opt {reg : Registry} {k : String} {o : OptSpec} :
    reg.dispatch k = .opt o ↔ reg.findOpt k = some o := by
  unfold Registry.dispatch
  cases h : reg.findOpt k with
  | some o' => simp
  | none => cases h' : reg.findCmd k <;> simp

theorem Registry.dispatch_unknown {reg : Registry} {k : String} :
    reg.dispatch k = .unknown ↔ reg.findOpt k = none ∧ reg.findCmd k = none := by
  unfold Registry.dispatch
  cases h : reg.findOpt k with
  | some o' => simp
  | none => cases h' : reg.findCmd k <;> simp

theorem Registry.dispatch_cmd {reg : Registry} {k : String} {c : CmdSpec} :
    reg.dispatch k = .cmd c ↔ reg.findOpt k = none ∧ reg.findCmd k = some c := by
  unfold Registry.dispatch
  cases h : reg.findOpt k with
  | some o' => simp
  | none => cases h' : reg.findCmd k <;> simp

theorem initState_get (reg : Registry) (k : String) :
    (initState reg).get k = (reg.findOpt k).map (·.dflt) := by
  unfold initState Registry.findOpt State.get
  induction reg.options with
  | nil => rfl
  | cons o os ih =>
    simp only [List.map, List.find?]
    cases h : (o.name == k) with
    | true => rfl
    | false => exact ih

theorem findOpt_withCmdLine (reg : Registry) (keys : List String) (k : String) :
    (reg.withCmdLine keys).findOpt k = (reg.findOpt k).map (fun o =>
      if o.cmdline && keys.contains o.name then { o with dflt := .bool true } else o) := by
  unfold Registry.withCmdLine Registry.findOpt
  simp only
  induction reg.options with
  | nil => rfl
  | cons o os ih =>
    simp only [List.map_cons, List.find?_cons]
    have hn : (if o.cmdline && keys.contains o.name then { o with dflt := Val.bool true } else o).name = o.name := by
      split <;> rfl
    rw [hn]
    cases (o.name == k) with
    | true => rfl
    | false => exact ih

/-- the handler writes the key of its own option -/
def OwnKey (o : OptSpec) : Prop := o.handler = .afterPR → o.name = "after_pull_request"

theorem applyOption_ok {o : OptSpec} {st st' : State} {args : List String} (h : applyOption o st args = .ok st') :
    (o.handler = .setOpt ∧ ∃ v, st' = st.set o.name v) ∨
    (o.handler = .afterPR ∧ (st' = st ∨ ∃ xs, st' = st.set "after_pull_request" (.set xs))) := by
  revert h
  fun_cases applyOption o st args
  all_goals
    intro h
    cases h
  -- the four calls that succeed: `key`, `key=a`, `after_pull_request=<number>`, `after_pull_request=<other>`
  · exact Or.inl ⟨‹_›, _, rfl⟩
  · exact Or.inl ⟨‹_›, _, rfl⟩
  · exact Or.inr ⟨‹_›, Or.inr ⟨_, rfl⟩⟩
  · exact Or.inr ⟨‹_›, Or.inl rfl⟩

theorem applyOption_frame {o : OptSpec} {st st' : State} {args : List String} (hown : OwnKey o)
    (h : applyOption o st args = .ok st') (k : String) (hk : k ≠ o.name) : st'.get k = st.get k := by
  rcases applyOption_ok h with ⟨_, v, rfl⟩ | ⟨hh, rfl | ⟨xs, rfl⟩⟩
  · exact State.get_set_ne _ _ _ _ hk
  · rfl
  · exact State.get_set_ne _ _ _ _ (hown hh ▸ hk)

def HandlersOwnKey (reg : Registry) : Prop := ∀ o ∈ reg.options, OwnKey o

theorem applyKeywords_cons_ok {reg : Registry} {priv auth first : Bool} {st st' : State} {kw : Kw} {rest : List Kw}
    (h : applyKeywords reg priv auth first st (kw :: rest) = .ok st') :
    (first = true ∧ st' = st ∧ ∃ c, reg.dispatch kw.key = .cmd c) ∨
    ∃ o st1, reg.findOpt kw.key = some o ∧ (o.privileged = true → priv = true) ∧ (o.authored = true → auth = true) ∧
      applyOption o st kw.args = .ok st1 ∧ applyKeywords reg priv auth false st1 rest = .ok st' := by
  unfold applyKeywords at h
  cases hd : reg.dispatch kw.key with
  | unknown => rw [hd] at h; cases h
  | cmd c =>
    rw [hd] at h
    cases first with
    | true => exact Or.inl ⟨rfl, (Except.ok.inj h).symm, c, rfl⟩
    | false => cases h
  | opt o =>
    rw [hd] at h
    simp only at h
    split at h
    · cases h
    · split at h
      · cases h
      · next hp ha =>
        cases hap : applyOption o st kw.args with
        | error e => rw [hap] at h; cases h
        | ok st1 =>
          rw [hap] at h
          refine Or.inr ⟨o, st1, Registry.dispatch_opt.mp hd, ?_, ?_, hap, h⟩
          · intro hpr; cases priv <;> simp_all
          · intro hau; cases auth <;> simp_all

theorem applyKeywords_changed {reg : Registry} (hown : HandlersOwnKey reg) {priv auth : Bool} :
    ∀ (kws : List Kw) (first : Bool) (st st' : State),
      applyKeywords reg priv auth first st kws = .ok st' →
      ∀ k, st'.get k ≠ st.get k →
        (∃ kw ∈ kws, kw.key = k) ∧
        ∃ o, reg.findOpt k = some o ∧ (o.privileged = true → priv = true) ∧ (o.authored = true → auth = true)
  | [], first, st, st', h, k, hne => by
    simp only [applyKeywords, Except.ok.injEq] at h
    subst h; exact absurd rfl hne
  | kw :: rest, first, st, st', h, k, hne => by
    rcases applyKeywords_cons_ok h with ⟨_, rfl, _⟩ | ⟨o, st1, ho, hp, ha, hap, hrest⟩
    · exact absurd rfl hne
    · obtain ⟨hmem, hname⟩ := Registry.findOpt_some ho
      by_cases hk : st'.get k = st1.get k
      · -- changed by this keyword: the handler writes the key of its own option only
        have hkn : k = o.name := Classical.byContradiction fun hcon =>
          hne (hk.trans (applyOption_frame (hown o hmem) hap k hcon))
        have hkk : kw.key = k := by rw [hkn, hname]
        exact ⟨⟨kw, List.mem_cons_self, hkk⟩, o, hkk ▸ ho, hp, ha⟩
      · obtain ⟨⟨kw', hmem', hkw'⟩, hrest'⟩ := applyKeywords_changed hown rest false st1 st' hrest k hk
        exact ⟨⟨kw', List.mem_cons_of_mem _ hmem', hkw'⟩, hrest'⟩

/-- a keyword that must stop the loop: unknown (or a command, which is not an option), or an option whose
    rights the caller lacks -/
def Offends (reg : Registry) (priv auth : Bool) (kw : Kw) : Prop :=
  match reg.findOpt kw.key with
  | none => True
  | some o => (o.privileged = true ∧ priv = false) ∨ (o.authored = true ∧ auth = false)

def IsCommandCall (reg : Registry) (kws : List Kw) : Prop :=
  ∃ kw rest c, kws = kw :: rest ∧ reg.dispatch kw.key = .cmd c

theorem applyKeywords_offends {reg : Registry} {priv auth : Bool} (kws : List Kw) (first : Bool) (st : State)
    (hb : ∃ kw ∈ kws, Offends reg priv auth kw) (hnc : first = true → ¬ IsCommandCall reg kws) :
    ∃ e, applyKeywords reg priv auth first st kws = .error e := by
  fun_induction applyKeywords reg priv auth first st kws
  case case1 =>
    obtain ⟨_, hm, _⟩ := hb
    cases hm
  case case3 kw rest c hd => exact absurd ⟨kw, rest, c, rfl, hd⟩ (hnc rfl)
  case case8 kw rest o hd hp ha st1 hap ih =>
    obtain ⟨bad, hmem, hbad⟩ := hb
    rcases List.mem_cons.mp hmem with rfl | hrest
    · -- the head itself offends: impossible, both checks passed
      unfold Offends at hbad
      rw [Registry.dispatch_opt.mp hd] at hbad
      rcases hbad with ⟨h1, h2⟩ | ⟨h1, h2⟩
      · exact absurd (by simp [h1, h2]) hp
      · exact absurd (by simp [h1, h2]) ha
    · exact ih ⟨bad, hrest, hbad⟩ (fun h => nomatch h)
  all_goals exact ⟨_, rfl⟩

def Justifies (tok : OptTok) (reg : Registry) (env : Env) (c : Comment) (k : String) : Prop :=
  (∃ kws, tok c.text = some kws ∧ ∃ kw ∈ kws, kw.key = k) ∧
  ∃ o, reg.findOpt k = some o ∧ (o.privileged = true → env.privileged c.author = true) ∧
    (o.authored = true → env.authored c.author = true)

theorem optionPass_changed {tok : OptTok} {reg : Registry} (hown : HandlersOwnKey reg) {env : Env}
    (cs : List Comment) (st st' : State) (h : optionPass tok reg env st cs = .ok st')
    (k : String) (hne : st'.get k ≠ st.get k) : ∃ c ∈ cs, Justifies tok reg env c k := by
  fun_induction optionPass tok reg env st cs
  case case1 =>
    cases h
    exact absurd rfl hne
  case case2 => cases h
  case case3 st c cs st1 hho ih =>
    by_cases hk : st'.get k = st1.get k
    · -- changed by this comment
      have hk1 : st1.get k ≠ st.get k := fun e => hne (hk.trans e)
      unfold handleOptionsWith at hho
      cases htok : tok c.text with
      | none =>
        rw [htok] at hho
        cases hho
        exact absurd rfl hk1
      | some kws =>
        rw [htok] at hho
        obtain ⟨hnamed, hrights⟩ := applyKeywords_changed hown kws true st st1 hho k hk1
        exact ⟨c, List.mem_cons_self, ⟨kws, htok, hnamed⟩, hrights⟩
    · obtain ⟨c', hmem, hj⟩ := ih h hk
      exact ⟨c', List.mem_cons_of_mem _ hmem, hj⟩

theorem optionPass_unaddressed {tok : OptTok} {reg : Registry} {env : Env} (cs : List Comment) (st : State)
    (h : ∀ c ∈ cs, tok c.text = none) : optionPass tok reg env st cs = .ok st := by
  fun_induction optionPass tok reg env st cs <;> simp_all [handleOptionsWith]

theorem optionPass_error {tok : OptTok} {reg : Registry} {env : Env} {c : Comment}
    (hc : ∀ st, ∃ e, handleOptionsWith tok reg st c.text (env.privileged c.author) (env.authored c.author) = .error e)
    (cs : List Comment) (st : State) (h : c ∈ cs) : ∃ o, optionPass tok reg env st cs = .error o := by
  fun_induction optionPass tok reg env st cs
  case case1 => cases h
  case case2 => exact ⟨_, rfl⟩
  case case3 st c' cs st1 hho ih =>
    rcases List.mem_cons.mp h with rfl | hrest
    · obtain ⟨e, he⟩ := hc st
      rw [he] at hho
      cases hho
    · exact ih hrest

theorem optErrOutcome_state (reg : Registry) (env : Env) (a : String) (e : OptErr) :
    (optErrOutcome reg env a e).state? = none := by
  cases e with
  | typeError => unfold optErrOutcome; cases reg.syntaxMsgRenders <;> rfl
  | _ => rfl

theorem optionPass_error_state {tok : OptTok} {reg : Registry} {env : Env} (cs : List Comment) (st : State) (o : Outcome)
    (h : optionPass tok reg env st cs = .error o) : o.state? = none := by
  fun_induction optionPass tok reg env st cs
  case case1 => cases h
  case case2 =>
    cases h
    exact optErrOutcome_state ..
  case case3 ih => exact ih h

theorem commandPass_state {ctok : CmdTok} {reg : Registry} {env : Env} {st : State} (cs : List Comment) (st' : State)
    (h : (commandPass ctok reg env st cs).state? = some st') : st' = st := by
  fun_induction commandPass ctok reg env st cs <;> simp_all [Outcome.state?]

theorem handleCommentsWith_state {tok : OptTok} {ctok : CmdTok} {reg : Registry} {env : Env}
    {cs : List Comment} {st : State} (h : (handleCommentsWith tok ctok reg env cs).state? = some st) :
    optionPass tok reg env (initState reg) cs = .ok st := by
  unfold handleCommentsWith at h
  cases hop : optionPass tok reg env (initState reg) cs with
  | error o => rw [hop] at h; simp only at h; rw [optionPass_error_state cs _ o hop] at h; cases h
  | ok st1 =>
    rw [hop] at h
    simp only at h
    rw [commandPass_state cs.reverse st h]

theorem handleComments_state {reg : Registry} {env : Env} {cs : List Comment} {st : State}
    (h : handleComments reg env cs = .ok st) :
    (handleCommentsWith (keywordsOf env.pfx) (commandOf env.pfx) reg env cs).state? = some st := by
  unfold handleComments at h
  rw [h]; rfl

theorem applyKeywords_invariant {reg : Registry} {P : State → Prop}
    (hstep : ∀ o ∈ reg.options, ∀ st args st', P st → applyOption o st args = .ok st' → P st') {priv auth : Bool} :
    ∀ (kws : List Kw) (first : Bool) (st st' : State), P st →
      applyKeywords reg priv auth first st kws = .ok st' → P st'
  | [], _, st, st', ht, h => by simp only [applyKeywords, Except.ok.injEq] at h; subst h; exact ht
  | kw :: rest, first, st, st', ht, h => by
    rcases applyKeywords_cons_ok h with ⟨_, rfl, _⟩ | ⟨o, st1, ho, _, _, hap, hrest⟩
    · exact ht
    · exact applyKeywords_invariant hstep rest false st1 st'
        (hstep o (Registry.findOpt_some ho).1 st kw.args st1 ht hap) hrest

theorem handleOptionsWith_invariant {tok : OptTok} {reg : Registry} {P : State → Prop}
    (hstep : ∀ o ∈ reg.options, ∀ st args st', P st → applyOption o st args = .ok st' → P st')
    {st st' : State} {text : List Char} {priv auth : Bool} (ht : P st)
    (h : handleOptionsWith tok reg st text priv auth = .ok st') : P st' := by
  unfold handleOptionsWith at h
  cases htok : tok text with
  | none => rw [htok] at h; simp only [Except.ok.injEq] at h; subst h; exact ht
  | some kws => rw [htok] at h; exact applyKeywords_invariant hstep kws true st st' ht h

theorem optionPass_invariant {tok : OptTok} {reg : Registry} {P : State → Prop}
    (hstep : ∀ o ∈ reg.options, ∀ st args st', P st → applyOption o st args = .ok st' → P st') {env : Env}
    (cs : List Comment) (st st' : State) (ht : P st) (h : optionPass tok reg env st cs = .ok st') : P st' := by
  fun_induction optionPass tok reg env st cs
  case case1 =>
    cases h
    exact ht
  case case2 => cases h
  case case3 hho ih => exact ih (handleOptionsWith_invariant hstep ht hho) h

def Val.isSet : Val → Bool
  | .set _ => true
  | _ => false

/-- what the handlers need so that the option pass raises nothing but its own exceptions -/
structure HandlersOK (reg : Registry) : Prop where
  /-- `after_pull_request` writes `job.settings.after_pull_request`: it must be registered under that key -/
  own_key : ∀ o ∈ reg.options, o.handler = .afterPR → o.name = "after_pull_request"
  known : ∀ o ∈ reg.options, o.handler = .setOpt ∨ o.handler = .afterPR
  apr : ∀ o ∈ reg.options, o.name = "after_pull_request" → o.handler = .afterPR ∧ o.dflt.isSet = true

instance (reg : Registry) : Decidable (HandlersOK reg) :=
  decidable_of_iff
    ((∀ o ∈ reg.options, o.handler = .afterPR → o.name = "after_pull_request") ∧
     (∀ o ∈ reg.options, o.handler = .setOpt ∨ o.handler = .afterPR) ∧
     (∀ o ∈ reg.options, o.name = "after_pull_request" → o.handler = .afterPR ∧ o.dflt.isSet = true))
    ⟨fun ⟨a, b, c⟩ => ⟨a, b, c⟩, fun h => ⟨h.own_key, h.known, h.apr⟩⟩

theorem HandlersOK.ownKey {reg : Registry} (h : HandlersOK reg) : HandlersOwnKey reg :=
  fun o ho => h.own_key o ho

def AprTyped (reg : Registry) (st : State) : Prop :=
  (∃ o ∈ reg.options, o.handler = .afterPR) → ∃ xs, st.get "after_pull_request" = some (.set xs)

theorem initState_aprTyped {reg : Registry} (hok : HandlersOK reg) : AprTyped reg (initState reg) := by
  rintro ⟨o, ho, hh⟩
  have hsome : (reg.findOpt "after_pull_request").isSome = true := by
    rw [Registry.findOpt, List.find?_isSome]
    exact ⟨o, ho, by simp [hok.own_key o ho hh]⟩
  rw [initState_get]
  cases hf : reg.findOpt "after_pull_request" with
  | none => simp [hf] at hsome
  | some o' =>
    obtain ⟨hmem, hn⟩ := Registry.findOpt_some hf
    have hset := (hok.apr o' hmem hn).2
    cases hd : o'.dflt <;> simp_all [Val.isSet]

theorem HandlersOK.setOpt_ne {reg : Registry} (hok : HandlersOK reg) {o : OptSpec} (ho : o ∈ reg.options)
    (hh : o.handler = .setOpt) : "after_pull_request" ≠ o.name := by
  intro e
  have := (hok.apr o ho e.symm).1
  rw [hh] at this; cases this

theorem applyOption_aprTyped {reg : Registry} (hok : HandlersOK reg) {o : OptSpec} (ho : o ∈ reg.options)
    {st st' : State} {args : List String} (ht : AprTyped reg st) (h : applyOption o st args = .ok st') :
    AprTyped reg st' := by
  intro hex
  rcases applyOption_ok h with ⟨hh, v, rfl⟩ | ⟨_, rfl | ⟨xs, rfl⟩⟩
  · rw [State.get_set_ne _ _ _ _ (hok.setOpt_ne ho hh)]
    exact ht hex
  · exact ht hex
  · exact ⟨_, State.get_set_self _ _ _⟩

theorem applyOption_error {reg : Registry} (hok : HandlersOK reg) {o : OptSpec} (ho : o ∈ reg.options)
    {st : State} {args : List String} {e : OptErr} (ht : AprTyped reg st) (h : applyOption o st args = .error e) :
    e = .incorrectSyntax ∨ (e = .typeError ∧ 2 ≤ args.length) := by
  unfold applyOption at h
  rcases hok.known o ho with hh | hh
  · rw [hh] at h
    match args, h with
    | [], h => simp at h
    | [a], h => simp at h
    | _ :: _ :: _, h =>
      simp only [Except.error.injEq] at h
      exact Or.inr ⟨h.symm, by simp⟩
  · rw [hh] at h
    obtain ⟨xs, hxs⟩ := ht ⟨o, ho, hh⟩
    match args, h with
    | [], h => simp only [Except.error.injEq] at h; exact Or.inl h.symm
    | [a], h =>
      simp only [hxs] at h
      split at h <;> simp at h
    | _ :: _ :: _, h =>
      simp only [Except.error.injEq] at h
      exact Or.inr ⟨h.symm, by simp⟩

/-- the exceptions that `handle_comments` turns into a message -/
def Benign (kws : List Kw) (e : OptErr) : Prop :=
  (∃ k, e = .notFound k) ∨ (∃ k, e = .notPrivileged k) ∨ (∃ k, e = .notAuthored k) ∨ e = .incorrectSyntax ∨
  (e = .typeError ∧ ∃ kw ∈ kws, 2 ≤ kw.args.length)

theorem Benign.cons {kw : Kw} {kws : List Kw} {e : OptErr} (h : Benign kws e) : Benign (kw :: kws) e := by
  rcases h with h | h | h | h | ⟨h, kw', hm, hl⟩
  · exact Or.inl h
  · exact Or.inr (Or.inl h)
  · exact Or.inr (Or.inr (Or.inl h))
  · exact Or.inr (Or.inr (Or.inr (Or.inl h)))
  · exact Or.inr (Or.inr (Or.inr (Or.inr ⟨h, kw', List.mem_cons_of_mem _ hm, hl⟩)))

theorem applyKeywords_typed {reg : Registry} (hok : HandlersOK reg) {priv auth : Bool} (kws : List Kw) (first : Bool)
    (st : State) (ht : AprTyped reg st) (e : OptErr) (h : applyKeywords reg priv auth first st kws = .error e) :
    Benign kws e := by
  fun_induction applyKeywords reg priv auth first st kws
  case case1 => cases h
  case case2 =>
    cases h
    exact Or.inl ⟨_, rfl⟩
  case case3 => cases h
  case case4 =>
    cases h
    exact Or.inl ⟨_, rfl⟩
  case case5 =>
    cases h
    exact Or.inr (Or.inl ⟨_, rfl⟩)
  case case6 =>
    cases h
    exact Or.inr (Or.inr (Or.inl ⟨_, rfl⟩))
  case case7 kw rest o hd _ _ e' hap =>
    cases h
    have hmem := (Registry.findOpt_some (Registry.dispatch_opt.mp hd)).1
    rcases applyOption_error hok hmem ht hap with h | ⟨h, hl⟩
    · exact Or.inr (Or.inr (Or.inr (Or.inl h)))
    · exact Or.inr (Or.inr (Or.inr (Or.inr ⟨h, kw, List.mem_cons_self, hl⟩)))
  case case8 kw rest o hd _ _ st1 hap ih =>
    have hmem := (Registry.findOpt_some (Registry.dispatch_opt.mp hd)).1
    exact (ih (applyOption_aprTyped hok hmem ht hap) h).cons

theorem optionPass_typed {tok : OptTok} {reg : Registry} (hok : HandlersOK reg) {env : Env} (cs : List Comment)
    (st : State) (ht : AprTyped reg st) (o : Outcome) (h : optionPass tok reg env st cs = .error o) :
    (∃ e, o = .error e) ∨
    (reg.syntaxMsgRenders = false ∧ ∃ c ∈ cs, ∃ kws, tok c.text = some kws ∧ ∃ kw ∈ kws, 2 ≤ kw.args.length) := by
  fun_induction optionPass tok reg env st cs
  case case1 => cases h
  case case2 st c cs e hho =>
    cases h
    unfold handleOptionsWith at hho
    cases htok : tok c.text with
    | none =>
      rw [htok] at hho
      cases hho
    | some kws =>
      rw [htok] at hho
      rcases applyKeywords_typed hok kws true st ht e hho with ⟨k, rfl⟩ | ⟨k, rfl⟩ | ⟨k, rfl⟩ | rfl | ⟨rfl, hkw⟩
      · exact Or.inl ⟨_, rfl⟩
      · exact Or.inl ⟨_, rfl⟩
      · exact Or.inl ⟨_, rfl⟩
      · exact Or.inl ⟨_, rfl⟩
      · cases hr : reg.syntaxMsgRenders with
        | true => exact Or.inl ⟨.incorrectSyntax, by simp [optErrOutcome, hr]⟩
        | false => exact Or.inr ⟨rfl, c, List.mem_cons_self, kws, htok, hkw⟩
  case case3 st c cs st1 hho ih =>
    have ht1 : AprTyped reg st1 :=
      handleOptionsWith_invariant (fun _ ho _ _ _ ht hap => applyOption_aprTyped hok ho ht hap) ht hho
    rcases ih ht1 h with h | ⟨hr, c', hm, rest⟩
    · exact Or.inl h
    · exact Or.inr ⟨hr, c', List.mem_cons_of_mem _ hm, rest⟩

end BertE.Reactor
