import BertE.Model.Select
import BertE.Lemmas.StepAll
import BertE.Lemmas.QueueSpec
/- Composition of the system model with the queue-evaluation model (C05): under the invariant (and what `validate()`
   checked) the collection read from a system state is well-formed; hence the computed selection is a cut of the
   queue, closed downwards, its heads are SUCCESSFUL, and the specification of C05 reads on `s.queue`. -/
namespace BertE.Select
open BertE.Git BertE.Flow

theorem versionOf_inj {a b : Dest} (h : versionOf a = versionOf b) : a = b := by
  rcases a with ⟨M, _ | m⟩ | ⟨M, m, u⟩ | ⟨M, m, u⟩ <;> rcases b with ⟨M', _ | m'⟩ | ⟨M', m', u'⟩ | ⟨M', m', u'⟩ <;>
    simp [versionOf] at h ⊢ <;> omega

theorem isHotfix_versionOf (d : Dest) : Queue.isHotfix (versionOf d) = isHf d := by
  cases d with
  | dev M m => cases m <;> rfl
  | stab _ _ _ => rfl
  | hotfix _ _ _ => rfl

theorem length_versionOf_dev (k : Key) : (versionOf (devDest k)).length = 2 := by
  obtain ⟨M, m⟩ := k
  cases m <;> rfl

theorem length_versionOf_two {d : Dest} (h : (versionOf d).length = 2) : ∃ k, d = devDest k := by
  cases d with
  | dev M m => exact ⟨(M, m), rfl⟩
  | stab _ _ _ => simp [versionOf] at h
  | hotfix _ _ _ => simp [versionOf] at h

theorem length_versionOf (d : Dest) :
    (versionOf d).length = 2 ∨ (versionOf d).length = 3 ∨ (versionOf d).length = 4 := by
  cases d with
  | dev M m => cases m <;> simp [versionOf]
  | stab _ _ _ => simp [versionOf]
  | hotfix _ _ _ => simp [versionOf]

theorem devDest_inj {a b : Key} (h : devDest a = devDest b) : a = b := by
  obtain ⟨a1, a2⟩ := a; obtain ⟨b1, b2⟩ := b
  simp only [devDest, Dest.dev.injEq] at h
  rw [h.1, h.2]

theorem isSt_stab : ∀ {a : Dest}, isSt a = true → ∃ M m u, a = .stab M m u
  | .stab M m u, _ => ⟨M, m, u, rfl⟩

theorem isHf_devDest (k : Key) : isHf (devDest k) = false := rfl
theorem isSt_devDest (k : Key) : isSt (devDest k) = false := rfl

theorem before_devDest {a b : Key} : (devDest a).before (devDest b) = keyLt a b := by
  obtain ⟨a1, a2⟩ := a; obtain ⟨b1, b2⟩ := b; rfl

theorem mem_dedup {l : List Dest} {d : Dest} : d ∈ dedup l ↔ d ∈ l := by
  induction l with
  | nil => simp [dedup]
  | cons x xs ih =>
    simp only [dedup]
    split
    · next hc =>
      rw [ih, List.mem_cons, or_iff_right_of_imp]
      rintro rfl
      exact List.contains_iff_mem.mp hc
    · rw [List.mem_cons, List.mem_cons, ih]

theorem nodup_dedup (l : List Dest) : (dedup l).Nodup := by
  induction l with
  | nil => simp [dedup]
  | cons x xs ih =>
    simp only [dedup]
    split
    · exact ih
    · next hc => exact List.nodup_cons.mpr ⟨fun h => hc (List.contains_iff_mem.mpr (mem_dedup.mp h)), ih⟩

theorem nodup_queueDests (m : RefMap) : (queueDests m).Nodup := nodup_dedup _

theorem mem_queueDests_of_q {m : RefMap} {d : Dest} {c : Commit} (h : m.get (.q d) = some c) :
    d ∈ queueDests m := by
  unfold queueDests
  rw [mem_dedup, List.mem_filterMap]
  exact ⟨(.q d, c), RefMap.get_mem h, rfl⟩

theorem sorted_nodup {ks : List Key} (h : SortedKeys ks) : ks.Nodup := by
  unfold SortedKeys at h
  apply h.imp
  intro a b hab he
  subst he
  rw [keyLt_irrefl] at hab; cases hab

theorem mem_keyDests {s : Sys} {d : Dest} :
    d ∈ keyDests s ↔ d ∈ queueDests s.remote ∧ (∀ k, d = devDest k → k ∈ s.devs) := by
  unfold keyDests
  simp only [List.mem_append, List.mem_filter, List.mem_map, List.contains_iff_mem]
  constructor
  · rintro (⟨h, hf⟩ | ⟨h, hf⟩ | ⟨k, ⟨hk, hq⟩, rfl⟩)
    · exact ⟨h, fun k he => by subst he; cases hf⟩
    · exact ⟨h, fun k he => by subst he; cases hf⟩
    · exact ⟨hq, fun k' he => by rw [← devDest_inj he]; exact hk⟩
  · rintro ⟨h, hk⟩
    cases d with
    | hotfix M m u => exact Or.inl ⟨h, rfl⟩
    | stab M m u => exact Or.inr (Or.inl ⟨h, rfl⟩)
    | dev M m => exact Or.inr (Or.inr ⟨(M, m), ⟨hk (M, m) rfl, h⟩, rfl⟩)

theorem nodup_keyDests {s : Sys} (hs : SortedKeys s.devs) : (keyDests s).Nodup := by
  unfold keyDests
  have hq := nodup_queueDests s.remote
  have hd : ((s.devs.filter fun k => (queueDests s.remote).contains (devDest k)).map devDest).Nodup :=
    List.Pairwise.map devDest (fun _ _ hne he => hne (devDest_inj he)) ((sorted_nodup hs).filter _)
  simp only
  rw [List.nodup_append, List.nodup_append]
  refine ⟨hq.filter _, ⟨hq.filter _, hd, ?_⟩, ?_⟩
  · rintro a ha b hb rfl
    obtain ⟨k, _, rfl⟩ := List.mem_map.mp hb
    cases (List.mem_filter.mp ha).2
  · rintro a ha b hb rfl
    have hf := (List.mem_filter.mp ha).2
    rcases List.mem_append.mp hb with hb | hb
    · obtain ⟨_, _, _, rfl⟩ := isSt_stab (List.mem_filter.mp hb).2
      cases hf
    · obtain ⟨k, _, rfl⟩ := List.mem_map.mp hb
      cases hf

/-- the queued pull requests that target `d`, oldest first -/
def entriesOn (s : Sys) (d : Dest) : List QEntry := s.queue.filter fun e => e.targets.contains d

theorem idsOn_eq (s : Sys) (d : Dest) : idsOn s d = ((entriesOn s d).map (·.pr)).reverse := rfl

theorem mem_entriesOn {s : Sys} {d : Dest} {e : QEntry} : e ∈ entriesOn s d ↔ e ∈ s.queue ∧ d ∈ e.targets := by
  unfold entriesOn
  rw [List.mem_filter, List.contains_iff_mem]

def devKeys (s : Sys) : List Key := s.devs.filter fun k => (queueDests s.remote).contains (devDest k)

/-- the greatest development branch that has a queue -/
def gDev (s : Sys) : Option Key := (devKeys s).getLast?

theorem mem_devKeys {s : Sys} {k : Key} : k ∈ devKeys s ↔ k ∈ s.devs ∧ devDest k ∈ queueDests s.remote := by
  unfold devKeys
  rw [List.mem_filter, List.contains_iff_mem]

theorem hotfix_alone {s : Sys} (hq : QueueInv s) {e : QEntry} (he : e ∈ s.queue) {d d' : Dest}
    (hd : d ∈ e.targets) (hf : isHf d = true) (hd' : d' ∈ e.targets) : d' = d := by
  rcases Queue.pairwise_mem (hq.ordered e he) hd hd' with h | h | h
  · exact h.symm
  · cases d <;> simp [isHf] at hf
    simp [Dest.before] at h
  · obtain ⟨M, m, hb⟩ := Dest.before_right_dev h
    subst hb; cases hf

theorem last_sorted {ks : List Key} (hs : SortedKeys ks) {g : Key} (hg : ks.getLast? = some g) :
    ∀ k ∈ ks, k = g ∨ keyLt k g = true := by
  intro k hk
  obtain ⟨ys, hsplit⟩ := List.getLast?_eq_some_iff.mp hg
  rw [hsplit] at hs hk
  unfold SortedKeys at hs
  rw [List.pairwise_append] at hs
  rcases List.mem_append.mp hk with h | h
  · exact Or.inr (hs.2.2 k h g (List.mem_singleton.mpr rfl))
  · exact Or.inl (List.mem_singleton.mp h)

theorem gDev_mem {s : Sys} {g : Key} (hg : gDev s = some g) : g ∈ devKeys s :=
  List.mem_of_getLast? hg

section
variable {s : Sys} (h : Inv s) (hv : Validated s)
include h hv

theorem dest_present_of_queueDest {d : Dest} (hd : d ∈ queueDests s.remote) :
    (s.remote.get (.dest d)).isSome = true := h.q.qdest d (hv.master d hd)

theorem dev_mem_of_queueDest {k : Key} (hd : devDest k ∈ queueDests s.remote) : k ∈ s.devs := by
  obtain ⟨c, hc⟩ := Option.isSome_iff_exists.mp (dest_present_of_queueDest h hv hd)
  exact h.wf.devsOK k.1 k.2 c hc

theorem below_gDev {d : Dest} (hd : d ∈ queueDests s.remote) (hf : isHf d = false) :
    ∃ g, gDev s = some g ∧ (d = devDest g ∨ d.before (devDest g) = true) := by
  have hsorted : SortedKeys (devKeys s) := h.wf.sorted.sublist List.filter_sublist
  -- a development branch that has a queue and is d or after d
  have hk : ∃ k ∈ devKeys s, d = devDest k ∨ d.before (devDest k) = true := by
    cases d with
    | hotfix _ _ _ => cases hf
    | dev M m =>
      exact ⟨(M, m), mem_devKeys.mpr ⟨dev_mem_of_queueDest h hv (k := (M, m)) hd, hd⟩, Or.inl rfl⟩
    | stab M m u =>
      have hdev := hv.stabDev _ hd M m u rfl
      have hb : (Dest.stab M m u).before (devDest (M, some m)) = true := by
        simp [Dest.before, devDest, keyLe]
      exact ⟨(M, some m), mem_devKeys.mpr ⟨hdev, hv.upper _ hd _ hdev hb⟩, Or.inr hb⟩
  obtain ⟨k, hkm, hkd⟩ := hk
  cases hg : gDev s with
  | none =>
    unfold gDev at hg
    rw [List.getLast?_eq_none_iff] at hg
    rw [hg] at hkm; cases hkm
  | some g =>
    refine ⟨g, rfl, ?_⟩
    rcases last_sorted hsorted hg k hkm with rfl | hlt
    · exact hkd
    · have hb : (devDest k).before (devDest g) = true := before_devDest.trans hlt
      exact Or.inr (hkd.elim (fun he => he ▸ hb) fun hkd => Dest.before_trans hkd hb)

theorem gDev_max {g : Key} (hg : gDev s = some g) : ∀ k ∈ s.devs, k = g ∨ keyLt k g = true := by
  intro k hk
  have hsorted : SortedKeys (devKeys s) := h.wf.sorted.sublist List.filter_sublist
  have hgm := mem_devKeys.mp (gDev_mem hg)
  by_cases hlt : keyLt g k = true
  · have hkq := hv.upper _ hgm.2 k hk (before_devDest.trans hlt)
    rcases last_sorted hsorted hg k (mem_devKeys.mpr ⟨hk, hkq⟩) with rfl | h2
    · exact Or.inl rfl
    · rw [keyLt_asymm hlt] at h2; cases h2
  · by_cases he : k = g
    · exact Or.inl he
    · exact Or.inr (keyLt_total (by simpa using hlt) (Ne.symm he))

omit hv in
theorem target_mem_queueDests {e : QEntry} (he : e ∈ s.queue) {d : Dest} (hd : d ∈ e.targets) :
    d ∈ queueDests s.remote := by
  obtain ⟨c, hc⟩ := Option.isSome_iff_exists.mp (h.q.qhas e he d hd)
  exact mem_queueDests_of_q hc

theorem targets_gDev {e : QEntry} (he : e ∈ s.queue) {d : Dest} (hd : d ∈ e.targets) (hf : isHf d = false) :
    ∃ g, gDev s = some g ∧ devDest g ∈ e.targets := by
  obtain ⟨g, hg, hcase⟩ := below_gDev h hv (target_mem_queueDests h he hd) hf
  refine ⟨g, hg, ?_⟩
  rcases hcase with rfl | hb
  · exact hd
  · exact h.q.base.closed e he d hd _ hb
      (dest_present_of_queueDest h hv (mem_devKeys.mp (gDev_mem hg)).2)

theorem target_mem_keyDests {e : QEntry} (he : e ∈ s.queue) {d : Dest} (hd : d ∈ e.targets) :
    d ∈ keyDests s := by
  have hqd := target_mem_queueDests h he hd
  exact mem_keyDests.mpr ⟨hqd, fun k hk => by subst hk; exact dev_mem_of_queueDest h hv hqd⟩

end

theorem eq_of_pr_eq : ∀ {l : List QEntry}, (l.map (·.pr)).Nodup → ∀ {a b : QEntry}, a ∈ l → b ∈ l →
    a.pr = b.pr → a = b
  | [], _, _, _, ha, _, _ => nomatch ha
  | x :: xs, h, a, b, ha, hb, hab => by
    rw [List.map_cons, List.nodup_cons] at h
    rcases List.mem_cons.mp ha with rfl | ha' <;> rcases List.mem_cons.mp hb with rfl | hb'
    · rfl
    · exact absurd (List.mem_map.mpr ⟨b, hb', hab.symm⟩) h.1
    · exact absurd (List.mem_map.mpr ⟨a, ha', hab⟩) h.1
    · exact eq_of_pr_eq h.2 ha' hb' hab

theorem filter_sublist_filter {α : Type} (l : List α) (p q : α → Bool) (hpq : ∀ x ∈ l, p x = true → q x = true) :
    (l.filter p).Sublist (l.filter q) := by
  have : l.filter p = (l.filter q).filter p := by
    rw [List.filter_filter]
    apply List.filter_congr
    intro x hx
    cases hp : p x
    · rfl
    · rw [hpq x hx hp]; rfl
  rw [this]
  exact List.filter_sublist

theorem greatestDev_append (X Y : Queue.Queues) (hX : ∀ e ∈ X, e.1.length ≠ 2) (hY : ∀ e ∈ Y, e.1.length = 2) :
    Queue.greatestDev (X ++ Y) = Y.getLast?.map (·.1) := by
  unfold Queue.greatestDev
  rw [List.reverse_append, List.find?_append, ← List.head?_reverse]
  cases hr : Y.reverse with
  | nil =>
    have : X.reverse.find? (fun e => e.1.length == 2) = none := by
      apply List.find?_eq_none.mpr
      intro e he
      have := hX e (List.mem_reverse.mp he)
      simpa using this
    simp [this]
  | cons y ys =>
    have hy : y ∈ Y := List.mem_reverse.mp (hr ▸ List.mem_cons_self)
    have := hY y hy
    simp [this]

theorem listOf_map (F : Dest → List Nat) (d : Dest) : ∀ (l : List Dest),
    Queue.listOf (l.map fun x => (versionOf x, F x)) (versionOf d) = if d ∈ l then F d else []
  | [] => rfl
  | x :: xs => by
    simp only [List.map_cons, Queue.listOf]
    by_cases hx : versionOf x = versionOf d
    · have := versionOf_inj hx
      subst this
      simp
    · have hne : d ≠ x := fun he => hx (he ▸ rfl)
      rw [if_neg hx, listOf_map F d xs]
      simp [hne]

theorem mem_idsOn {s : Sys} {d : Dest} {p : Nat} :
    p ∈ idsOn s d ↔ ∃ e ∈ s.queue, d ∈ e.targets ∧ e.pr = p := by
  simp only [idsOn_eq, List.mem_reverse, List.mem_map, mem_entriesOn, and_assoc]

theorem nodup_idsOn {s : Sys} (h : Inv s) (d : Dest) : (idsOn s d).Nodup := by
  rw [idsOn_eq]
  apply Queue.nodup_reverse'
  exact h.q.ids.sublist (List.Sublist.map _ List.filter_sublist)

theorem listOf_queuesOfSys (s : Sys) (d : Dest) :
    Queue.listOf (queuesOfSys s) (versionOf d) = if d ∈ keyDests s then idsOn s d else [] :=
  listOf_map (idsOn s) d (keyDests s)

theorem greatestDev_queuesOfSys (s : Sys) :
    Queue.greatestDev (queuesOfSys s) = (gDev s).map fun g => versionOf (devDest g) := by
  have hsplit : queuesOfSys s =
      (((queueDests s.remote).filter isHf ++ (queueDests s.remote).filter isSt).map
        fun d => (versionOf d, idsOn s d)) ++
      ((devKeys s).map devDest).map fun d => (versionOf d, idsOn s d) := by
    unfold queuesOfSys keyDests devKeys
    simp only [List.map_append, List.append_assoc]
  rw [hsplit, greatestDev_append]
  · unfold gDev
    rw [List.getLast?_map, List.getLast?_map, Option.map_map, Option.map_map]
    rfl
  · intro e he
    simp only [List.mem_map, List.mem_append, List.mem_filter] at he
    obtain ⟨d, hd, rfl⟩ := he
    rcases hd with ⟨_, hf⟩ | ⟨_, hf⟩ <;> cases d <;> simp [isHf, isSt, versionOf] at hf ⊢
  · intro e he
    simp only [List.mem_map] at he
    obtain ⟨d, ⟨k, _, rfl⟩, rfl⟩ := he
    exact length_versionOf_dev k

theorem mainList_queuesOfSys (s : Sys) :
    Queue.mainList (queuesOfSys s) = match gDev s with
      | some g => idsOn s (devDest g)
      | none => [] := by
  cases hg : gDev s with
  | none =>
    apply Queue.mainList_eq_nil_of_none
    rw [greatestDev_queuesOfSys, hg]; rfl
  | some g =>
    have : Queue.greatestDev (queuesOfSys s) = some (versionOf (devDest g)) := by
      rw [greatestDev_queuesOfSys, hg]; rfl
    have hm := mem_devKeys.mp (gDev_mem hg)
    rw [Queue.mainList_eq_of_greatestDev this, listOf_queuesOfSys,
      if_pos (mem_keyDests.mpr ⟨hm.2, fun k hk => by rw [← devDest_inj hk]; exact hm.1⟩)]

section
variable {s : Sys} (h : Inv s) (hv : Validated s)
include h hv

theorem ids_subset_of_before {a b : Dest} (hab : a.before b = true) (hb : b ∈ queueDests s.remote) :
    Queue.subsetL (idsOn s a) (idsOn s b) := by
  intro p hp
  obtain ⟨e, he, ha, rfl⟩ := mem_idsOn.mp hp
  exact mem_idsOn.mpr ⟨e, he, h.q.base.closed e he a ha b hab (dest_present_of_queueDest h hv hb), rfl⟩

end

theorem mem_map_versionOf {d : Dest} {D : List Dest} : versionOf d ∈ D.map versionOf ↔ d ∈ D :=
  ⟨fun h => by obtain ⟨x, hx, he⟩ := List.mem_map.mp h; exact versionOf_inj he ▸ hx, List.mem_map_of_mem⟩

theorem mem_map_devDest {k : Key} {ks : List Key} : devDest k ∈ ks.map devDest ↔ k ∈ ks :=
  ⟨fun h => by obtain ⟨x, hx, he⟩ := List.mem_map.mp h; exact devDest_inj he ▸ hx, List.mem_map_of_mem⟩

def mainPath (s : Sys) : List Dest := s.devs.map devDest

def stabPath (s : Sys) (M m u : Nat) : List Dest :=
  .stab M m u :: (s.devs.filter fun k => keyLe (M, some m) k).map devDest

theorem path_cases {s : Sys} {P : List Queue.Version} (hP : P ∈ pathsOfSys s) :
    P = (mainPath s).map versionOf ∨
      ∃ M m u, (M, m, u) ∈ stabDests s.remote ∧ (M, some m) ∈ s.devs ∧ P = (stabPath s M m u).map versionOf := by
  unfold pathsOfSys at hP
  rcases List.mem_cons.mp hP with h | h
  · exact Or.inl (by rw [h, mainPath, List.map_map]; rfl)
  · right
    obtain ⟨⟨M, m, u⟩, hx, hsome⟩ := List.mem_filterMap.mp h
    split at hsome
    · next hc =>
      refine ⟨M, m, u, hx, List.contains_iff_mem.mp hc, ?_⟩
      rw [← Option.some.inj hsome, stabPath, List.map_cons, List.map_map]
      rfl
    · cases hsome

theorem mainPath_mem (s : Sys) : (mainPath s).map versionOf ∈ pathsOfSys s := by
  rw [mainPath, List.map_map]; exact List.mem_cons_self

theorem stabPath_mem {s : Sys} {M m u : Nat} (hx : (M, m, u) ∈ stabDests s.remote) (hd : (M, some m) ∈ s.devs) :
    (stabPath s M m u).map versionOf ∈ pathsOfSys s := by
  apply List.mem_cons_of_mem
  rw [List.mem_filterMap]
  refine ⟨(M, m, u), hx, ?_⟩
  simp only
  rw [if_pos (List.contains_iff_mem.mpr hd), stabPath, List.map_cons, List.map_map]
  rfl

theorem stab_not_mem_mainPath {s : Sys} {M m u : Nat} : Dest.stab M m u ∉ mainPath s := fun h => by
  obtain ⟨k, _, he⟩ := List.mem_map.mp h
  cases he

theorem dev_mem_stabPath {s : Sys} {M m u : Nat} {k : Key} :
    devDest k ∈ stabPath s M m u ↔ k ∈ s.devs ∧ keyLe (M, some m) k = true := by
  unfold stabPath
  rw [List.mem_cons, mem_map_devDest, List.mem_filter]
  exact or_iff_right (fun he => by cases he)

theorem stab_mem_stabPath {s : Sys} {M m u M' m' u' : Nat} (hm : Dest.stab M' m' u' ∈ stabPath s M m u) :
    Dest.stab M' m' u' = .stab M m u := by
  rcases List.mem_cons.mp hm with he | he
  · exact he
  · obtain ⟨k, _, hk⟩ := List.mem_map.mp he
    cases hk

theorem keyDests_before {s : Sys} (hs : SortedKeys s.devs) {P : List Queue.Version} (hP : P ∈ pathsOfSys s) :
    (keyDests s).Pairwise fun a b => versionOf a ∈ P → isHf a = false → versionOf b ∈ P → a.before b = true := by
  -- a stabilization branch on `P`: `P` is its path
  have hstab : ∀ {M m u}, versionOf (.stab M m u) ∈ P →
      (∀ k, versionOf (devDest k) ∈ P → keyLe (M, some m) k = true) ∧
      ∀ {M' m' u'}, versionOf (.stab M' m' u') ∈ P → Dest.stab M' m' u' = .stab M m u := by
    intro M m u hm
    rcases path_cases hP with rfl | ⟨M0, m0, u0, _, _, rfl⟩
    · exact absurd (mem_map_versionOf.mp hm) stab_not_mem_mainPath
    · cases stab_mem_stabPath (mem_map_versionOf.mp hm)
      exact ⟨fun k hk => (dev_mem_stabPath.mp (mem_map_versionOf.mp hk)).2,
        fun h' => stab_mem_stabPath (mem_map_versionOf.mp h')⟩
  unfold keyDests
  simp only
  rw [List.pairwise_append, List.pairwise_append]
  refine ⟨List.pairwise_of_forall_mem_list fun a ha b _ _ hf _ => ?_, ⟨?_, ?_, ?_⟩, fun a ha b _ _ hf _ => ?_⟩
  · rw [(List.mem_filter.mp ha).2] at hf; cases hf
  · -- two stabilization versions are never on the same path
    refine ((nodup_queueDests s.remote).filter _).imp_of_mem fun {a b} ha hb hne hpa _ hpb => ?_
    obtain ⟨Ma, ma, ua, rfl⟩ := isSt_stab (List.mem_filter.mp ha).2
    obtain ⟨Mb, mb, ub, rfl⟩ := isSt_stab (List.mem_filter.mp hb).2
    exact absurd ((hstab hpa).2 hpb).symm hne
  · -- development versions are in cascade order
    rw [List.pairwise_map]
    exact (hs.sublist List.filter_sublist).imp fun hlt _ _ _ => by rw [before_devDest]; exact hlt
  · -- a stabilization version and a development version on its path
    intro a ha b hb hpa _ hpb
    obtain ⟨⟨k1, k2⟩, _, rfl⟩ := List.mem_map.mp hb
    obtain ⟨Ma, ma, ua, rfl⟩ := isSt_stab (List.mem_filter.mp ha).2
    exact (hstab hpa).1 _ hpb
  · rw [(List.mem_filter.mp ha).2] at hf; cases hf

/-- the collection of a state that satisfies the invariant is well-formed (what C05 needs) -/
theorem wfq_of_inv {s : Sys} (h : Inv s) (hv : Validated s) : Queue.WFQ (queuesOfSys s) (pathsOfSys s) := by
  have hnd := nodup_keyDests h.wf.sorted
  refine ⟨?_, ?_, ?_, ?_, ?_, ?_, List.cons_ne_nil _ _, ?_, ?_, ?_⟩
  · -- keys
    unfold queuesOfSys
    rw [List.map_map]
    exact List.Pairwise.map _ (fun _ _ hne he => hne (versionOf_inj he)) hnd
  · exact List.forall_mem_map.mpr fun d _ => length_versionOf d
  · exact List.forall_mem_map.mpr fun d _ => nodup_idsOn h d
  · refine List.forall_mem_map.mpr fun d _ h0 => ?_
    obtain ⟨e', he', _, hp⟩ := mem_idsOn.mp h0
    exact hv.pos e' he' hp
  · -- hotfix queues hold only their own pull requests
    unfold queuesOfSys
    rw [List.pairwise_map]
    refine hnd.imp fun {a b} hne hhf p hpa hpb => ?_
    simp only [isHotfix_versionOf] at hhf
    obtain ⟨e, he, ha, rfl⟩ := mem_idsOn.mp hpa
    obtain ⟨e', he', hb, hpr⟩ := mem_idsOn.mp hpb
    cases eq_of_pr_eq h.q.ids he' he hpr
    rcases hhf with hf | hf
    · exact hne (hotfix_alone h.q.base he ha hf hb).symm
    · exact hne (hotfix_alone h.q.base he hb hf ha)
  · -- order
    refine List.forall_mem_map.mpr fun d hd hf => ?_
    rw [isHotfix_versionOf] at hf
    obtain ⟨g, hg, _⟩ := below_gDev h hv (mem_keyDests.mp hd).1 hf
    rw [mainList_queuesOfSys, hg]
    show (idsOn s d).Sublist (idsOn s (devDest g))
    rw [idsOn_eq, idsOn_eq]
    refine ((filter_sublist_filter _ _ _ fun x hx hxd => ?_).map _).reverse
    rw [List.contains_iff_mem] at hxd ⊢
    obtain ⟨g', hg', ht⟩ := targets_gDev h hv hx hxd hf
    rwa [Option.some.inj (hg'.symm.trans hg)] at ht
  · -- the greatest development version is on every path
    intro P hP gv hgv
    rw [greatestDev_queuesOfSys] at hgv
    obtain ⟨g, hg, rfl⟩ := Option.map_eq_some_iff.mp hgv
    have hgd := (mem_devKeys.mp (gDev_mem hg)).1
    rcases path_cases hP with rfl | ⟨M, m, u, _, hdev, rfl⟩
    · exact mem_map_versionOf.mpr (mem_map_devDest.mpr hgd)
    · refine mem_map_versionOf.mpr (dev_mem_stabPath.mpr ⟨hgd, ?_⟩)
      rcases gDev_max h hv hg _ hdev with he | hlt
      · rw [he]; simp [keyLe]
      · simp [keyLe, hlt]
  · -- every development / stabilization queue is on a path
    refine List.forall_mem_map.mpr fun d hd hf => ?_
    rw [isHotfix_versionOf] at hf
    have hdk := mem_keyDests.mp hd
    cases d with
    | hotfix _ _ _ => cases hf
    | dev M m =>
      exact ⟨_, mainPath_mem s, mem_map_versionOf.mpr (mem_map_devDest.mpr (hdk.2 (M, m) rfl))⟩
    | stab M m u =>
      obtain ⟨c, hc⟩ := Option.isSome_iff_exists.mp (dest_present_of_queueDest h hv hdk.1)
      have hx : (M, m, u) ∈ stabDests s.remote :=
        List.mem_filterMap.mpr ⟨(.dest (.stab M m u), c), RefMap.get_mem hc, rfl⟩
      exact ⟨_, stabPath_mem hx (hv.stabDev _ hdk.1 M m u rfl), mem_map_versionOf.mpr List.mem_cons_self⟩
  · -- along a path the queues grow
    intro P hP
    unfold Queue.onPath queuesOfSys
    rw [List.filter_map, List.pairwise_map]
    refine ((keyDests_before h.wf.sorted hP).filter _).imp_of_mem fun {a b} ha hb hab => ?_
    have ha' := (List.mem_filter.mp ha).2
    have hb' := List.mem_filter.mp hb
    simp only [Function.comp, isHotfix_versionOf, Bool.and_eq_true, List.contains_iff_mem,
      Bool.not_eq_eq_eq_not, Bool.not_true] at ha' hb'
    exact ids_subset_of_before h hv (hab ha'.1 ha'.2 hb'.2.1) (mem_keyDests.mp hb'.1).1

theorem selectOf_false_eq {s : Sys} (h : Inv s) (hv : Validated s) (b : Builds) :
    selectOf s b false = Queue.Spec.prs (queuesOfSys s) (stOfSys b s) := by
  have hW := wfq_of_inv h hv
  obtain ⟨hg, hi⟩ := Queue.stabilize_greatest (st := stOfSys b s) hW
  exact Queue.fixed_eq_spec hW hi hg

theorem selectOf_true_eq {s : Sys} (h : Inv s) (hv : Validated s) (b : Builds) :
    selectOf s b true = Queue.Spec.allPrs (queuesOfSys s) :=
  Queue.extract_eq_all (wfq_of_inv h hv)

theorem take_closed {L : List Nat} (hnd : L.Nodup) {x y : Nat} (hxy : [x, y].Sublist L) {k : Nat}
    (hy : y ∈ L.take k) : x ∈ L.take k := by
  rw [← List.take_append_drop k L] at hxy hnd
  obtain ⟨l1, l2, hsplit, h1, h2⟩ := List.sublist_append_iff.mp hxy
  have hdisj : ∀ a ∈ L.take k, a ∉ L.drop k := fun a ha hb => (List.nodup_append.mp hnd).2.2 a ha a hb rfl
  match l1, hsplit, h1 with
  | [], hsplit, _ =>
    simp only [List.nil_append] at hsplit
    subst hsplit
    exact absurd (h2.subset (by simp)) (hdisj y hy)
  | a :: l1', hsplit, h1 =>
    rw [(List.cons.inj hsplit).1]
    exact h1.subset List.mem_cons_self

theorem reverse_idsOn (s : Sys) (d : Dest) : (idsOn s d).reverse = (entriesOn s d).map (·.pr) := by
  rw [idsOn_eq, List.reverse_reverse]

theorem mem_of_pr_mem {s : Sys} (h : Inv s) {l : List QEntry} (hl : ∀ x ∈ l, x ∈ s.queue) {e : QEntry}
    (he : e ∈ s.queue) (hp : e.pr ∈ l.map (·.pr)) : e ∈ l := by
  obtain ⟨e', he', hpr⟩ := List.mem_map.mp hp
  exact eq_of_pr_eq h.q.ids (hl e' he') he hpr ▸ he'

theorem targets_of_mem_ids {s : Sys} (h : Inv s) {e : QEntry} (he : e ∈ s.queue) {d : Dest}
    (hp : e.pr ∈ (entriesOn s d).map (·.pr)) : d ∈ e.targets :=
  (mem_entriesOn.mp (mem_of_pr_mem h (fun _ hx => (mem_entriesOn.mp hx).1) he hp)).2

theorem take_entriesOn_closed {s : Sys} (h : Inv s) {e e' : QEntry} (hsub : [e, e'].Sublist s.queue) {d : Dest}
    (hd : d ∈ e.targets) (hd' : d ∈ e'.targets) {k : Nat} (hin : e'.pr ∈ ((entriesOn s d).map (·.pr)).take k) :
    e.pr ∈ ((entriesOn s d).map (·.pr)).take k := by
  have hpair : [e, e'].Sublist (entriesOn s d) := by
    simpa [entriesOn, List.filter_cons, hd, hd'] using hsub.filter fun e => e.targets.contains d
  exact take_closed (h.q.ids.sublist (List.Sublist.map _ List.filter_sublist))
    (List.Sublist.map (fun x : QEntry => x.pr) hpair) hin

theorem downClosed_cut {s : Sys} (h : Inv s) (hv : Validated s) (nh : Queue.Version → List Nat → Nat) (n : Nat) :
    DownClosed s (Queue.Spec.cut (queuesOfSys s) nh n) := by
  unfold DownClosed
  rw [List.pairwise_iff_forall_sublist]
  intro e e' hsub hsel' ⟨d, hd, hd'⟩
  have he : e ∈ s.queue := hsub.subset (by simp)
  have he' : e' ∈ s.queue := hsub.subset (by simp)
  rw [List.contains_iff_mem, Queue.mem_cut] at hsel' ⊢
  rcases hsel' with ⟨qe, hqe, hhf, hin⟩ | hin
  · -- a hotfix queue: `d` is its version
    obtain ⟨dh, _, rfl⟩ := List.mem_map.mp hqe
    refine Or.inl ⟨_, hqe, hhf, ?_⟩
    rw [isHotfix_versionOf] at hhf
    simp only [reverse_idsOn] at hin ⊢
    have ht' : dh ∈ e'.targets := targets_of_mem_ids h he' (List.mem_of_mem_take hin)
    obtain rfl : d = dh := hotfix_alone h.q.base he' ht' hhf hd'
    exact take_entriesOn_closed h hsub hd hd' hin
  · -- the main queue: both pull requests are on the greatest development version
    right
    unfold Queue.mainOrder at hin ⊢
    rw [mainList_queuesOfSys] at hin ⊢
    cases hg : gDev s with
    | none => simp [hg] at hin
    | some g =>
      simp only [hg, reverse_idsOn] at hin ⊢
      have ht' : devDest g ∈ e'.targets := targets_of_mem_ids h he' (List.mem_of_mem_take hin)
      have hf : isHf d = false := by
        cases hfd : isHf d with
        | false => rfl
        | true => rw [← hotfix_alone h.q.base he' hd' hfd ht'] at hfd; cases hfd
      obtain ⟨g', hg', ht⟩ := targets_gDev h hv he hd hf
      obtain rfl : g' = g := Option.some.inj (hg'.symm.trans hg)
      exact take_entriesOn_closed h hsub ht ht' hin

/-- the computed selection is closed downwards: the side condition of the queue merge of the system model
    holds of it, with or without force merge, whatever the build statuses. -/
theorem downClosed_selectOf {s : Sys} (h : Inv s) (hv : Validated s) (b : Builds) (force : Bool) :
    DownClosed s (selectOf s b force) := by
  cases force with
  | false => rw [selectOf_false_eq h hv]; exact downClosed_cut h hv _ _
  | true => rw [selectOf_true_eq h hv]; exact downClosed_cut h hv _ _

theorem lastTargeting_eq (d : Dest) : ∀ (L : List QEntry),
    lastTargeting L d = L.reverse.find? fun e => e.targets.contains d
  | [] => rfl
  | x :: xs => by
    rw [lastTargeting, lastTargeting_eq d xs, List.reverse_cons, List.find?_append]
    cases xs.reverse.find? fun e => e.targets.contains d with
    | some e => rfl
    | none => by_cases h : d ∈ x.targets <;> simp [h]

theorem lastTargeting_find (sel : List Nat) (d : Dest) (L : List QEntry) :
    (lastTargeting (L.filter fun e => sel.contains e.pr) d).map (·.pr) =
      ((L.filter fun e => e.targets.contains d).map (·.pr)).reverse.find? fun p => sel.contains p := by
  rw [lastTargeting_eq, ← List.filter_reverse, List.find?_filter, ← List.map_reverse, List.find?_map,
    ← List.filter_reverse, List.find?_filter]
  simp only [Function.comp, and_comm]

theorem find?_key {α β : Type} [BEq β] [LawfulBEq β] (f : α → β) : ∀ {l : List α} {a : α}, a ∈ l →
    (∀ x ∈ l, f x = f a → x = a) → l.find? (fun x => f x == f a) = some a
  | [], _, ha, _ => nomatch ha
  | x :: xs, a, ha, hinj => by
    by_cases hx : f x = f a
    · rw [List.find?_cons_of_pos (by simpa using hx), hinj x List.mem_cons_self hx]
    · rw [List.find?_cons_of_neg (by simpa using hx)]
      rcases List.mem_cons.mp ha with rfl | ha'
      · exact absurd rfl hx
      · exact find?_key f ha' fun y hy => hinj y (List.mem_cons_of_mem _ hy)

theorem toQ_successful {x : BertE.Build.Status} : toQ x = .successful ↔ x = .successful := by
  cases x <;> simp [toQ]

theorem stOfSys_eq {s : Sys} (h : Inv s) (hv : Validated s) (b : Builds) {e : QEntry} (he : e ∈ s.queue) {d : Dest}
    (hd : d ∈ e.targets) {c : Commit} (hc : qwOf s.remote e d = some c) :
    stOfSys b s e.pr (versionOf d) = toQ (b c) := by
  unfold stOfSys
  rw [find?_key versionOf (target_mem_keyDests h hv he hd) (fun _ _ => versionOf_inj),
    find?_key (·.pr) he (fun x hx hp => eq_of_pr_eq h.q.ids hx he hp)]
  simp only
  unfold qwOf at hc
  rw [hc]

theorem head_eq_lastTargeting {s : Sys} (h : Inv s) (hv : Validated s) (b : Builds) (force : Bool)
    {e0 : QEntry} (he0 : e0 ∈ s.queue) {d : Dest} (hd0 : d ∈ e0.targets) :
    (processSys s b force).head (versionOf d) =
      (lastTargeting (s.queue.filter fun e => (selectOf s b force).contains e.pr) d).map (·.pr) := by
  show (Queue.listOf (Queue.removeUnmergeable (selectOf s b force) (queuesOfSys s)) (versionOf d)).head? = _
  rw [Queue.listOf_removeUnmergeable, Queue.head?_dropWhile_eq_find?, listOf_queuesOfSys,
    if_pos (target_mem_keyDests h hv he0 hd0), lastTargeting_find, idsOn_eq]
  rfl

/-- the heads of the computed selection are green (no force merge): the commit a destination branch is moved
    to — the queue commit of the newest selected pull request that targets it — has a SUCCESSFUL build. -/
theorem heads_green_selectOf {s : Sys} (h : Inv s) (hv : Validated s) (b : Builds) {d : Dest} {e : QEntry}
    {c : Commit}
    (hl : lastTargeting (s.queue.filter fun e => (selectOf s b false).contains e.pr) d = some e)
    (hc : qwOf s.remote e d = some c) : b c = .successful := by
  have hW := wfq_of_inv h hv
  obtain ⟨hmem, hd⟩ := lastTargeting_mem hl
  have he : e ∈ s.queue := (List.mem_filter.mp hmem).1
  obtain ⟨hg, _⟩ := Queue.stabilize_greatest (st := stOfSys b s) hW
  have hhead := head_eq_lastTargeting h hv b false he hd
  rw [hl] at hhead
  have hgreen := hg.green (versionOf d) e.pr (by
    rw [Queue.sel, List.head?_filter, ← Queue.head?_dropWhile_eq_find?, ← Queue.listOf_removeUnmergeable]
    exact hhead)
  rw [stOfSys_eq h hv b he hd hc] at hgreen
  exact toQ_successful.mp hgreen

/-- the selection is only read when the pull request is found already queued -/
theorem step_evalPr_sel_irrelevant {s : Sys} {pr : PrInfo} (hq : alreadyQueued s pr = false) (stage : Stage)
    (orc : List Bool) (sel sel' : List Nat) :
    step s (.evalPr pr stage orc sel) = step s (.evalPr pr stage orc sel') := by
  simp only [step, plan, planPr, hq, Bool.false_eq_true, if_false]

theorem downClosed_nil (s : Sys) : DownClosed s [] := by
  unfold DownClosed
  apply List.pairwise_of_forall
  intro _ _ hc
  simp at hc

/-- What an event with computed selection needs of the state it is applied to: for a queue evaluation only that
    `validate()` passed (`Validated`); nothing about the selection. -/
def AdmB (s : Sys) : EventB → Prop
  | .queues _ _ => Validated s
  | .pr _ p _ _ => (alreadyQueued s p = true → Validated s) ∧
      (p.id ∈ s.queue.map (·.pr) → alreadyQueued s p = true)
  | .other ev => Adm s ev

def AdmAllB (s : Sys) : List EventB → Prop
  | [] => True
  | ev :: evs => AdmB s ev ∧ AdmAllB (step s (ev.toEvent s)).1 evs

theorem stepB_inv {s : Sys} (h : Inv s) (ev : EventB) (hadm : AdmB s ev) : Inv (step s (ev.toEvent s)).1 := by
  cases ev with
  | queues b force => exact step_inv h _ (downClosed_selectOf h hadm b force)
  | pr b p stage orc =>
    show Inv (step s (.evalPr p stage orc (selectOf s b false))).1
    cases hq : alreadyQueued s p with
    | true => exact step_inv h _ ⟨downClosed_selectOf h (hadm.1 hq) b false, hadm.2⟩
    | false =>
      rw [step_evalPr_sel_irrelevant hq stage orc _ []]
      exact step_inv h _ ⟨downClosed_nil s, hadm.2⟩
  | other ev => exact step_inv h ev hadm

theorem runB_inv : ∀ (evs : List EventB) {s : Sys}, Inv s → AdmAllB s evs → Inv (runB s evs)
  | [], _, h, _ => h
  | ev :: evs, _, h, hadm => runB_inv evs (stepB_inv h ev hadm.1) hadm.2

theorem admAllB_take : ∀ (evs : List EventB) (s : Sys), AdmAllB s evs → ∀ k, AdmAllB s (evs.take k)
  | [], _, _, k => by simp [AdmAllB]
  | ev :: evs, s, hadm, k => by
    cases k with
    | zero => simp [AdmAllB]
    | succ k => exact ⟨hadm.1, admAllB_take evs _ hadm.2 k⟩

/-- the queued pull requests that are not on a hotfix branch, in order of entry -/
def mainQueue (s : Sys) : List QEntry := s.queue.filter fun e => e.targets.any fun d => !isHf d

def hotDests (s : Sys) : List Dest := (queueDests s.remote).filter isHf

/-- on every destination, the queue commit of the newest pull request of `sel` that targets it is SUCCESSFUL
    (`C03.HeadsGreen`, spelled out) -/
def Green (b : Builds) (s : Sys) (sel : List Nat) : Prop :=
  ∀ d e c, lastTargeting (s.queue.filter fun e => sel.contains e.pr) d = some e → qwOf s.remote e d = some c →
    b c = .successful

section
variable {s : Sys} (h : Inv s) (hv : Validated s)
include h hv

theorem mainOrder_queuesOfSys : Queue.mainOrder (queuesOfSys s) = (mainQueue s).map (·.pr) := by
  unfold Queue.mainOrder mainQueue
  rw [mainList_queuesOfSys]
  cases hg : gDev s with
  | none =>
    rw [List.filter_eq_nil_iff.mpr]
    · rfl
    · intro e he hany
      obtain ⟨d, hd, hf⟩ := List.any_eq_true.mp hany
      obtain ⟨g, hg', _⟩ := targets_gDev h hv he hd (by simpa using hf)
      rw [hg] at hg'; cases hg'
  | some g =>
    simp only
    rw [reverse_idsOn]
    congr 1
    apply List.filter_congr
    intro e he
    rw [Bool.eq_iff_iff, List.contains_iff_mem, List.any_eq_true]
    constructor
    · exact fun hc => ⟨devDest g, hc, rfl⟩
    · rintro ⟨d, hd, hf⟩
      obtain ⟨g', hg', ht⟩ := targets_gDev h hv he hd (by simpa using hf)
      rwa [Option.some.inj (hg'.symm.trans hg)] at ht

theorem greenOn_iff (b : Builds) (sel : List Nat) (d : Dest) :
    Queue.Spec.greenOn (stOfSys b s) sel (versionOf d) (idsOn s d) = true ↔
      ∀ e c, lastTargeting (s.queue.filter fun e => sel.contains e.pr) d = some e → qwOf s.remote e d = some c →
        b c = .successful := by
  unfold Queue.Spec.greenOn Queue.Spec.newestIn
  rw [idsOn_eq, entriesOn, ← lastTargeting_find sel d s.queue]
  cases hl : lastTargeting (s.queue.filter fun e => sel.contains e.pr) d with
  | none => simp
  | some e =>
    obtain ⟨hmem, hdt⟩ := lastTargeting_mem hl
    have he : e ∈ s.queue := (List.mem_filter.mp hmem).1
    obtain ⟨c, _, hc, _, _⟩ := h.q.base.entry e he d hdt
    simp only [Option.map_some]
    rw [stOfSys_eq h hv b he hdt hc, beq_iff_eq, toQ_successful]
    constructor
    · intro hb e' c' he' hc'
      cases he'
      rw [hc] at hc'
      cases hc'
      exact hb
    · exact fun hall => hall e c rfl hc

/-- a selection of pull requests of the main queue: "green on every development / stabilization version" is
    `Green` -/
theorem mainGreen_iff (b : Builds) (k : Nat) :
    Queue.Spec.mainGreen (queuesOfSys s) (stOfSys b s) k = true ↔
      Green b s (((mainQueue s).take k).map (·.pr)) := by
  unfold Queue.Spec.mainGreen Green
  rw [mainOrder_queuesOfSys h hv, ← List.map_take, List.all_eq_true]
  constructor
  · intro hall d e c hl hc
    obtain ⟨hmem, hdt⟩ := lastTargeting_mem hl
    have hef := List.mem_filter.mp hmem
    have he : e ∈ s.queue := hef.1
    have := hall _ (List.mem_map.mpr ⟨d, target_mem_keyDests h hv he hdt, rfl⟩)
    rw [isHotfix_versionOf] at this
    cases hf : isHf d with
    | true =>
      -- a selected entry is an entry of the main queue: it has a target that is not a hotfix branch
      have hem : e ∈ (mainQueue s).take k :=
        mem_of_pr_mem h (fun _ hx => (List.mem_filter.mp (List.mem_of_mem_take hx)).1) he
          (List.contains_iff_mem.mp hef.2)
      obtain ⟨d', hd', hf'⟩ := List.any_eq_true.mp (List.mem_filter.mp (List.mem_of_mem_take hem)).2
      cases hotfix_alone h.q.base he hdt hf hd'
      rw [hf] at hf'; cases hf'
    | false =>
      rw [hf, Bool.false_or] at this
      exact (greenOn_iff h hv b _ d).mp this e c hl hc
  · refine fun hg => List.forall_mem_map.mpr fun d _ => ?_
    rw [isHotfix_versionOf]
    cases hf : isHf d with
    | true => rfl
    | false => exact (greenOn_iff h hv b _ d).mpr (hg d)

/-- a selection of pull requests of one hotfix queue: "green on that version" is `Green` -/
theorem hotfixGreen_iff (b : Builds) {d : Dest} (hdk : d ∈ keyDests s) (hf : isHf d = true) (k : Nat) :
    Queue.Spec.hotfixGreen (stOfSys b s) (versionOf d) (idsOn s d) k = true ↔
      Green b s (((entriesOn s d).take k).map (·.pr)) := by
  unfold Queue.Spec.hotfixGreen Green
  rw [reverse_idsOn, ← List.map_take]
  rw [greenOn_iff h hv b _ d]
  constructor
  · intro hall d' e c hl hc
    obtain ⟨hmem, hdt⟩ := lastTargeting_mem hl
    have hef := List.mem_filter.mp hmem
    have hem : e ∈ (entriesOn s d).take k :=
      mem_of_pr_mem h (fun _ hx => (mem_entriesOn.mp (List.mem_of_mem_take hx)).1) hef.1
        (List.contains_iff_mem.mp hef.2)
    cases hotfix_alone h.q.base hef.1 (mem_entriesOn.mp (List.mem_of_mem_take hem)).2 hf hdt
    exact hall e c hl hc
  · exact fun hg => hg d

omit h hv in
theorem filter_hotfix_queuesOfSys :
    (queuesOfSys s).filter (fun e => Queue.isHotfix e.1) = (hotDests s).map fun d => (versionOf d, idsOn s d) := by
  have hkeys : (keyDests s).filter isHf = hotDests s := by
    unfold keyDests hotDests
    have h2 : ((queueDests s.remote).filter isSt).filter isHf = [] :=
      List.filter_eq_nil_iff.mpr fun d hd => by
        obtain ⟨_, _, _, rfl⟩ := isSt_stab (List.mem_filter.mp hd).2
        exact Bool.false_ne_true
    have h3 : ∀ ks : List Key, (ks.map devDest).filter isHf = [] := fun ks =>
      List.filter_eq_nil_iff.mpr fun d hd => by
        obtain ⟨k, _, rfl⟩ := List.mem_map.mp hd
        simp [isHf_devDest]
    simp only [List.filter_append, List.filter_filter, Bool.and_self, h2, h3, List.append_nil]
  unfold queuesOfSys
  rw [List.filter_map, ← hkeys]
  congr 1
  exact List.filter_congr fun d _ => isHotfix_versionOf d

/-- the cut of the collection, on the system state: the first entries of every hotfix queue, then the first
    entries of the main queue — sub-lists of `s.queue`, in order of entry. -/
theorem cut_queuesOfSys (nh : Queue.Version → List Nat → Nat) (n : Nat) :
    Queue.Spec.cut (queuesOfSys s) nh n =
      (hotDests s).flatMap (fun d => ((entriesOn s d).take (nh (versionOf d) (idsOn s d))).map (·.pr)) ++
        ((mainQueue s).take n).map (·.pr) := by
  unfold Queue.Spec.cut
  rw [mainOrder_queuesOfSys h hv, filter_hotfix_queuesOfSys, List.flatMap_map, List.map_take]
  congr 1
  apply Queue.flatMap_congr'
  intro d _
  simp only
  rw [reverse_idsOn, List.map_take]

end

end BertE.Select
