import BertE.Lemmas.Cascade
/- The specification depends only on the *sets* of branches and tags: any order of discovery gives the
   same result. -/
namespace BertE.Cascade
open Spec

theorem all_congr_mem {α : Type} {l l' : List α} (h : ∀ x, x ∈ l ↔ x ∈ l') (f : α → Bool) : l.all f = l'.all f := by
  rw [Bool.eq_iff_iff, List.all_eq_true, List.all_eq_true]
  constructor
  · intro hh x hx; exact hh x ((h x).mpr hx)
  · intro hh x hx; exact hh x ((h x).mp hx)

theorem maxOr_congr (x : Int) {α : Type} {l l' : List α} (h : ∀ a, a ∈ l ↔ a ∈ l') (p : α → Bool) (f : α → Int) :
    maxOr x ((l.filter p).map f) = maxOr x ((l'.filter p).map f) := by
  unfold maxOr
  apply maxInts_congr
  intro a
  simp only [List.mem_map, List.mem_filter, h]

section
variable {bs bs' : List Branch} {tags tags' : List Tag}

theorem deprecated_congr (hb : ∀ x, x ∈ bs ↔ x ∈ bs') (ht : ∀ x, x ∈ tags ↔ x ∈ tags') (d : Branch) :
    deprecated bs tags d = deprecated bs' tags' d := by
  unfold deprecated
  rw [any_congr_mem ht]
  congr 1
  funext t
  exact any_congr_mem hb _

theorem orphan_congr (hb : ∀ x, x ∈ bs ↔ x ∈ bs') (b : Branch) : orphan bs b = orphan bs' b := by
  unfold orphan
  cases b with
  | stab M m u =>
    simp only [List.contains_eq_mem]
    congr 1
    rw [Bool.eq_iff_iff]
    simp only [decide_eq_true_eq]
    exact hb _
  | dev M m => rfl
  | hotfix M m u => rfl

theorem orphanErr_congr (hb : ∀ x, x ∈ bs ↔ x ∈ bs') (d : Branch) : orphanErr bs d = orphanErr bs' d := by
  have ho : orphan bs = orphan bs' := funext (orphan_congr hb)
  unfold orphanErr
  rw [ho, any_congr_mem hb, any_congr_mem hb (fun b => orphan bs' b && b.key == d.key), all_congr_mem hb]

theorem maxMicro_congr (ht : ∀ x, x ∈ tags ↔ x ∈ tags') (M m : Nat) : maxMicro tags M m = maxMicro tags' M m := by
  unfold maxMicro
  exact maxOr_congr _ ht _ _

theorem mismatch_congr (ht : ∀ x, x ∈ tags ↔ x ∈ tags') (d : Branch) : mismatch tags d = mismatch tags' d := by
  unfold mismatch
  cases d with
  | stab M m s => simp only [maxMicro_congr ht]
  | dev M m => rfl
  | hotfix M m u => rfl

theorem error_congr (hb : ∀ x, x ∈ bs ↔ x ∈ bs') (ht : ∀ x, x ∈ tags ↔ x ∈ tags') (d : Branch) :
    Spec.error bs tags d = Spec.error bs' tags' d := by
  unfold Spec.error
  rw [multipleStab_congr hb, deprecated_congr hb ht, orphanErr_congr hb, mismatch_congr ht]

theorem sortByKey_congr {l l' : List Branch} (h : l.Perm l') (hd : ∀ b ∈ l, b.isDev = true) :
    sortByKey l = sortByKey l' := by
  refine eq_mergeSort keyLe_dec_trans keyLe_dec_total (List.pairwise_mergeSort keyLe_dec_trans keyLe_dec_total l)
    ((sortByKey_perm l).trans h) ?_
  intro a b ha hb hab hba
  have hk := keyLe_antisymm (of_decide_eq_true hab) (of_decide_eq_true hba)
  obtain ⟨M, m, rfl⟩ := isDev_iff.mp (hd a (h.mem_iff.mpr ha))
  obtain ⟨M', m', rfl⟩ := isDev_iff.mp (hd b (h.mem_iff.mpr hb))
  simp only [Branch.key, Prod.mk.injEq] at hk
  rw [hk.1, hk.2]

theorem devsFrom_congr (hp : bs.Perm bs') (d : Branch) : devsFrom bs d = devsFrom bs' d := by
  unfold devsFrom
  apply sortByKey_congr (hp.filter _)
  intro b hb
  have := (List.mem_filter.mp hb).2
  simp only [Bool.and_eq_true] at this
  exact this.1

theorem dst_congr (hp : bs.Perm bs') (d : Branch) : Spec.dst bs d = Spec.dst bs' d := by
  unfold Spec.dst
  cases d <;> simp only [devsFrom_congr hp]

theorem ignored_congr (hp : bs.Perm bs') (d : Branch) : Spec.ignored bs d = Spec.ignored bs' d := by
  unfold Spec.ignored
  rw [dst_congr hp]
  exact sortNames_perm ((hp.filter _).map _)

theorem latestMinor_congr (hp : bs.Perm bs') (ht : ∀ x, x ∈ tags ↔ x ∈ tags') (M : Nat) :
    latestMinor bs tags M = latestMinor bs' tags' M := by
  unfold latestMinor maxOr
  apply maxInts_congr
  intro a
  simp only [List.mem_append, List.mem_filterMap, List.mem_filter, List.mem_map, hp.mem_iff, ht]

theorem devVersion_congr (hp : bs.Perm bs') (ht : ∀ x, x ∈ tags ↔ x ∈ tags') (b : Branch) :
    devVersion bs tags b = devVersion bs' tags' b := by
  unfold devVersion
  cases b with
  | dev M m =>
    cases m with
    | some m => simp only [maxMicro_congr ht, any_congr_mem (fun x => hp.mem_iff)]
    | none => simp only [latestMinor_congr hp ht]
  | stab M m u => rfl
  | hotfix M m u => rfl

theorem targetVersions_congr (hp : bs.Perm bs') (ht : ∀ x, x ∈ tags ↔ x ∈ tags') (d : Branch) :
    targetVersions bs tags d = targetVersions bs' tags' d := by
  have hv : devVersion bs tags = devVersion bs' tags' := funext (devVersion_congr hp ht)
  unfold targetVersions
  cases d with
  | hotfix M m u =>
    simp only [hfRev]
    rw [maxOr_congr _ ht]
  | stab M m s => simp only [devsFrom_congr hp, hv]
  | dev M m => simp only [devsFrom_congr hp, hv]

theorem oneStab_of (h : multipleStab bs = false) :
    ∀ M m u u', Branch.stab M m u ∈ bs → Branch.stab M m u' ∈ bs → u = u' := by
  intro M m u u' h1 h2
  apply Classical.byContradiction
  intro hne
  rw [multipleStab_of hne h1 h2] at h
  cases h

theorem allDevs_congr (hp : bs.Perm bs') : allDevs bs = allDevs bs' := by
  unfold allDevs
  apply sortByKey_congr (hp.filter _)
  intro b hb
  exact (List.mem_filter.mp hb).2

theorem pathStarts_congr (hp : bs.Perm bs') (h1 : multipleStab bs = false) (d : Branch) :
    pathStarts bs d = pathStarts bs' d := by
  have hperm : (bs.filter fun b => (b.isStab || (b.isHotfix && b == d)) && bs.contains (.dev b.key.1 b.key.2)).Perm
      (bs'.filter fun b => (b.isStab || (b.isHotfix && b == d)) && bs'.contains (.dev b.key.1 b.key.2)) := by
    have hc : ∀ b : Branch, bs'.contains b = bs.contains b := fun b => by
      simp only [List.contains_eq_mem, hp.mem_iff]
    simp only [hc]
    exact hp.filter _
  refine eq_mergeSort startLe_trans startLe_total (List.pairwise_mergeSort startLe_trans startLe_total _)
    ((List.mergeSort_perm _ _).trans hperm) ?_
  intro a b ha hb
  obtain ⟨ha1, ha2, _⟩ := mem_startsFilter.mp ha
  obtain ⟨hb1, hb2, _⟩ := mem_startsFilter.mp hb
  exact startLe_antisymm (oneStab_of ((multipleStab_congr fun x => hp.mem_iff).symm.trans h1)) ha1 hb1 ha2 hb2

theorem mergePaths_congr (hp : bs.Perm bs') (h1 : multipleStab bs = false) (d : Branch) :
    Spec.mergePaths bs d = Spec.mergePaths bs' d := by
  unfold Spec.mergePaths
  rw [allDevs_congr hp, pathStarts_congr hp h1]

theorem result_congr (hp : bs.Perm bs') (ht : tags.Perm tags') (d : Branch) :
    Spec.result bs tags d = Spec.result bs' tags' d := by
  have hb : ∀ x, x ∈ bs ↔ x ∈ bs' := fun x => hp.mem_iff
  have htm : ∀ x, x ∈ tags ↔ x ∈ tags' := fun x => ht.mem_iff
  unfold Spec.result
  rw [← error_congr hb htm]
  cases he : Spec.error bs tags d with
  | some e => rfl
  | none =>
    have h1 : multipleStab bs = false := by
      cases hm : multipleStab bs with
      | false => rfl
      | true => simp [Spec.error, hm] at he
    simp only [dst_congr hp, ignored_congr hp, targetVersions_congr hp htm, mergePaths_congr hp h1]

end

end BertE.Cascade
