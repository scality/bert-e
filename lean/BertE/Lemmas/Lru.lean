import BertE.Model.Lru
/- Lemmas about the recency-ordered association list that models `LRUCache`. -/
namespace BertE.Lru
variable {κ ν : Type} [DecidableEq κ]

theorem lookup_eq_none_iff {l : Cache κ ν} {k : κ} : lookup l k = none ↔ k ∉ keys l := by
  induction l with
  | nil => simp [lookup, keys]
  | cons e rest ih =>
    obtain ⟨k', v⟩ := e
    by_cases h : k' = k
    · simp [lookup, keys, h]
    · simp only [lookup, h, if_false, ih, keys, List.map_cons, List.mem_cons, not_or]
      exact ⟨fun hn => ⟨fun e => h e.symm, hn⟩, fun hn => hn.2⟩

theorem mem_keys_of_lookup {l : Cache κ ν} {k : κ} {v : ν} (h : lookup l k = some v) : k ∈ keys l :=
  Decidable.byContradiction fun hn => by rw [lookup_eq_none_iff.mpr hn] at h; cases h

theorem remove_cons (e : κ × ν) (l : Cache κ ν) (k : κ) :
    remove (e :: l) k = if e.1 = k then remove l k else e :: remove l k := by
  by_cases h : e.1 = k <;> simp [remove, h]

theorem keys_remove (l : Cache κ ν) (k : κ) : keys (remove l k) = (keys l).filter (fun k' => k' ≠ k) := by
  simp only [keys, remove, List.filter_map]
  rfl

theorem mem_keys_remove {l : Cache κ ν} {k k' : κ} : k' ∈ keys (remove l k) ↔ k' ∈ keys l ∧ k' ≠ k := by
  simp [keys_remove]

theorem lookup_remove_ne {l : Cache κ ν} {k k' : κ} (h : k' ≠ k) : lookup (remove l k) k' = lookup l k' := by
  induction l with
  | nil => rfl
  | cons e rest ih =>
    rw [remove_cons]
    by_cases h1 : e.1 = k
    · simp only [h1, if_true, ih, lookup, Ne.symm h, if_false]
    · simp only [h1, if_false, lookup, ih]

theorem lookup_remove_self {l : Cache κ ν} {k : κ} : lookup (remove l k) k = none :=
  lookup_eq_none_iff.mpr (fun h => (mem_keys_remove.mp h).2 rfl)

theorem nodup_remove {l : Cache κ ν} (k : κ) (h : (keys l).Nodup) : (keys (remove l k)).Nodup := by
  rw [keys_remove]
  exact List.Nodup.sublist List.filter_sublist h

theorem length_remove_lt {l : Cache κ ν} {k : κ} (h : k ∈ keys l) : (remove l k).length < l.length := by
  obtain ⟨e, he, rfl⟩ := List.mem_map.mp h
  exact List.length_filter_lt_length_iff_exists.mpr ⟨e, he, by simp⟩

omit [DecidableEq κ] in
theorem mem_keys_take {l : Cache κ ν} {n : Nat} {k : κ} (h : k ∈ keys (l.take n)) : k ∈ keys l := by
  obtain ⟨e, he, rfl⟩ := List.mem_map.mp h
  exact List.mem_map.mpr ⟨e, List.mem_of_mem_take he, rfl⟩

theorem lookup_take {l : Cache κ ν} {n : Nat} {k : κ} (h : k ∈ keys (l.take n)) :
    lookup (l.take n) k = lookup l k := by
  induction l generalizing n with
  | nil => simp [keys] at h
  | cons e rest ih =>
    cases n with
    | zero => simp [keys] at h
    | succ n =>
      simp only [List.take_succ_cons, lookup]
      by_cases e' : e.1 = k
      · simp only [e', if_true]
      · simp only [e', if_false]
        apply ih
        simp only [List.take_succ_cons, keys, List.map_cons, List.mem_cons] at h
        exact h.resolve_left (fun e'' => e' e''.symm)

theorem access_cases (cap : Nat) (l : Cache κ ν) (a : Access κ ν) :
    (a.key ∉ keys l ∧ access cap l a = l) ∨
    (a.key ∈ keys l ∧ ∃ v, access cap l a = (a.key, v) :: remove l a.key) ∨
    (a.key ∉ keys l ∧ ∃ v, access cap l a = (a.key, v) :: l.take (cap - 1)) := by
  cases a with
  | get k =>
    simp only [access, get, Access.key]
    cases h : lookup l k with
    | none => exact Or.inl ⟨lookup_eq_none_iff.mp h, rfl⟩
    | some v => exact Or.inr (Or.inl ⟨mem_keys_of_lookup h, v, rfl⟩)
  | set k v =>
    simp only [access, set, Access.key]
    cases h : lookup l k with
    | none => exact Or.inr (Or.inr ⟨lookup_eq_none_iff.mp h, v, rfl⟩)
    | some _ => exact Or.inr (Or.inl ⟨mem_keys_of_lookup h, v, rfl⟩)

theorem get_fst (l : Cache κ ν) (k : κ) : (get l k).1 = lookup l k := by
  unfold get
  cases lookup l k <;> rfl

theorem keys_get_mem {l : Cache κ ν} {k k' : κ} : k' ∈ keys (get l k).2 ↔ k' ∈ keys l := by
  unfold get
  cases h : lookup l k with
  | none => rfl
  | some v =>
    show k' ∈ k :: keys (remove l k) ↔ _
    rw [List.mem_cons, mem_keys_remove]
    have hk := mem_keys_of_lookup h
    by_cases e : k' = k
    · simp [e, hk]
    · simp [e]

theorem lookup_get (l : Cache κ ν) (k k' : κ) : lookup (get l k).2 k' = lookup l k' := by
  unfold get
  cases h : lookup l k with
  | none => rfl
  | some v =>
    by_cases e : k = k'
    · subst e; simp [lookup, h]
    · simp only [lookup, e, if_false]
      exact lookup_remove_ne (fun e' => e e'.symm)

theorem get_get (l : Cache κ ν) (k : κ) : get (get l k).2 k = get l k := by
  unfold get
  cases h : lookup l k with
  | none => simp only [h]
  | some v => simp [lookup, remove, List.filter_filter]

theorem lookup_set_self (cap : Nat) (l : Cache κ ν) (k : κ) (v : ν) : lookup (set cap l k v) k = some v := by
  unfold set
  cases lookup l k <;> simp [lookup]

theorem lookup_set_ne {cap : Nat} {l : Cache κ ν} {k k' : κ} {v : ν} (hne : k' ≠ k)
    (hmem : k' ∈ keys (set cap l k v)) : lookup (set cap l k v) k' = lookup l k' := by
  unfold set at hmem ⊢
  have hne' : ¬ k = k' := fun e => hne e.symm
  cases h : lookup l k with
  | some _ =>
    simp only [lookup, hne', if_false]
    exact lookup_remove_ne hne
  | none =>
    simp only [h, keys, List.map_cons, List.mem_cons] at hmem
    simp only [lookup, hne', if_false]
    exact lookup_take (hmem.resolve_left hne)

theorem mem_keys_set_imp {cap : Nat} {l : Cache κ ν} {k k' : κ} {v : ν}
    (hmem : k' ∈ keys (set cap l k v)) : k' = k ∨ k' ∈ keys l := by
  rcases access_cases cap l (.set k v) with ⟨_, h⟩ | ⟨_, _, h⟩ | ⟨_, _, h⟩ <;>
    simp only [access, Access.key] at h <;> rw [h] at hmem
  · exact Or.inr hmem
  · exact (List.mem_cons.mp hmem).imp_right fun hm => (mem_keys_remove.mp hm).1
  · exact (List.mem_cons.mp hmem).imp_right mem_keys_take

theorem set?_eq {cap : Nat} (h : 1 ≤ cap) (l : Cache κ ν) (k : κ) (v : ν) :
    set? cap l k v = some (set cap l k v) := by
  unfold set?
  have : ¬ cap = 0 := by omega
  simp [this]

theorem lru_len {cap : Nat} (hcap : 1 ≤ cap) {l : Cache κ ν} (h : l.length ≤ cap) (a : Access κ ν) :
    (access cap l a).length ≤ cap := by
  rcases access_cases cap l a with ⟨_, ha⟩ | ⟨hk, _, ha⟩ | ⟨_, _, ha⟩ <;> rw [ha]
  · exact h
  · have := length_remove_lt hk
    simp only [List.length_cons]
    omega
  · simp only [List.length_cons, List.length_take]
    omega

theorem lru_nodup {cap : Nat} {l : Cache κ ν} (h : (keys l).Nodup) (a : Access κ ν) :
    (keys (access cap l a)).Nodup := by
  rcases access_cases cap l a with ⟨_, ha⟩ | ⟨_, _, ha⟩ | ⟨hk, _, ha⟩ <;> rw [ha]
  · exact h
  · exact List.nodup_cons.mpr ⟨fun hm => (mem_keys_remove.mp hm).2 rfl, nodup_remove _ h⟩
  · refine List.nodup_cons.mpr ⟨fun hm => hk (mem_keys_take hm), ?_⟩
    exact List.Nodup.sublist (List.Sublist.map _ (List.take_sublist _ _)) h

theorem accesses_inv {cap : Nat} {P : Cache κ ν → Prop} : ∀ (as : List (Access κ ν)) {l : Cache κ ν},
    (∀ a ∈ as, ∀ l, P l → P (access cap l a)) → P l → P (accesses cap l as)
  | [], _, _, h => h
  | a :: as, _, hstep, h =>
    accesses_inv as (fun a' ha' => hstep a' (List.mem_cons_of_mem _ ha')) (hstep a List.mem_cons_self _ h)

theorem lru_get_set (cap : Nat) (l : Cache κ ν) (k : κ) (v : ν) : (get (set cap l k v) k).1 = some v := by
  rw [get_fst, lookup_set_self]

theorem front_cons_self (k : κ) (v : ν) (l : Cache κ ν) : front ((k, v) :: l) k = [] := by
  simp [front, keys]

theorem front_cons_ne {k k0 : κ} (v : ν) (l : Cache κ ν) (h : k ≠ k0) :
    front ((k, v) :: l) k0 = k :: front l k0 := by
  simp [front, keys, h]

theorem front_access_self {cap : Nat} {l : Cache κ ν} {a : Access κ ν} (h : a.key ∈ keys (access cap l a)) :
    front (access cap l a) a.key = [] := by
  rcases access_cases cap l a with ⟨hk, ha⟩ | ⟨_, _, ha⟩ | ⟨_, _, ha⟩ <;> rw [ha] at h ⊢
  · exact absurd h hk
  · exact front_cons_self _ _ _
  · exact front_cons_self _ _ _

/-- position of `k0`: the number of keys in front of it; `k0` is present iff that is less than the length -/
theorem front_length_lt {l : Cache κ ν} {k0 : κ} (h : k0 ∈ keys l) : (front l k0).length < l.length := by
  induction l with
  | nil => simp [keys] at h
  | cons e rest ih =>
    obtain ⟨k, v⟩ := e
    by_cases e' : k = k0
    · subst e'; simp [front_cons_self]
    · rw [front_cons_ne v rest e']
      have := ih ((List.mem_cons.mp h).resolve_left fun e'' => e' e''.symm)
      simp only [List.length_cons]; omega

theorem front_subset_keys {l : Cache κ ν} {k0 k : κ} (h : k ∈ front l k0) : k ∈ keys l ∧ k ≠ k0 := by
  unfold front at h
  exact ⟨(List.takeWhile_sublist _).subset h, by simpa using List.all_eq_true.mp List.all_takeWhile k h⟩

theorem front_remove {l : Cache κ ν} {k k0 : κ} (hne : k ≠ k0) :
    front (remove l k) k0 = (front l k0).filter (fun k' => k' ≠ k) := by
  induction l with
  | nil => rfl
  | cons e rest ih =>
    obtain ⟨k', v⟩ := e
    rw [remove_cons]
    by_cases h1 : k' = k
    · subst h1
      rw [if_pos rfl, ih, front_cons_ne v rest hne]
      simp
    · rw [if_neg h1]
      by_cases h2 : k' = k0
      · subst h2; simp [front_cons_self]
      · rw [front_cons_ne v _ h2, front_cons_ne v _ h2, ih]
        simp [h1]

theorem mem_take_of_front {l : Cache κ ν} {k0 : κ} {n : Nat} (hm : k0 ∈ keys l)
    (h : (front l k0).length < n) : k0 ∈ keys (l.take n) ∧ front (l.take n) k0 = front l k0 := by
  induction l generalizing n with
  | nil => simp [keys] at hm
  | cons e rest ih =>
    obtain ⟨k, v⟩ := e
    cases n with
    | zero => omega
    | succ n =>
      by_cases e' : k = k0
      · subst e'
        simp [keys, front_cons_self]
      · rw [front_cons_ne v rest e'] at h
        simp only [List.length_cons] at h
        obtain ⟨h1, h2⟩ := ih (n := n) ((List.mem_cons.mp hm).resolve_left fun e'' => e' e''.symm) (by omega)
        exact ⟨List.mem_cons_of_mem _ h1, by rw [List.take_succ_cons, front_cons_ne v _ e', front_cons_ne v _ e', h2]⟩

/-- `T` lists the keys that may come in front of `k0`: fewer than `cap`, so `k0` is not evicted. -/
theorem front_access {cap : Nat} {l : Cache κ ν} {k0 : κ} {T : List κ} (a : Access κ ν)
    (hnd : (keys l).Nodup) (hmem : k0 ∈ keys l) (hfront : ∀ k ∈ front l k0, k ∈ T)
    (ha : a.key ≠ k0 → a.key ∈ T) (hlt : T.length < cap) :
    k0 ∈ keys (access cap l a) ∧ ∀ k ∈ front (access cap l a) k0, k ∈ T := by
  have hsub : a.key ≠ k0 → ∀ x ∈ a.key :: front l k0, x ∈ T := fun hk x hx =>
    (List.mem_cons.mp hx).elim (fun e => e ▸ ha hk) (hfront x)
  rcases access_cases cap l a with ⟨_, h⟩ | ⟨hk, v, h⟩ | ⟨hknot, v, h⟩ <;> rw [h]
  · exact ⟨hmem, hfront⟩
  · by_cases hk0 : a.key = k0
    · rw [hk0]
      exact ⟨List.mem_cons_self, by simp [front_cons_self]⟩
    · refine ⟨List.mem_cons_of_mem _ (mem_keys_remove.mpr ⟨hmem, fun e => hk0 e.symm⟩), ?_⟩
      intro k' hk'
      rw [front_cons_ne v _ hk0, front_remove hk0] at hk'
      rcases List.mem_cons.mp hk' with rfl | hk'
      · exact ha hk0
      · exact hfront k' (List.mem_filter.mp hk').1
  · -- the key is new: it is in `T` but not in front of `k0`, so the front is shorter than `T`
    have hk0 : a.key ≠ k0 := fun e => hknot (e ▸ hmem)
    have hnd' : (a.key :: front l k0).Nodup :=
      List.nodup_cons.mpr ⟨fun h => hknot (front_subset_keys h).1, List.Nodup.sublist (List.takeWhile_sublist _) hnd⟩
    have hlen := hnd'.length_le_of_subset (fun x hx => hsub hk0 x hx)
    simp only [List.length_cons] at hlen
    obtain ⟨h1, h2⟩ := mem_take_of_front (n := cap - 1) hmem (by omega)
    refine ⟨List.mem_cons_of_mem _ h1, ?_⟩
    intro k' hk'
    rw [front_cons_ne v _ hk0, h2] at hk'
    exact hsub hk0 k' hk'

theorem lru_retains_front {cap : Nat} {T : List κ} (hlt : T.length < cap) {k0 : κ} (as : List (Access κ ν))
    {l : Cache κ ν} (hnd : (keys l).Nodup) (hmem : k0 ∈ keys l) (hfront : ∀ k ∈ front l k0, k ∈ T)
    (has : ∀ a ∈ as, a.key ≠ k0 → a.key ∈ T) :
    k0 ∈ keys (accesses cap l as) ∧ ∀ k ∈ front (accesses cap l as) k0, k ∈ T :=
  (accesses_inv (P := fun l => (keys l).Nodup ∧ k0 ∈ keys l ∧ ∀ k ∈ front l k0, k ∈ T) as
    (fun a ha _ ⟨hnd, hmem, hfront⟩ => ⟨lru_nodup hnd a, front_access a hnd hmem hfront (has a ha) hlt⟩)
    ⟨hnd, hmem, hfront⟩).2

/-- Retention: after `k0` was read or written it survives any sequence of accesses that involve fewer than `cap`
    distinct other keys. -/
theorem lru_retains {cap : Nat} {l : Cache κ ν} (hnd : (keys l).Nodup) (a0 : Access κ ν)
    (hin : k0 ∈ keys (access cap l a0)) (h0 : a0.key = k0)
    {T : List κ} (hlt : T.length < cap)
    (as : List (Access κ ν)) (has : ∀ a ∈ as, a.key ≠ k0 → a.key ∈ T) :
    k0 ∈ keys (accesses cap (access cap l a0) as) := by
  subst h0
  refine (lru_retains_front hlt as (lru_nodup hnd a0) hin ?_ has).1
  rw [front_access_self hin]
  simp

end BertE.Lru
