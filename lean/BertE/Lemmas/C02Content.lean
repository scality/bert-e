import BertE.Lemmas.C02
/- Exact content of the direct merge (C02, recovery): the commits that existed before the job and are below the
   new tip of each target are exactly those below the source, the destinations and the integration branches of
   the targets up to that one - whatever git's content merges answered, whatever commits the merges created. -/
namespace BertE.Git
open Graph

theorem merge_exact {g : Graph} (hg : g.WF) {tip : Commit} {srcs : List Commit} {ok : Bool}
    (htip : tip < g.size) (_hsrcs : ∀ s ∈ srcs, s < g.size)
    {g' : Graph} {r : Commit} (hm : merge g tip srcs ok = (g', some r)) (a : Commit) (ha : a < g.size) :
    g'.le a r = true ↔ (g.le a tip = true ∨ ∃ s ∈ srcs, g.le a s = true) := by
  -- the old tip and the sources are the parents of the merge: one list
  have hps : (g.le a tip = true ∨ ∃ s ∈ srcs, g.le a s = true) ↔ ∃ p ∈ tip :: srcs, g.le a p = true := by
    simp only [List.mem_cons, exists_eq_or_imp]
  rw [hps]
  unfold merge at hm
  split at hm
  · next h ht =>
    cases hm
    obtain ⟨hmem, hall⟩ := topHead_spec ht
    exact ⟨fun hle => ⟨_, hmem, hle⟩, fun ⟨p, hp, h1⟩ => le_trans hg h1 (hall p hp)⟩
  · split at hm
    · cases hm
      rw [addCommit_new, le_iff, addCommit_ancsOf_new, List.mem_cons, mem_parentsAncs]
      simp only [← le_iff]
      exact ⟨fun h => h.resolve_left (Nat.ne_of_lt ha), Or.inr⟩
    · cases hm

end BertE.Git

namespace BertE.Flow
open BertE.Git

theorem exists_mem_pair {α : Type} {p : α → Prop} {x y : α} : (∃ z ∈ [x, y], p z) ↔ p x ∨ p y := by
  simp

theorem Loc.merge_exact {l l' : Loc} (hl : l.OK) {r : Ref} {srcs : List Commit}
    (hs : ∀ s ∈ srcs, s < l.g.size) (hm : l.merge r srcs = some l') :
    ∃ old new, l.refs.get r = some old ∧ l'.refs.get r = some new ∧
      ∀ a, a < l.g.size → (l'.g.le a new = true ↔ (l.g.le a old = true ∨ ∃ s ∈ srcs, l.g.le a s = true)) := by
  obtain ⟨tip, c, ok, hr, hm', hrefs⟩ := Loc.merge_eq_some hm
  exact ⟨tip, c, hr, by rw [hrefs, RefMap.get_set_eq],
    fun a ha => BertE.Git.merge_exact hl.wf (hl.valid r tip hr) hs hm' a ha⟩

/-- after some 2-way merges of commits among `cs`, successful or not, branch `r` holds - among the commits that
    existed before - only what its old tip or one of `cs` held -/
def Loc.Ub (l l' : Loc) (r : Ref) (cs : List Commit) : Prop :=
  ∀ old new, l.refs.get r = some old → l'.refs.get r = some new →
    ∀ x, x < l.g.size → l'.g.le x new = true → (l.g.le x old = true ∨ ∃ s ∈ cs, l.g.le x s = true)

theorem Loc.merge1_ub {l : Loc} (hl : l.OK) {r : Ref} {c : Commit} {cs : List Commit} (hc : c < l.g.size)
    (hmem : c ∈ cs) : Loc.Ub l (l.merge1 r c).1 r cs := by
  intro old new ho hn x hx hle
  rcases l.merge1_eq r c with ⟨l', hm, he⟩ | ⟨_, he⟩
  · rw [he] at hn hle
    obtain ⟨o', n', ho', hn', hex⟩ := Loc.merge_exact hl (List.forall_mem_singleton.mpr hc) hm
    rw [ho] at ho'; rw [hn] at hn'
    cases ho'; cases hn'
    rcases (hex x hx).mp hle with h | ⟨s, hs', h⟩
    · exact Or.inl h
    · exact Or.inr ⟨c, hmem, List.mem_singleton.mp hs' ▸ h⟩
  · rw [he] at hn hle
    rw [l.ask_g.2, ho] at hn
    simp only [Option.some.injEq] at hn
    subst hn
    rw [l.ask_g.1] at hle
    exact Or.inl hle

theorem Loc.Ub.trans {l l1 l2 : Loc} {r : Ref} {cs : List Commit} (h1 : Loc.Ub l l1 r cs) (h2 : Loc.Ub l1 l2 r cs)
    (hst : Loc.Step l l1 r) (hcs : ∀ s ∈ cs, s < l.g.size) : Loc.Ub l l2 r cs := by
  intro old new ho hn x hx hle
  obtain ⟨o, n1, ho', hn1, _⟩ := hst.grow
  rw [ho] at ho'; simp only [Option.some.injEq] at ho'; subst ho'
  rcases h2 n1 new hn1 hn x (hst.ext.lt hx) hle with h | ⟨s, hs, h⟩
  · exact h1 old n1 ho hn1 x hx h
  · rw [hst.ext.2 x s (hcs s hs)] at h
    exact Or.inr ⟨s, hs, h⟩

theorem Loc.seq2_ub {l : Loc} (hl : l.OK) {r : Ref} {x y : Commit} {cs : List Commit}
    (hcs : ∀ s ∈ cs, s < l.g.size) (hx : x ∈ cs) (hy : y ∈ cs) (hr : l.refs.has r = true) :
    Loc.Ub l (l.seq2 r x y).1 r cs := by
  have h1 := Loc.merge1_ub (r := r) hl (hcs x hx) hx
  obtain ⟨hs1, _⟩ := Loc.merge1_step hl (hcs x hx) hr
  unfold Loc.seq2
  simp only
  split
  · exact h1.trans (Loc.merge1_ub hs1.ok (hs1.ext.lt (hcs y hy)) hy) hs1 hcs
  · exact h1

/-- the intermediate merge commits of `consecutive_merge` add nothing that existed before -/
theorem Loc.merge2_exact {l l' : Loc} (hl : l.OK) {r : Ref} {a b : Commit}
    (hs : ∀ s ∈ [a, b], s < l.g.size) (hm2 : l.merge2 r a b = some l') :
    ∃ old new, l.refs.get r = some old ∧ l'.refs.get r = some new ∧
      ∀ x, x < l.g.size → (l'.g.le x new = true ↔ (l.g.le x old = true ∨ ∃ s ∈ [a, b], l.g.le x s = true)) := by
  obtain ⟨hl', hext, _, old, new, ho, hn, hon, hsrc⟩ := Loc.merge2_spec hl hs hm2
  have hub : Loc.Ub l l' r [a, b] := by
    have ha : a ∈ [a, b] := List.mem_cons_self
    have hb : b ∈ [a, b] := List.mem_cons_of_mem _ List.mem_cons_self
    have hr : l.refs.has r = true := RefMap.has_of_get ho
    have u1 := Loc.seq2_ub hl hs ha hb hr
    obtain ⟨st1, _⟩ := Loc.seq2_step hl (hs a ha) (hs b hb) hr
    unfold Loc.merge2 at hm2
    simp only [hr, Bool.not_true, Bool.false_eq_true, if_false] at hm2
    split at hm2
    · cases hm2
      exact u1
    · split at hm2
      · cases hm2
        exact u1.trans (Loc.seq2_ub st1.ok (fun s hs' => st1.ext.lt (hs s hs')) hb ha st1.has) st1 hs
      · cases hm2
  refine ⟨old, new, ho, hn, fun x hx => ⟨hub old new ho hn x hx, ?_⟩⟩
  rintro (h | ⟨s, hs', h⟩)
  · exact le_trans hl'.wf (hext.le (hl.valid _ _ ho) h) hon
  · exact le_trans hl'.wf (hext.le (hs s hs') h) (hsrc s hs')

theorem Loc.mergeN_exact {l l' : Loc} (hl : l.OK) {n : Bool} {r : Ref} {a b : Commit}
    (hs : ∀ s ∈ [a, b], s < l.g.size) (hm : l.mergeN n r a b = some l') :
    ∃ old new, l.refs.get r = some old ∧ l'.refs.get r = some new ∧
      ∀ x, x < l.g.size → (l'.g.le x new = true ↔ (l.g.le x old = true ∨ ∃ s ∈ [a, b], l.g.le x s = true)) := by
  cases n with
  | false => exact Loc.merge_exact hl hs (by simpa [Loc.mergeN] using hm)
  | true => exact Loc.merge2_exact hl hs (by simpa [Loc.mergeN] using hm)

theorem Loc.mergeD_exact {l l' : Loc} (hl : l.OK) {n : Bool} {r : Ref} {a b : Commit}
    (hs : ∀ s ∈ [a, b], s < l.g.size) (hm : l.mergeD n r a b = some l') :
    ∃ old new, l.refs.get r = some old ∧ l'.refs.get r = some new ∧
      ∀ x, x < l.g.size → (l'.g.le x new = true ↔ (l.g.le x old = true ∨ ∃ s ∈ [a, b], l.g.le x s = true)) := by
  cases n with
  | false => exact Loc.merge_exact hl hs (by simpa [Loc.mergeD] using hm)
  | true =>
    obtain ⟨o, nw, ho, hn, hex⟩ := Loc.merge2_exact (a := b) (b := a) hl
      (fun s h => hs s (by simpa [or_comm] using h)) (by simpa [Loc.mergeD] using hm)
    refine ⟨o, nw, ho, hn, fun x hx => ?_⟩
    rw [hex x hx, exists_mem_pair, exists_mem_pair]
    exact or_congr Iff.rfl or_comm

/-- `a` is on the integration branch of target `d` (as the clone sees it) -/
def Wc (g : Graph) (m : RefMap) (src : String) (d : Dest) (a : Commit) : Prop :=
  ∃ w, m.get (.w d src) = some w ∧ g.le a w = true

/-- `a` is on destination branch `d` -/
def Dc (g : Graph) (m : RefMap) (d : Dest) (a : Commit) : Prop :=
  ∃ t, m.get (.dest d) = some t ∧ g.le a t = true

theorem tip_congr {g g' : Graph} {m m' : RefMap} {r : Ref} (hv : RefsValid g m) (he : Extends g g')
    (hm : m'.get r = m.get r) (a : Commit) :
    (∃ t, m'.get r = some t ∧ g'.le a t = true) ↔ ∃ t, m.get r = some t ∧ g.le a t = true := by
  rw [hm]
  exact exists_congr fun t => and_congr_right fun ht => by rw [he.2 a t (hv _ _ ht)]

theorem Wc_congr {g g' : Graph} {m m' : RefMap} {src : String} {d : Dest} (hv : RefsValid g m) (he : Extends g g')
    (hm : m'.get (.w d src) = m.get (.w d src)) (a : Commit) : Wc g' m' src d a ↔ Wc g m src d a :=
  tip_congr hv he hm a

theorem Dc_congr {g g' : Graph} {m m' : RefMap} {d : Dest} (hv : RefsValid g m) (he : Extends g g')
    (hm : m'.get (.dest d) = m.get (.dest d)) (a : Commit) : Dc g' m' d a ↔ Dc g m d a :=
  tip_congr hv he hm a

theorem rec_mem_prefix {α : Type} {pre post : List α} {d x : α} {l : List α} (hsplit : l = pre ++ d :: post)
    (hx : x ∈ pre ++ [d]) : x ∈ l := by
  rw [hsplit, List.append_cons]
  exact List.mem_append_left _ hx

theorem tip_iff {g : Graph} {m : RefMap} {r : Ref} {t : Commit} (h : m.get r = some t) (a : Commit) :
    (∃ t', m.get r = some t' ∧ g.le a t' = true) ↔ g.le a t = true := by
  rw [h]
  exact ⟨fun ⟨_, ht, hle⟩ => Option.some.inj ht ▸ hle, fun hle => ⟨t, rfl, hle⟩⟩

/-- One more step in front of a chain of merges along the targets. The step gives target `d` the tip `c`, whose
    content `C` is `A` (the previous tip) and `P d` (the branches of `d`); it leaves the branches of the other targets
    as they are (`P1` after the step); the rest of the chain starts from `c`. -/
theorem content_cons {α : Type} {Tip : α → Commit → Prop} {Le : Commit → Commit → Prop}
    {P P1 : α → Commit → Prop} {A C : Commit → Prop} {N : Nat} {d : α} {ds : List α} {c : Commit}
    (htip : Tip d c) (hcc : ∀ a, Le a c ↔ C a) (hc : ∀ a, a < N → (C a ↔ (A a ∨ P d a)))
    (hP : ∀ d' ∈ ds, ∀ a, P1 d' a ↔ P d' a)
    (hrest : ∀ pre x post, ds = pre ++ x :: post → ∃ w, Tip x w ∧
      ∀ a, a < N → (Le a w ↔ (C a ∨ ∃ d' ∈ pre ++ [x], P1 d' a))) :
    ∀ pre x post, d :: ds = pre ++ x :: post → ∃ w, Tip x w ∧
      ∀ a, a < N → (Le a w ↔ (A a ∨ ∃ d' ∈ pre ++ [x], P d' a)) := by
  intro pre x post hsplit
  cases pre with
  | nil =>
    obtain ⟨rfl, _⟩ := List.cons.inj hsplit
    exact ⟨c, htip, fun a ha => by rw [hcc, hc a ha]; simp⟩
  | cons y pre' =>
    obtain ⟨rfl, hds⟩ := List.cons.inj hsplit
    obtain ⟨w, hw, hcont⟩ := hrest pre' x post hds
    refine ⟨w, hw, fun a ha => ?_⟩
    rw [hcont a ha, hc a ha, List.cons_append]
    simp only [List.mem_cons, exists_eq_or_imp, or_assoc]
    exact or_congr Iff.rfl (or_congr Iff.rfl (exists_congr fun d' => and_congr_right fun hd' =>
      hP d' (rec_mem_prefix hds hd') a))

/-- after a successful update the integration branch of the k-th remaining target contains, among the commits that
    existed before, exactly what `prev` and the integration and destination branches of the targets up to it contained -/
theorem updateW_content (pr : PrInfo) (N : Nat) : ∀ (ds : List Dest) {l l' : Loc} {prev : Commit}
    {done done' : List Ref}, l.OK → prev < l.g.size → N ≤ l.g.size → ds.Nodup →
    updateW l pr prev ds done = (l', done', true) →
    l'.OK ∧ Extends l.g l'.g ∧ (∀ x, (∀ d ∈ ds, x ≠ .w d pr.src) → l'.refs.get x = l.refs.get x) ∧
    ∀ pre d post, ds = pre ++ d :: post → ∃ w', l'.refs.get (.w d pr.src) = some w' ∧
      ∀ a, a < N → (l'.g.le a w' = true ↔
        (l.g.le a prev = true ∨ ∃ d' ∈ pre ++ [d], Wc l.g l.refs pr.src d' a ∨ Dc l.g l.refs d' a))
  | [], l, l', prev, done, done', hl, _, _, _, hm => by
    simp only [updateW, Prod.mk.injEq] at hm
    obtain ⟨rfl, _, _⟩ := hm
    refine ⟨hl, Extends.refl _, fun _ _ => rfl, ?_⟩
    intro pre d post h
    cases pre <;> cases h
  | d :: ds, l, l', prev, done, done', hl, hp, hN, hnd, hm => by
    rw [updateW] at hm
    split at hm
    · cases hm
    · next t ht =>
      split at hm
      · cases hm
      · next l1 hm1 =>
        have hs : ∀ x ∈ [t, prev], x < l.g.size := forall_mem_pair.mpr ⟨hl.valid _ _ ht, hp⟩
        obtain ⟨hl1, hext1, hsame1, _⟩ := Loc.mergeN_spec hl hs hm1
        obtain ⟨wold, c, hwold, hc, hex⟩ := Loc.mergeN_exact hl hs hm1
        rw [hc] at hm
        simp only at hm
        have hclt : c < l1.g.size := hl1.valid _ _ hc
        rw [List.nodup_cons] at hnd
        obtain ⟨hl', hext2, hsame2, hrest⟩ := updateW_content pr N ds hl1 hclt
          (Nat.le_trans hN hext1.1) hnd.2 hm
        refine ⟨hl', hext1.trans hext2, fun x hx => ?_, ?_⟩
        · rw [hsame2 x fun d' hd' => hx d' (List.mem_cons_of_mem _ hd')]
          exact hsame1 x (hx d List.mem_cons_self)
        · refine content_cons (C := fun a => l1.g.le a c = true) ?_ (fun a => by rw [hext2.2 a c hclt]) ?_ ?_ hrest
          · rw [hsame2 _ fun d' hd' he => hnd.1 (by cases he; exact hd')]
            exact hc
          · intro a ha
            rw [hex a (Nat.lt_of_lt_of_le ha hN), exists_mem_pair]
            exact (or_congr (tip_iff hwold a).symm (or_congr (tip_iff ht a).symm Iff.rfl)).trans or_rotate.symm
          · intro d' hd' a
            have hne : d' ≠ d := fun he => hnd.1 (he ▸ hd')
            exact or_congr (Wc_congr hl.valid hext1 (hsame1 _ fun he => hne (Ref.w.inj he).1) a)
              (Dc_congr hl.valid hext1 (hsame1 _ fun he => nomatch he) a)

theorem mergeRest_content (pr : PrInfo) (N : Nat) : ∀ (ds : List Dest) {l l' : Loc} {prevD : Commit},
    l.OK → prevD < l.g.size → N ≤ l.g.size → ds.Nodup → mergeRest l pr prevD ds = some l' →
    l'.OK ∧ Extends l.g l'.g ∧ (∀ x, (∀ d ∈ ds, x ≠ .dest d) → l'.refs.get x = l.refs.get x) ∧
    ∀ pre d post, ds = pre ++ d :: post → ∃ n, l'.refs.get (.dest d) = some n ∧
      ∀ a, a < N → (l'.g.le a n = true ↔
        (l.g.le a prevD = true ∨ ∃ d' ∈ pre ++ [d], Dc l.g l.refs d' a ∨ Wc l.g l.refs pr.src d' a))
  | [], l, l', prevD, hl, _, _, _, hm => by
    simp only [mergeRest, Option.some.injEq] at hm
    subst hm
    refine ⟨hl, Extends.refl _, fun _ _ => rfl, ?_⟩
    intro pre d post h
    cases pre <;> cases h
  | d :: ds, l, l', prevD, hl, hp, hN, hnd, hm => by
    rw [mergeRest] at hm
    split at hm
    · cases hm
    · next wc hw =>
      split at hm
      · cases hm
      · next l1 hm1 =>
        have hs : ∀ x ∈ [prevD, wc], x < l.g.size := forall_mem_pair.mpr ⟨hp, hl.valid _ _ hw⟩
        obtain ⟨hl1, hext1, hsame1, _⟩ := Loc.mergeD_spec hl hs hm1
        obtain ⟨told, c, htold, hc, hex⟩ := Loc.mergeD_exact hl hs hm1
        rw [hc] at hm
        simp only at hm
        have hclt : c < l1.g.size := hl1.valid _ _ hc
        rw [List.nodup_cons] at hnd
        obtain ⟨hl', hext2, hsame2, hrest⟩ := mergeRest_content pr N ds hl1 hclt
          (Nat.le_trans hN hext1.1) hnd.2 hm
        refine ⟨hl', hext1.trans hext2, fun x hx => ?_, ?_⟩
        · rw [hsame2 x fun d' hd' => hx d' (List.mem_cons_of_mem _ hd')]
          exact hsame1 x (hx d List.mem_cons_self)
        · refine content_cons (C := fun a => l1.g.le a c = true) ?_ (fun a => by rw [hext2.2 a c hclt]) ?_ ?_ hrest
          · rw [hsame2 _ fun d' hd' he => hnd.1 (by cases he; exact hd')]
            exact hc
          · intro a ha
            rw [hex a (Nat.lt_of_lt_of_le ha hN), exists_mem_pair]
            exact (or_congr (tip_iff htold a).symm (or_congr Iff.rfl (tip_iff hw a).symm)).trans or_left_comm
          · intro d' hd' a
            have hne : d' ≠ d := fun he => hnd.1 (he ▸ hd')
            exact or_congr (Dc_congr hl.valid hext1 (hsame1 _ fun he => hne (Ref.dest.inj he)) a)
              (Wc_congr hl.valid hext1 (hsame1 _ fun he => nomatch he) a)

theorem quiet_getLast {ops : List Op} (h : ∀ op ∈ ops, op.Quiet) {loc : RefMap} {p : Bool} :
    ops.getLast? ≠ some (.pushAll loc p) := by
  intro he
  exact h _ (List.mem_of_getLast? he)

/-- what the new tip of the first target contains -/
def FirstC (g : Graph) (m : RefMap) (sc : Commit) (d1 : Dest) (a : Commit) : Prop :=
  Dc g m d1 a ∨ g.le a sc = true

/-- what the k-th further target ends with: the first target's new content, and the destination and integration
    branches (as they were in the snapshot) of the further targets up to the k-th -/
def FinalC (g : Graph) (m : RefMap) (src : String) (sc : Commit) (d1 : Dest) (upto : List Dest) (a : Commit) : Prop :=
  FirstC g m sc d1 a ∨ ∃ d' ∈ upto, Dc g m d' a ∨ Wc g m src d' a

theorem FirstC_congr {g g' : Graph} {m m' : RefMap} {sc : Commit} {d1 : Dest} {a : Commit}
    (hD : Dc g' m' d1 a ↔ Dc g m d1 a) (hsc : g'.le a sc = g.le a sc) :
    FirstC g' m' sc d1 a ↔ FirstC g m sc d1 a := by
  unfold FirstC
  rw [hD, hsc]

theorem FinalC_congr {g g' : Graph} {m m' : RefMap} {src : String} {sc : Commit} {d1 : Dest} {upto : List Dest}
    {a : Commit} (hD : ∀ d, Dc g' m' d a ↔ Dc g m d a) (hsc : g'.le a sc = g.le a sc)
    (hW : ∀ d ∈ upto, (Wc g m src d a → Wc g' m' src d a) ∧ (Wc g' m' src d a → FinalC g m src sc d1 upto a)) :
    FinalC g' m' src sc d1 upto a ↔ FinalC g m src sc d1 upto a := by
  have hF := FirstC_congr (hD d1) hsc
  constructor
  · rintro (h | ⟨d, hd, h | h⟩)
    · exact Or.inl (hF.mp h)
    · exact Or.inr ⟨d, hd, Or.inl ((hD d).mp h)⟩
    · exact (hW d hd).2 h
  · rintro (h | ⟨d, hd, h | h⟩)
    · exact Or.inl (hF.mpr h)
    · exact Or.inr ⟨d, hd, Or.inl ((hD d).mpr h)⟩
    · exact Or.inr ⟨d, hd, Or.inr ((hW d hd).1 h)⟩

theorem directMerge_content {s : Sys} {l4 : Loc} {pr : PrInfo} {sc : Commit} {ts : List Dest} {d1 : Dest}
    {ds : List Dest} {pre : List Op} (hts : ts = d1 :: ds) (N : Nat) (hl : l4.OK) (hsc : sc < l4.g.size)
    (hN : N ≤ l4.g.size) (hnd : ts.Nodup) (hpre : ∀ op ∈ pre, op.Quiet) {loc : RefMap}
    (hlast : (directMerge s l4 pr sc ts pre).ops.getLast? = some (.pushAll loc true)) :
    (directMerge s l4 pr sc ts pre).ops =
      pre ++ (if s.useQueue then qOnly l4.refs else []).map Op.delete ++ [Op.pushAll loc true] ∧
    (∃ n1, loc.get (.dest d1) = some n1 ∧ ∀ a, a < N →
      ((directMerge s l4 pr sc ts pre).g.le a n1 = true ↔ FirstC l4.g l4.refs sc d1 a)) ∧
    ∀ pre' d post, ds = pre' ++ d :: post → ∃ n, loc.get (.dest d) = some n ∧ ∀ a, a < N →
      ((directMerge s l4 pr sc ts pre).g.le a n = true ↔ FinalC l4.g l4.refs pr.src sc d1 (pre' ++ [d]) a) := by
  subst hts
  have hcases := directMerge_cases s l4 pr sc d1 ds pre
  generalize hqs : (if s.useQueue then qOnly l4.refs else []) = qs at hcases ⊢
  have hqq : ∀ r ∈ qs, ∃ d, r = .q d := hqs ▸ directMerge_qs s l4
  have hpq : ∀ op ∈ pre ++ qs.map Op.delete, op.Quiet :=
    List.forall_mem_append.mpr ⟨hpre, deletes_quiet qs fun r hr => by obtain ⟨d, rfl⟩ := hqq r hr; rfl⟩
  have h5 : ∀ x, (∀ d, x ≠ .q d) → (delRefs l4.refs qs).get x = l4.refs.get x :=
    fun x hx => get_delRefs_of_not_q hqq hx
  rcases hcases with h | ⟨l6, n1, l7, hm1, hn1, hm2, hg, hops⟩
  · rw [h] at hlast
    exact absurd hlast (quiet_getLast hpq)
  · rw [hops, List.getLast?_concat] at hlast
    cases hlast
    rw [hops, hg]
    have hs1 : ∀ x ∈ [sc], x < l4.g.size := List.forall_mem_singleton.mpr hsc
    obtain ⟨hl6, hext1, hsame1, _⟩ := Loc.merge_spec (hl.delRefs qs) hs1 hm1
    obtain ⟨o1, n1', ho1, hn1', hex1⟩ := Loc.merge_exact (hl.delRefs qs) hs1 hm1
    rw [hn1] at hn1'
    cases hn1'
    have hn1lt : n1 < l6.g.size := hl6.valid _ _ hn1
    rw [List.nodup_cons] at hnd
    obtain ⟨hl7, hext2, hsame2, hrest⟩ := mergeRest_content pr N ds hl6 hn1lt
      (Nat.le_trans hN hext1.1) hnd.2 hm2
    have hdel := delRefs_dest_same l7.refs _ (wMap_not_dest ds pr.src)
    have hfirst : ∀ a, a < N → (l6.g.le a n1 = true ↔ FirstC l4.g l4.refs sc d1 a) := by
      intro a ha
      rw [hex1 a (Nat.lt_of_lt_of_le ha hN)]
      simp only [List.mem_singleton, exists_eq_left]
      exact or_congr (tip_iff ((h5 (.dest d1) fun _ h => nomatch h).symm.trans ho1) a).symm Iff.rfl
    refine ⟨rfl, ⟨n1, ?_, fun a ha => by rw [hext2.2 a n1 hn1lt]; exact hfirst a ha⟩, ?_⟩
    · rw [hdel, hsame2 _ fun d' hd' he => hnd.1 (by cases he; exact hd')]
      exact hn1
    · intro pre' d post hsplit
      obtain ⟨n, hn, hcont⟩ := hrest pre' d post hsplit
      refine ⟨n, (hdel d).trans hn, fun a ha => ?_⟩
      rw [hcont a ha, hfirst a ha]
      refine or_congr Iff.rfl (exists_congr fun d' => and_congr_right fun hd' => ?_)
      have hne : d' ≠ d1 := fun he => hnd.1 (he ▸ rec_mem_prefix hsplit hd')
      exact or_congr
        (Dc_congr hl.valid hext1
          ((hsame1 (.dest d') fun he => hne (Ref.dest.inj he)).trans (h5 _ fun _ h => nomatch h)) a)
        (Wc_congr hl.valid hext1
          ((hsame1 (.w d' pr.src) fun he => nomatch he).trans (h5 _ fun _ h => nomatch h)) a)

/-- a missing integration branch is created at the tip of its target: what the two branches of a target hold
    TOGETHER does not change -/
theorem createW_spec (pr : PrInfo) : ∀ (ds : List Dest) (l : Loc),
    (createW l pr ds).g = l.g ∧
    (∀ x, (∀ d ∈ ds, x ≠ .w d pr.src) → (createW l pr ds).refs.get x = l.refs.get x) ∧
    ∀ d a, (Wc l.g (createW l pr ds).refs pr.src d a ∨ Dc l.g (createW l pr ds).refs d a) ↔
      (Wc l.g l.refs pr.src d a ∨ Dc l.g l.refs d a)
  | [], l => ⟨rfl, fun _ _ => rfl, fun _ _ => Iff.rfl⟩
  | d :: ds, l => by
    rw [createW]
    split
    · next t hw ht =>
      obtain ⟨h1, h2, h3⟩ := createW_spec pr ds { l with refs := l.refs.set (.w d pr.src) t }
      refine ⟨h1, fun x hx => ?_, fun d' a => (h3 d' a).trans ?_⟩
      · rw [h2 x fun d' hd' => hx d' (List.mem_cons_of_mem _ hd')]
        exact RefMap.get_set_ne _ _ (hx d List.mem_cons_self)
      · unfold Wc Dc
        simp only
        rw [RefMap.get_set_ne (r := .w d pr.src) (x := .dest d') _ _ (fun he => nomatch he)]
        by_cases hd : d' = d
        · -- the new branch holds what its target holds
          subst hd
          rw [RefMap.get_set_eq, hw, ht]
          simp
        · rw [RefMap.get_set_ne _ _ (fun he => hd (Ref.w.inj he).1)]
    · obtain ⟨h1, h2, h3⟩ := createW_spec pr ds l
      exact ⟨h1, fun x hx => h2 x fun d' hd' => hx d' (List.mem_cons_of_mem _ hd'), h3⟩

theorem targets_cons (s : Sys) (d : Dest) : s.targets d = d :: (s.targets d).drop 1 := by
  cases d <;> simp [Sys.targets]

theorem resetW_cases (remote : RefMap) (src : String) : ∀ (rest : List Dest) (m : RefMap) (x : Ref),
    let r := rest.foldl (fun m d => match remote.get (.w d src) with
        | some c => m.set (.w d src) c
        | none => m) m
    r.get x = m.get x ∨ ∃ d ∈ rest, x = .w d src ∧ (remote.get x).isSome = true ∧ r.get x = remote.get x
  | [], _, _ => Or.inl rfl
  | d :: rest, m, x => by
    simp only [List.foldl_cons]
    rcases resetW_cases remote src rest _ x with h | ⟨d', hd', h⟩
    · rw [h]
      split
      · next c hc =>
        rw [RefMap.get_set]
        split
        · next hx =>
          exact Or.inr ⟨d, List.mem_cons_self, hx, Option.isSome_iff_exists.mpr ⟨c, hx ▸ hc⟩, (hx ▸ hc).symm⟩
        · exact Or.inl rfl
      · exact Or.inl rfl
    · exact Or.inr ⟨d', List.mem_cons_of_mem _ hd', h⟩

theorem settle_cases (s : Sys) (pr : PrInfo) (rest : List Dest) (sync : Bool) (l3 : Loc) :
    (settle s pr rest sync l3).g = l3.g ∧
    ∀ x, (settle s pr rest sync l3).refs.get x = l3.refs.get x ∨
      ∃ d ∈ rest, x = .w d pr.src ∧ s.useQueue = true ∧ (s.remote.get x).isSome = true ∧
        (settle s pr rest sync l3).refs.get x = s.remote.get x := by
  unfold settle
  split
  · rename_i h
    refine ⟨rfl, fun x => ?_⟩
    rcases resetW_cases s.remote pr.src rest l3.refs x with h' | ⟨d, hd, hx, hs, h'⟩
    · exact Or.inl h'
    · exact Or.inr ⟨d, hd, hx, (Bool.and_eq_true _ _ ▸ h).1, hs, h'⟩
  · exact ⟨rfl, fun _ => Or.inl rfl⟩

theorem conflictCheck_same (l : Loc) (dc sc : Commit) :
    (conflictCheck l dc sc).2.g = l.g ∧ (conflictCheck l dc sc).2.refs = l.refs := by
  unfold conflictCheck
  split
  · exact ⟨rfl, rfl⟩
  · exact l.ask_g

/-- the content of every integration branch handed over to the merge is known exactly - unless, with queues enabled,
    the branch was in sync and `settle` has put it back to its remote value -/
theorem prepare_wcontent {s : Sys} (hs : s.WF) (pr : PrInfo) {sc dc : Commit}
    (hsclt : sc < s.g.size) (orc : List Bool) {l4 : Loc} {pushW : List Op}
    (hprep : prepare s pr sc dc orc = .inr (l4, pushW)) :
    pushW = pushWOps l4 pr ((s.targets pr.dst).drop 1) ∧
    (∀ x, (∀ d ∈ (s.targets pr.dst).drop 1, x ≠ .w d pr.src) → l4.refs.get x = s.remote.get x) ∧
    ∀ pre d post, (s.targets pr.dst).drop 1 = pre ++ d :: post → ∃ w', l4.refs.get (.w d pr.src) = some w' ∧
      ((∀ a, a < s.g.size → (l4.g.le a w' = true ↔
        (s.g.le a sc = true ∨ ∃ d'' ∈ pre ++ [d], Wc s.g s.remote pr.src d'' a ∨ Dc s.g s.remote d'' a))) ∨
       (s.useQueue = true ∧ s.remote.get (.w d pr.src) = some w')) := by
  have hnd' : ((s.targets pr.dst).drop 1).Nodup :=
    (pairwise_before_nodup (targets_pairwise hs.sorted pr.dst)).sublist (List.drop_sublist 1 _)
  revert hprep
  refine prepare_elim (motive := fun r => r = .inr (l4, pushW) → _) s pr sc dc orc fun l1 l2 u h1 h2 hu =>
    ⟨(fun h => nomatch h), (fun h => nomatch h), fun hok l4' hl4 h => ?_⟩
  cases h
  generalize (s.targets pr.dst).drop 1 = rest at h1 hu hl4 hnd' ⊢
  generalize inSync _ _ _ _ = sync at hl4
  obtain ⟨hg1, hoth1, hw1⟩ := createW_spec pr rest ⟨s.g, s.remote, orc⟩
  have hl2 : l2.OK := h2 ▸ (conflictCheck_wonly (h1 ▸ (createW_wonly pr rest ⟨hs.g, hs.valid⟩).ok) dc sc).ok
  obtain ⟨hg2, hr2⟩ := conflictCheck_same l1 dc sc
  rw [← h2, h1] at hg2 hr2
  rw [hg1] at hg2
  obtain ⟨_, _, hsame3, hcontW⟩ := updateW_content pr s.g.size rest hl2 (hg2 ▸ hsclt)
    (Nat.le_of_eq (congrArg Graph.size hg2.symm)) hnd' (show updateW l2 pr sc rest [] = (u.1, u.2.1, true) by
      rw [← hu, ← hok])
  obtain ⟨hg4, hcases⟩ := settle_cases s pr rest sync u.1
  rw [← hl4] at hg4 hcases
  have hWD : ∀ d a, (Wc l2.g l2.refs pr.src d a ∨ Dc l2.g l2.refs d a) ↔
      (Wc s.g s.remote pr.src d a ∨ Dc s.g s.remote d a) := by
    rw [hg2, hr2]
    exact hw1
  refine ⟨rfl, fun x hx => ?_, fun pre d post hsplit => ?_⟩
  · rcases hcases x with h | ⟨d, hd, hxe, _⟩
    · rw [h, hsame3 x hx, hr2]
      exact hoth1 x hx
    · exact absurd hxe (hx d hd)
  · obtain ⟨w3, hw3, hcw⟩ := hcontW pre d post hsplit
    rcases hcases (.w d pr.src) with h | ⟨_, _, _, huq, hsome, h⟩
    · refine ⟨w3, h.trans hw3, Or.inl fun a ha => ?_⟩
      rw [hg4, hcw a ha]
      exact or_congr (by rw [hg2]) (exists_congr fun d'' => and_congr_right fun _ => hWD d'' a)
    · obtain ⟨w0, hw0⟩ := Option.isSome_iff_exists.mp hsome
      exact ⟨w0, h.trans hw0, Or.inr ⟨huq, hw0⟩⟩

/-- the run of a direct merge that reached its publishing push, as far as recovery needs it -/
structure DirectRun (s : Sys) (pr : PrInfo) (sc : Commit) (p : Plan) (loc : RefMap) (l4 : Loc) : Prop where
  ok : l4.OK
  ext1 : Extends s.g l4.g
  ext2 : Extends l4.g p.g
  wf : p.g.WF
  ops : p.ops = pushWOps l4 pr ((s.targets pr.dst).drop 1) ++ [Op.pushAll loc true]
  same : ∀ x, (∀ d ∈ (s.targets pr.dst).drop 1, x ≠ .w d pr.src) → l4.refs.get x = s.remote.get x
  wcont : ∀ pre d post, (s.targets pr.dst).drop 1 = pre ++ d :: post → ∃ w', l4.refs.get (.w d pr.src) = some w' ∧
    ∀ a, a < s.g.size → (l4.g.le a w' = true ↔
      (s.g.le a sc = true ∨ ∃ d'' ∈ pre ++ [d], Wc s.g s.remote pr.src d'' a ∨ Dc s.g s.remote d'' a))
  first : ∃ n1, loc.get (.dest pr.dst) = some n1 ∧ ∀ a, a < s.g.size →
    (p.g.le a n1 = true ↔ FirstC s.g s.remote sc pr.dst a)
  further : ∀ pre d post, (s.targets pr.dst).drop 1 = pre ++ d :: post → ∃ n, loc.get (.dest d) = some n ∧
    ∀ a, a < s.g.size → (p.g.le a n = true ↔ FinalC s.g s.remote pr.src sc pr.dst (pre ++ [d]) a)

theorem push_fold_cases (g : Graph) (rej : Ref → Bool) : ∀ (ups : List (Ref × Commit)) (m : RefMap) (x : Ref),
    let r := ups.foldl (fun m rc => if accepts g m rc.1 rc.2 && !rej rc.1 then m.set rc.1 rc.2 else m) m
    r.get x = m.get x ∨ ∃ c, (x, c) ∈ ups ∧ r.get x = some c :=
  applyOp_push_cases g rej

theorem tipsOf_get {refs : RefMap} {rs : List Ref} {x : Ref} {c : Commit} (h : (x, c) ∈ tipsOf refs rs) :
    x ∈ rs ∧ refs.get x = some c :=
  mem_tipsOf.mp h

/-- the state in which the event is delivered again: the graph now holds the commits of the interrupted job -/
def interrupted (s : Sys) (p : Plan) (rej : Nat → Ref → Bool) (k : Nat) : Sys :=
  { s with g := p.g, remote := observableAt s p rej k }

end BertE.Flow
