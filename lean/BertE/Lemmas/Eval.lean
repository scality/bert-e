import BertE.Model.Eval
import BertE.Lemmas.Early
/- The composed evaluation (`Model/Eval.lean`) and the ref-level workflow model: the plan that `evalPr` builds IS
   `Flow.planPr` at the stage that `evalPr` computes, so every theorem about `planPr` / `Flow.plan` / `Flow.step`
   applies to the composed model. -/
namespace BertE.Eval
open BertE.Flow BertE.Reactor BertE.Git

theorem evalL_planPr_early (s : Sys) (pr : PrInfo) (orc : List Bool) (sel : List Nat) :
    planPr s pr .early orc sel = gatePlan s := by
  simp [planPr, gatePlan]

theorem evalL_planPr_late {s : Sys} {pr : PrInfo} {stage : Stage} {orc : List Bool} {sel : List Nat} {sc dc : Commit}
    (hst : stage ≠ .early) (hs : s.remote.get (.other pr.src) = some sc) (hd : s.remote.get (.dest pr.dst) = some dc)
    (hle : s.g.le sc dc = false) :
    planPr s pr stage orc sel =
      if alreadyQueued s pr then planQueues s sel else
      match prepare s pr sc dc orc with
      | .inl p => p
      | .inr (l4, pushW) =>
        if stage = .integration then ⟨l4.g, pushW, "gate", s.queue⟩ else
        if isNeeded s l4 pr (s.targets pr.dst) then enqueue s l4 pr (s.targets pr.dst) pushW
        else directMerge s l4 pr sc (s.targets pr.dst) pushW := by
  unfold planPr
  rw [if_neg hst, hs, hd]
  simp only [hle, Bool.false_eq_true, if_false]
  rfl

@[simp] theorem evalL_stopEarly_stage (s pr st sent d) : (stopEarly s pr st sent d).stage = .early := rfl
@[simp] theorem evalL_stopEarly_plan (s pr st sent d) : (stopEarly s pr st sent d).plan = gatePlan s := rfl
@[simp] theorem evalL_stopEarly_pr (s pr st sent d) : (stopEarly s pr st sent d).pr = pr := rfl
@[simp] theorem evalL_stopEarly_declined (s pr st sent d) : (stopEarly s pr st sent d).declined = false := rfl
@[simp] theorem evalL_stopEarly_outcome (s pr st sent d) : (stopEarly s pr st sent d).outcome = decisionClass d := rfl
@[simp] theorem evalL_stopEarly_notified (s pr st sent d) :
    (stopEarly s pr st sent d).notified = sent ++ decisionPosted d := rfl
@[simp] theorem evalL_stopInt_stage (s pr st sent g ops d) : (stopIntegration s pr st sent g ops d).stage = .integration := rfl
@[simp] theorem evalL_stopInt_plan (s pr st sent g ops d) :
    (stopIntegration s pr st sent g ops d).plan = ⟨g, ops, "gate", s.queue⟩ := rfl
@[simp] theorem evalL_stopInt_pr (s pr st sent g ops d) : (stopIntegration s pr st sent g ops d).pr = pr := rfl
@[simp] theorem evalL_stopInt_declined (s pr st sent g ops d) : (stopIntegration s pr st sent g ops d).declined = false := rfl
@[simp] theorem evalL_stopInt_outcome (s pr st sent g ops d) :
    (stopIntegration s pr st sent g ops d).outcome = decisionClass d := rfl

section gates
variable (c : Cfg) (h : Host) (s : Sys) (p : Pr) (pr : PrInfo) (st : State) (sent : List String) (sc : Commit)
  (l4 : Loc) (pushW : List Op)

theorem gates_pr : (gates c h s p pr st sent sc l4 pushW).pr = pr ∧
    (gates c h s p pr st sent sc l4 pushW).declined = false ∧
    (gates c h s p pr st sent sc l4 pushW).options = some st := by
  fun_cases gates c h s p pr st sent sc l4 pushW <;> exact ⟨rfl, rfl, rfl⟩

theorem gates_cases :
    ((gates c h s p pr st sent sc l4 pushW).stage = .integration ∧
      (gates c h s p pr st sent sc l4 pushW).plan = ⟨l4.g, pushW, "gate", s.queue⟩) ∨
    (p.facts.skew = false ∧
      BertE.Approvals.checkApprovals (approvalsCfg c (envFor c p) st) (approvalsInput p) = .pass ∧
      checkBuildStatus c (envFor c p) st h l4 pr (s.targets pr.dst) = .pass ∧
      (gates c h s p pr st sent sc l4 pushW).stage = .final ∧
      (gates c h s p pr st sent sc l4 pushW).plan =
        (if isNeeded s l4 pr (s.targets pr.dst) then enqueue s l4 pr (s.targets pr.dst) pushW
         else directMerge s l4 pr sc (s.targets pr.dst) pushW)) := by
  fun_cases gates c h s p pr st sent sc l4 pushW
  case case5 hsk _ ha hb _ => exact Or.inr ⟨Bool.eq_false_iff.mpr hsk, ha, hb, rfl, rfl⟩
  all_goals exact Or.inl ⟨rfl, rfl⟩

theorem gates_approval_required (hsk : p.facts.skew = false) {crs : List String}
    (ha : BertE.Approvals.checkApprovals (approvalsCfg c (envFor c p) st) (approvalsInput p) = .approvalRequired crs) :
    (gates c h s p pr st sent sc l4 pushW).stage = .integration ∧
    (gates c h s p pr st sent sc l4 pushW).outcome = decisionClass (BertE.Early.raise_ c.early "ApprovalRequired") ∧
    (gates c h s p pr st sent sc l4 pushW).plan = ⟨l4.g, pushW, "gate", s.queue⟩ ∧
    (gates c h s p pr st sent sc l4 pushW).notified =
      (sent ++ (if integrationDataNotified c h s st pr (s.targets pr.dst) then ["IntegrationDataCreated"] else [])) ++
        decisionPosted (BertE.Early.raise_ c.early "ApprovalRequired") := by
  unfold gates
  simp only [hsk, ha, Bool.false_eq_true, if_false]
  exact ⟨rfl, rfl, rfl, rfl⟩

theorem gates_build_raise (hsk : p.facts.skew = false)
    (ha : BertE.Approvals.checkApprovals (approvalsCfg c (envFor c p) st) (approvalsInput p) = .pass)
    {cls : String} {i : Nat} (hb : checkBuildStatus c (envFor c p) st h l4 pr (s.targets pr.dst) = .raise cls i) :
    (gates c h s p pr st sent sc l4 pushW).stage = .integration ∧
    (gates c h s p pr st sent sc l4 pushW).outcome = decisionClass (BertE.Early.raise_ c.early cls) ∧
    (gates c h s p pr st sent sc l4 pushW).plan = ⟨l4.g, pushW, "gate", s.queue⟩ ∧
    (gates c h s p pr st sent sc l4 pushW).notified =
      (sent ++ (if integrationDataNotified c h s st pr (s.targets pr.dst) then ["IntegrationDataCreated"] else [])) ++
        decisionPosted (BertE.Early.raise_ c.early cls) := by
  unfold gates
  simp only [hsk, ha, hb, Bool.false_eq_true, if_false]
  exact ⟨rfl, rfl, rfl, rfl⟩

end gates

theorem evalL_raise_template {t : BertE.Early.Tbl} {cls : String} (hk : t.kind cls = some "template") :
    BertE.Early.raise_ t cls = .message cls := by
  simp [BertE.Early.raise_, hk]

theorem evalL_raise_class (t : BertE.Early.Tbl) (cls : String) : decisionClass (BertE.Early.raise_ t cls) = cls := by
  unfold BertE.Early.raise_
  split <;> rfl

theorem afterClone_pr (c : Cfg) (h : Host) (s : Sys) (p : Pr) (pr : PrInfo) (src : BertE.Names.Parsed) (st : State)
    (sent : List String) (orc : List Bool) (sel : List Nat) :
    (afterClone c h s p pr src st sent orc sel).pr = pr ∧ (afterClone c h s p pr src st sent orc sel).declined = false := by
  fun_cases afterClone c h s p pr src st sent orc sel
  case case13 => exact ⟨(gates_pr ..).1, (gates_pr ..).2.1⟩
  all_goals exact ⟨rfl, rfl⟩

theorem afterClone_options (c : Cfg) (h : Host) (s : Sys) (p : Pr) (pr : PrInfo) (src : BertE.Names.Parsed) (st : State)
    (sent : List String) (orc : List Bool) (sel : List Nat) :
    (afterClone c h s p pr src st sent orc sel).options = some st := by
  fun_cases afterClone c h s p pr src st sent orc sel
  case case13 => exact (gates_pr ..).2.2
  all_goals rfl

/-- what is known when the post-clone part pushes anything or goes beyond the early stage -/
structure PastJira (c : Cfg) (h : Host) (s : Sys) (p : Pr) (pr : PrInfo) (src : BertE.Names.Parsed) (st : State)
    (sc dc : Commit) : Prop where
  srcTip : s.remote.get (.other pr.src) = some sc
  dstTip : s.remote.get (.dest pr.dst) = some dc
  notMerged : s.g.le sc dc = false
  recent : commitDiffTooOld c p = false
  cascade : p.facts.cascadeErr = none
  compat : checkCompat c (envFor c p) st src = none
  jira : BertE.Jira.jiraChecks (jiraCfg c (envFor c p) st) (jiraInput c h p src (s.targets pr.dst)) = .pass
  branches : checkIntegrationBranches c p st (s.targets pr.dst) = true

/-- Unless the post-clone part stops at the early stage with the empty plan, every check up to
    `check_integration_branches` passed — the ticket gate included. -/
theorem afterClone_inv (c : Cfg) (h : Host) (s : Sys) (p : Pr) (pr : PrInfo) (src : BertE.Names.Parsed) (st : State)
    (sent : List String) (orc : List Bool) (sel : List Nat) :
    ((afterClone c h s p pr src st sent orc sel).stage = .early ∧
      (afterClone c h s p pr src st sent orc sel).plan = gatePlan s) ∨
    ∃ sc dc, PastJira c h s p pr src st sc dc ∧
      ((alreadyQueued s pr = true ∧ (afterClone c h s p pr src st sent orc sel).stage = .final ∧
          (afterClone c h s p pr src st sent orc sel).plan = planQueues s sel) ∨
       (alreadyQueued s pr = false ∧ p.facts.historyMismatch = false ∧
         ((∃ pl, prepare s pr sc dc orc = .inl pl ∧ (afterClone c h s p pr src st sent orc sel).stage = .integration ∧
              (afterClone c h s p pr src st sent orc sel).plan = pl) ∨
          (∃ l4 pushW, prepare s pr sc dc orc = .inr (l4, pushW) ∧
              afterClone c h s p pr src st sent orc sel = gates c h s p pr st sent sc l4 pushW)))) := by
  fun_cases afterClone c h s p pr src st sent orc sel
  case case10 sc dc hd hs hle hold hcas hcomp hj hib haq _ =>
    exact Or.inr ⟨sc, dc, ⟨hs, hd, Bool.eq_false_iff.mpr hle, Bool.eq_false_iff.mpr hold, hcas, hcomp, hj, by simpa using hib⟩,
      Or.inl ⟨haq, rfl, rfl⟩⟩
  case case12 sc dc hd hs hle hold hcas hcomp hj hib haq hhm pl hprep =>
    exact Or.inr ⟨sc, dc, ⟨hs, hd, Bool.eq_false_iff.mpr hle, Bool.eq_false_iff.mpr hold, hcas, hcomp, hj, by simpa using hib⟩,
      Or.inr ⟨Bool.eq_false_iff.mpr haq, Bool.eq_false_iff.mpr hhm, Or.inl ⟨pl, hprep, rfl, rfl⟩⟩⟩
  case case13 sc dc hd hs hle hold hcas hcomp hj hib haq hhm l4 pushW hprep =>
    exact Or.inr ⟨sc, dc, ⟨hs, hd, Bool.eq_false_iff.mpr hle, Bool.eq_false_iff.mpr hold, hcas, hcomp, hj, by simpa using hib⟩,
      Or.inr ⟨Bool.eq_false_iff.mpr haq, Bool.eq_false_iff.mpr hhm, Or.inr ⟨l4, pushW, hprep, rfl⟩⟩⟩
  all_goals exact Or.inl ⟨rfl, rfl⟩

theorem gates_plan {c : Cfg} {h : Host} {s : Sys} {p : Pr} {pr : PrInfo} {st : State} {sent : List String}
    {sc dc : Commit} {l4 : Loc} {pushW : List Op} {orc : List Bool} (sel : List Nat)
    (hs : s.remote.get (.other pr.src) = some sc) (hd : s.remote.get (.dest pr.dst) = some dc)
    (hle : s.g.le sc dc = false) (haq : alreadyQueued s pr = false) (hprep : prepare s pr sc dc orc = .inr (l4, pushW)) :
    (gates c h s p pr st sent sc l4 pushW).plan = planPr s pr (gates c h s p pr st sent sc l4 pushW).stage orc sel := by
  rcases gates_cases c h s p pr st sent sc l4 pushW with ⟨hst, hp⟩ | ⟨_, _, _, hst, hp⟩
  all_goals
    rw [hp, hst, evalL_planPr_late (by simp) hs hd hle, haq, hprep]
    simp

theorem afterClone_plan (c : Cfg) (h : Host) (s : Sys) (p : Pr) (pr : PrInfo) (src : BertE.Names.Parsed) (st : State)
    (sent : List String) (orc : List Bool) (sel : List Nat) :
    (afterClone c h s p pr src st sent orc sel).plan =
      planPr s pr (afterClone c h s p pr src st sent orc sel).stage orc sel := by
  rcases afterClone_inv c h s p pr src st sent orc sel with ⟨he, hp⟩ | ⟨sc, dc, hpj, hcase⟩
  · rw [hp, he, evalL_planPr_early]
  · rcases hcase with ⟨haq, hst, hp⟩ | ⟨haq, _, ⟨pl, hprep, hst, hp⟩ | ⟨l4, pushW, hprep, heq⟩⟩
    · rw [hp, hst, evalL_planPr_late (by simp) hpj.srcTip hpj.dstTip hpj.notMerged, haq]
      simp
    · rw [hp, hst, evalL_planPr_late (by simp) hpj.srcTip hpj.dstTip hpj.notMerged, haq, hprep]
      simp
    · rw [heq]
      exact gates_plan sel hpj.srcTip hpj.dstTip hpj.notMerged haq hprep

/-- what `evalPr` established when it reaches `clone_git_repo` -/
structure AtClone (c : Cfg) (h : Host) (s : Sys) (id : Nat) (p : Pr) (st : State) (src : BertE.Names.Parsed)
    (dst : Dest) : Prop where
  found : h.pr id = some p
  proceed : (BertE.Early.handlePr c.early (earlyInput c h s p)).decision = .proceed st
  srcName : BertE.Names.classify c.early.names p.src.toList = some src
  dstName : (BertE.Names.classify c.early.names p.dst.toList).bind destOf = some dst

def greetingOf (c : Cfg) (h : Host) (s : Sys) (p : Pr) : List String :=
  if (BertE.Early.handlePr c.early (earlyInput c h s p)).greeting then ["InitMessage"] else []

theorem evalPr_cases (c : Cfg) (h : Host) (s : Sys) (id : Nat) (orc : List Bool) (sel : List Nat) :
    ((evalPr c h s id orc sel).declined = false ∧ (evalPr c h s id orc sel).stage = .early ∧
      (evalPr c h s id orc sel).plan = gatePlan s) ∨
    (∃ p st src dst, AtClone c h s id p st src dst ∧ (p.status == "DECLINED") = true ∧
      (evalPr c h s id orc sel).declined = true ∧ (evalPr c h s id orc sel).pr = ⟨p.id, p.src, dst, opt st "no_octopus"⟩ ∧
      (evalPr c h s id orc sel).plan =
        planDeclined s ⟨p.id, p.src, dst, opt st "no_octopus"⟩ (evalPr c h s id orc sel).childDeclined) ∨
    (∃ p st src dst, AtClone c h s id p st src dst ∧ (p.status == "DECLINED") = false ∧
      evalPr c h s id orc sel = afterClone c h s p ⟨p.id, p.src, dst, opt st "no_octopus"⟩ src st (greetingOf c h s p) orc sel) := by
  fun_cases evalPr c h s id orc sel
  case case2 p hp _ st hst src dst hdst hsrc _ _ hdec _ _ =>
    exact Or.inr (Or.inl ⟨p, st, src, dst, ⟨hp, hst, hsrc, hdst⟩, hdec, rfl, rfl, rfl⟩)
  case case3 p hp _ st hst src dst hdst hsrc _ _ hdec =>
    exact Or.inr (Or.inr ⟨p, st, src, dst, ⟨hp, hst, hsrc, hdst⟩, Bool.eq_false_iff.mpr hdec, rfl⟩)
  all_goals exact Or.inl ⟨rfl, rfl, rfl⟩

/-- for a pull request that is not handled as DECLINED, the plan of the composed model is the plan of the ref-level
    workflow model at the stage the composed model COMPUTES -/
theorem evalPr_planPr (c : Cfg) (h : Host) (s : Sys) (id : Nat) (orc : List Bool) (sel : List Nat)
    (hd : (evalPr c h s id orc sel).declined = false) :
    (evalPr c h s id orc sel).plan =
      planPr s (evalPr c h s id orc sel).pr (evalPr c h s id orc sel).stage orc sel := by
  rcases evalPr_cases c h s id orc sel with ⟨_, he, hp⟩ | ⟨p, st, src, dst, _, _, hdec, _⟩ |
    ⟨p, st, src, dst, _, _, heq⟩
  · rw [hp, he, evalL_planPr_early]
  · rw [hdec] at hd; cases hd
  · rw [heq, (afterClone_pr ..).1]
    exact afterClone_plan ..

theorem evalPr_planDeclined (c : Cfg) (h : Host) (s : Sys) (id : Nat) (orc : List Bool) (sel : List Nat)
    (hd : (evalPr c h s id orc sel).declined = true) :
    (evalPr c h s id orc sel).plan =
      planDeclined s (evalPr c h s id orc sel).pr (evalPr c h s id orc sel).childDeclined := by
  rcases evalPr_cases c h s id orc sel with ⟨hnd, _, _⟩ | ⟨p, st, src, dst, _, _, _, hpr, hp⟩ |
    ⟨p, st, src, dst, _, _, heq⟩
  · rw [hnd] at hd; cases hd
  · rw [hp, hpr]
  · rw [heq, (afterClone_pr ..).2] at hd; cases hd

/-- the plan of the composed model is the plan of its event in the workflow model, so the theorems about
    `Flow.plan` / `Flow.step` (C01, C02, C03, C08) apply to the composed model -/
theorem evalPr_plan (c : Cfg) (h : Host) (s : Sys) (id : Nat) (orc : List Bool) (sel : List Nat) :
    (evalPr c h s id orc sel).plan = Flow.plan s ((evalPr c h s id orc sel).event orc sel) := by
  unfold Result.event
  by_cases hd : (evalPr c h s id orc sel).declined = true
  · rw [if_pos hd]
    exact evalPr_planDeclined c h s id orc sel hd
  · rw [if_neg hd]
    exact evalPr_planPr c h s id orc sel (by simpa using hd)

end BertE.Eval
