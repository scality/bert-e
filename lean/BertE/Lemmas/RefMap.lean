import BertE.Model.Flow
/- Association-list lemmas for `RefMap` (lookup after set / del / append, `delRefs`) and the remote's reaction to
   one operation, kind by kind. -/
namespace BertE.Flow
open BertE.Git

namespace RefMap

@[simp] theorem get_nil (r : Ref) : get [] r = none := rfl

theorem get_cons (p : Ref × Commit) (m : RefMap) (r : Ref) :
    get (p :: m) r = if r = p.1 then some p.2 else get m r := by
  obtain ⟨k, v⟩ := p
  simp only [get, List.lookup_cons]
  split <;> simp_all

theorem get_append (a b : RefMap) (r : Ref) : get (a ++ b) r = (get a r).or (get b r) :=
  List.lookup_append

theorem get_mem {m : RefMap} {r : Ref} {c : Commit} (h : get m r = some c) : (r, c) ∈ m := by
  obtain ⟨l₁, l₂, rfl, _⟩ := List.lookup_eq_some_iff.mp h
  simp

theorem has_iff (m : RefMap) (r : Ref) : has m r = true ↔ ∃ c, get m r = some c :=
  Option.isSome_iff_exists

theorem has_of_get {m : RefMap} {r : Ref} {c : Commit} (h : get m r = some c) : has m r = true := by
  rw [has, h]
  rfl

theorem has_eq_false {m : RefMap} {r : Ref} : has m r = false ↔ get m r = none := by
  rw [has, Option.isSome_eq_false_iff, Option.isNone_iff_eq_none]

theorem del_cons (p : Ref × Commit) (m : RefMap) (r : Ref) :
    del (p :: m) r = if p.1 = r then del m r else p :: del m r := by
  simp only [del, List.filter_cons, bne_iff_ne, ne_eq, ite_not]

theorem mem_del {m : RefMap} {r : Ref} {rc : Ref × Commit} : rc ∈ del m r ↔ rc ∈ m ∧ rc.1 ≠ r := by
  simp [del]

theorem get_del (m : RefMap) (r x : Ref) : get (del m r) x = if x = r then none else get m x := by
  induction m with
  | nil => simp [del, get]
  | cons p m ih =>
    rw [del_cons]
    split
    · rw [ih, get_cons]; split <;> simp_all
    · rw [get_cons, get_cons, ih]; split <;> simp_all

theorem get_del_eq_some {m : RefMap} {r x : Ref} {c : Commit} : get (del m r) x = some c ↔ x ≠ r ∧ get m x = some c := by
  rw [get_del]
  split <;> simp_all

theorem get_del_eq (m : RefMap) (r : Ref) : get (del m r) r = none := by
  rw [get_del, if_pos rfl]

theorem get_del_ne (m : RefMap) {r x : Ref} (h : x ≠ r) : get (del m r) x = get m x := by
  rw [get_del, if_neg h]

theorem get_set (m : RefMap) (r : Ref) (c : Commit) (x : Ref) :
    get (set m r c) x = if x = r then some c else get m x := by
  rw [set, get_cons, get_del]
  split <;> rfl

theorem get_set_eq (m : RefMap) (r : Ref) (c : Commit) : get (set m r c) r = some c := by
  rw [get_set, if_pos rfl]

theorem get_set_ne (m : RefMap) {r x : Ref} (c : Commit) (h : x ≠ r) : get (set m r c) x = get m x := by
  rw [get_set, if_neg h]

def vals (m : RefMap) : List Commit := m.map (·.2)

end RefMap

theorem delRefs_cons (m : RefMap) (r : Ref) (rs : List Ref) : delRefs m (r :: rs) = delRefs (m.del r) rs := rfl

theorem get_delRefs (m : RefMap) (rs : List Ref) (x : Ref) :
    (delRefs m rs).get x = if x ∈ rs then none else m.get x := by
  induction rs generalizing m with
  | nil => rfl
  | cons r rs ih =>
    rw [delRefs_cons, ih, RefMap.get_del]
    by_cases h : x = r <;> simp [h]

theorem get_delRefs_eq_some {m : RefMap} {rs : List Ref} {x : Ref} {c : Commit} :
    (delRefs m rs).get x = some c ↔ x ∉ rs ∧ m.get x = some c := by
  rw [get_delRefs]
  split <;> simp_all

theorem mem_delRefs_iff {m : RefMap} {rs : List Ref} {rc : Ref × Commit} :
    rc ∈ delRefs m rs ↔ rc ∈ m ∧ rc.1 ∉ rs := by
  induction rs generalizing m with
  | nil => simp [delRefs]
  | cons r rs ih => rw [delRefs_cons, ih, RefMap.mem_del, List.mem_cons, not_or, and_assoc, and_comm (a := rc.1 ≠ r)]

theorem accepts_none {g : Graph} {m : RefMap} {r : Ref} (h : m.get r = none) (c : Commit) :
    accepts g m r c = true := by
  rw [accepts, h]

theorem accepts_some {g : Graph} {m : RefMap} {r : Ref} {old : Commit} (h : m.get r = some old) (c : Commit) :
    accepts g m r c = g.le old c := by
  rw [accepts, h]

theorem applyOps_nil (g : Graph) (rej : Ref → Bool) (remote : RefMap) : applyOps g rej remote [] = remote := rfl

theorem applyOps_single (g : Graph) (rej : Ref → Bool) (remote : RefMap) (op : Op) :
    applyOps g rej remote [op] = applyOp g rej remote op := rfl

theorem applyOps_append (g : Graph) (rej : Ref → Bool) (m : RefMap) (a b : List Op) :
    applyOps g rej m (a ++ b) = applyOps g rej (applyOps g rej m a) b := by
  simp only [applyOps, List.foldl_append]

theorem applyOps_cons (g : Graph) (rej : Ref → Bool) (m : RefMap) (op : Op) (ops : List Op) :
    applyOps g rej m (op :: ops) = applyOps g rej (applyOp g rej m op) ops := rfl

theorem applyOps_preserves {g : Graph} {rej : Ref → Bool} {I : RefMap → Prop} {P : Op → Prop}
    (hstep : ∀ m op, I m → P op → I (applyOp g rej m op)) :
    ∀ (ops : List Op) {m : RefMap}, I m → (∀ op ∈ ops, P op) → I (applyOps g rej m ops)
  | [], _, h, _ => h
  | op :: ops, m, h, hs =>
    applyOps_preserves hstep ops (hstep m op h (hs op List.mem_cons_self))
      (fun o ho => hs o (List.mem_cons_of_mem _ ho))

theorem applyOp_delete (g : Graph) (rej : Ref → Bool) (m : RefMap) (r : Ref) :
    applyOp g rej m (.delete r) = if rej r then m else m.del r := rfl

theorem applyOp_push_cons (g : Graph) (rej : Ref → Bool) (m : RefMap) (rc : Ref × Commit) (ups : List (Ref × Commit)) :
    applyOp g rej m (.push (rc :: ups)) =
      applyOp g rej (if accepts g m rc.1 rc.2 && !rej rc.1 then m.set rc.1 rc.2 else m) (.push ups) := rfl

theorem applyOp_push_cases (g : Graph) (rej : Ref → Bool) : ∀ (ups : List (Ref × Commit)) (m : RefMap) (x : Ref),
    (applyOp g rej m (.push ups)).get x = m.get x ∨
      ∃ c, (x, c) ∈ ups ∧ (applyOp g rej m (.push ups)).get x = some c
  | [], _, _ => Or.inl rfl
  | rc :: ups, m, x => by
    rw [applyOp_push_cons]
    rcases applyOp_push_cases g rej ups _ x with h | ⟨c, hc, h⟩
    · rw [h]
      split
      · rw [RefMap.get_set]
        split
        · subst x; exact Or.inr ⟨rc.2, List.mem_cons_self, rfl⟩
        · exact Or.inl rfl
      · exact Or.inl rfl
    · exact Or.inr ⟨c, List.mem_cons_of_mem _ hc, h⟩

theorem applyOp_push_get_of_not_mem (g : Graph) (rej : Ref → Bool) {ups : List (Ref × Commit)} {x : Ref}
    (hx : ∀ rc ∈ ups, rc.1 ≠ x) (m : RefMap) : (applyOp g rej m (.push ups)).get x = m.get x := by
  rcases applyOp_push_cases g rej ups m x with h | ⟨c, hc, _⟩
  · exact h
  · exact absurd rfl (hx _ hc)

theorem applyOp_pushAll_cases (g : Graph) (rej : Ref → Bool) (m loc : RefMap) (prune : Bool) :
    applyOp g rej m (.pushAll loc prune) = (if prune then loc else loc ++ m) ∨
      applyOp g rej m (.pushAll loc prune) = m := by
  simp only [applyOp]
  split
  · exact Or.inl rfl
  · exact Or.inr rfl

theorem applyOp_pushAll_noRej (g : Graph) {m loc : RefMap}
    (h : ∀ r c, loc.get r = some c → m.get r = some c ∨ accepts g m r c = true) :
    applyOp g noRej m (.pushAll loc true) = loc := by
  have hups : loc.all (fun rc => loc.get rc.1 != some rc.2 || m.get rc.1 == some rc.2 ||
      (accepts g m rc.1 rc.2 && !noRej rc.1)) = true := by
    rw [List.all_eq_true]
    intro rc _
    by_cases hc : loc.get rc.1 = some rc.2
    · rcases h _ _ hc with h' | h' <;> simp [h', noRej]
    · simp [hc]
  simp only [applyOp, hups]
  simp [noRej]

theorem applyOp_pushAll_delRefs_noRej (g : Graph) (m : RefMap) (rs : List Ref) :
    applyOp g noRej m (.pushAll (delRefs m rs) true) = delRefs m rs :=
  applyOp_pushAll_noRej g fun _ _ hc => Or.inl (get_delRefs_eq_some.mp hc).2

end BertE.Flow
