import BertE.Model.Http
/- The two hand parsers against the grammar they stand for; what `routed`, the decorators of auth.py and the views
   of api/base.py and webhook.py can answer. -/
namespace BertE.Http

def Digits (s : List Char) : Prop := s ≠ [] ∧ ∀ c ∈ s, c.isDigit = true

/-- `n + 1` groups of decimal digits separated by dots -/
inductive Version : Nat → List Char → Prop where
  | last (a : List Char) : Digits a → Version 0 a
  | more (n : Nat) (a rest : List Char) : Digits a → Version n rest → Version (n + 1) (a ++ '.' :: rest)

/-- `development/x.y`, `stabilization/x.y.z`, `hotfix/x.y.z` -/
inductive GwfDest : List Char → Prop where
  | development (v : List Char) : Version 1 v → GwfDest ("development/".toList ++ v)
  | stabilization (v : List Char) : Version 2 v → GwfDest ("stabilization/".toList ++ v)
  | hotfix (v : List Char) : Version 2 v → GwfDest ("hotfix/".toList ++ v)

/-- what `re.match(BRANCH_REGEXP, s)` accepts: a destination branch name, possibly followed by one line feed
    (Python's `$`) -/
def MatchesBranch (s : List Char) : Prop := ∃ t, GwfDest t ∧ (s = t ∨ s = t ++ ['\n'])

/-- what `re.match(BRANCH_FROM_REGEXP, s)` accepts: hexadecimal digits (possibly none) or `development/x.y`,
    possibly followed by one line feed -/
def MatchesBranchFrom (s : List Char) : Prop :=
  ∃ t, ((∀ c ∈ t, isHex c = true) ∨ ∃ v, Version 1 v ∧ t = "development/".toList ++ v) ∧ (s = t ∨ s = t ++ ['\n'])

theorem mem_takeWhile_imp {p : Char → Bool} {l : List Char} {x : Char} (h : x ∈ l.takeWhile p) : p x = true :=
  List.all_eq_true.mp List.all_takeWhile x h

theorem stripPrefix_some : ∀ {p s r : List Char}, stripPrefix p s = some r → s = p ++ r
  | [], s, r, h => by simp [stripPrefix] at h; simp [h]
  | _ :: _, [], r, h => by simp [stripPrefix] at h
  | a :: p, b :: s, r, h => by
    simp only [stripPrefix] at h
    split at h
    · rename_i hab
      rw [hab, stripPrefix_some h, List.cons_append]
    · cases h

theorem atEnd_true {r : List Char} (h : atEnd r = true) : r = [] ∨ r = ['\n'] := by
  match r, h with
  | [], _ => exact Or.inl rfl
  | [c], h =>
    simp only [atEnd, beq_iff_eq] at h
    exact Or.inr (by rw [h])
  | _ :: _ :: _, h => simp [atEnd] at h

theorem digits1_some {s r : List Char} (h : digits1 s = some r) : ∃ a, Digits a ∧ s = a ++ r := by
  cases s with
  | nil => simp [digits1] at h
  | cons c cs =>
    simp only [digits1] at h
    split at h
    · rename_i hc
      cases h
      exact ⟨c :: cs.takeWhile Char.isDigit,
        ⟨nofun, List.forall_mem_cons.mpr ⟨hc, fun x hx => mem_takeWhile_imp hx⟩⟩, by simp⟩
    · cases h

theorem version_sound : ∀ (n : Nat) {s : List Char}, version n s = true →
    ∃ v, Version n v ∧ (s = v ∨ s = v ++ ['\n'])
  | 0, s, h => by
    simp only [version] at h
    split at h
    · rename_i r hd
      obtain ⟨a, ha, rfl⟩ := digits1_some hd
      exact ⟨a, .last a ha, (atEnd_true h).imp (by rintro rfl; simp) (by rintro rfl; rfl)⟩
    · cases h
  | n + 1, s, h => by
    simp only [version] at h
    split at h
    · rename_i r hd
      obtain ⟨a, ha, rfl⟩ := digits1_some hd
      obtain ⟨v, hv, hs⟩ := version_sound n h
      exact ⟨a ++ '.' :: v, .more n a v ha hv, hs.imp (by rintro rfl; rfl) (by rintro rfl; simp)⟩
    · cases h

theorem afterPrefix_sound {p : String} {n : Nat} {s : List Char} (h : afterPrefix p n s = true) :
    ∃ v, Version n v ∧ (s = p.toList ++ v ∨ s = p.toList ++ v ++ ['\n']) := by
  simp only [afterPrefix] at h
  split at h
  · rename_i r hp
    obtain ⟨v, hv, hr⟩ := version_sound n h
    rw [stripPrefix_some hp]
    exact ⟨v, hv, hr.imp (by rintro rfl; rfl) (by rintro rfl; simp)⟩
  · cases h

theorem matchBranch_sound {s : List Char} (h : matchBranch s = true) : MatchesBranch s := by
  simp only [matchBranch, Bool.or_eq_true] at h
  rcases h with (h | h) | h
  · obtain ⟨v, hv, hs⟩ := afterPrefix_sound h
    exact ⟨_, .development v hv, hs⟩
  · obtain ⟨v, hv, hs⟩ := afterPrefix_sound h
    exact ⟨_, .stabilization v hv, hs⟩
  · obtain ⟨v, hv, hs⟩ := afterPrefix_sound h
    exact ⟨_, .hotfix v hv, hs⟩

theorem matchBranchFrom_sound {s : List Char} (h : matchBranchFrom s = true) : MatchesBranchFrom s := by
  simp only [matchBranchFrom, Bool.or_eq_true] at h
  rcases h with h | h
  · refine ⟨s.takeWhile isHex, Or.inl (fun c hc => mem_takeWhile_imp hc), ?_⟩
    have := List.takeWhile_append_dropWhile (p := isHex) (l := s)
    exact (atEnd_true h).imp (fun h0 => by simpa [h0] using this.symm) (fun h0 => by rw [h0] at this; exact this.symm)
  · obtain ⟨v, hv, hs⟩ := afterPrefix_sound h
    exact ⟨_, Or.inr ⟨v, hv, rfl⟩, hs⟩

theorem beq_false_of_ne {a b : String} (h : a ≠ b) : (a == b) = false := by simpa using h

theorem lookup_upsert (kvs : List (String × Val)) (k : String) (v : Val) (k' : String) :
    (upsert kvs k v).lookup k' = if k' = k then some v else kvs.lookup k' := by
  induction kvs with
  | nil =>
    by_cases h : k' = k
    · subst h; simp [upsert]
    · simp [upsert, List.lookup_cons, beq_false_of_ne h, h]
  | cons p rest ih =>
    obtain ⟨a, b⟩ := p
    simp only [upsert]
    by_cases hak : a = k
    · subst hak
      by_cases h : k' = a
      · subst h; simp
      · simp [List.lookup_cons, beq_false_of_ne h, h]
    · simp only [hak, if_false, List.lookup_cons]
      by_cases h' : k' = a
      · subst h'
        simp [hak]
      · simp only [beq_false_of_ne h', ih]

theorem lookup_upsertAll (kvs : List (String × Val)) (args : List (String × Arg)) (k : String) :
    (upsertAll kvs args).lookup k =
      match args.lookup k with
      | some a => some a.toVal
      | none => kvs.lookup k := by
  induction args with
  | nil => simp [upsertAll]
  | cons p rest ih =>
    obtain ⟨a, b⟩ := p
    simp only [upsertAll, lookup_upsert, List.lookup_cons]
    by_cases h : k = a
    · subst h; simp
    · simp only [h, if_false, beq_false_of_ne h, ih]

theorem lookup_map_toVal (args : List (String × Arg)) (k : String) :
    (args.map fun a => (a.1, a.2.toVal)).lookup k = (args.lookup k).map Arg.toVal := by
  induction args with
  | nil => simp
  | cons p rest ih =>
    obtain ⟨a, b⟩ := p
    simp only [List.map_cons, List.lookup_cons]
    cases h : (k == a) <;> simp [ih]

theorem lookup_filter_key (kvs : List (String × Val)) (q : String → Bool) (k : String) :
    (kvs.filter fun kv => q kv.1).lookup k = if q k then kvs.lookup k else none := by
  induction kvs with
  | nil => simp
  | cons p rest ih =>
    obtain ⟨a, b⟩ := p
    simp only [List.filter_cons]
    by_cases hk : k = a
    · subst hk
      cases hq : q k <;> simp [hq, ih]
    · cases q a <;> simp [ih, List.lookup_cons, beq_false_of_ne hk]

theorem lookup_mem {β : Type} {l : List (String × β)} {k : String} {v : β} (h : l.lookup k = some v) :
    (k, v) ∈ l := by
  obtain ⟨l₁, l₂, rfl, _⟩ := List.lookup_eq_some_iff.mp h
  simp

theorem isEmpty_false_of_lookup {β : Type} {l : List (String × β)} {k : String} {v : β}
    (h : l.lookup k = some v) : l.isEmpty = false := by
  cases l with
  | nil => simp at h
  | cons _ _ => rfl

theorem applyWrappers_pass {t : Tbl} {l p : String} {s : Session} {c : Option (String × String)} :
    ∀ {ws : List Wrapper}, applyWrappers t l p s c ws = some none →
      (∀ a, Wrapper.auth a ∈ ws → s.loggedIn = true ∧ (a = true → s.admin = true)) ∧
      (Wrapper.basic ∈ ws → c = some (l, p))
  | [], _ => by simp
  | .auth a :: rest, h => by
    simp only [applyWrappers] at h
    split at h
    · simp [Option.map_eq_some_iff] at h
    · rename_i hl
      split at h
      · simp [Option.map_eq_some_iff] at h
      · rename_i ha
        obtain ⟨h1, h2⟩ := applyWrappers_pass h
        refine ⟨fun b hb => ?_, fun hb => h2 ((List.mem_cons.mp hb).resolve_left nofun)⟩
        rcases List.mem_cons.mp hb with hb | hb
        · cases hb
          exact ⟨by simpa using hl, fun hat => by simpa [hat] using ha⟩
        · exact h1 b hb
  | .basic :: rest, h => by
    simp only [applyWrappers] at h
    split at h
    · rename_i cl cp
      split at h
      · rename_i hlp
        obtain ⟨h1, h2⟩ := applyWrappers_pass h
        exact ⟨fun b hb => h1 b ((List.mem_cons.mp hb).resolve_left nofun), fun _ => by rw [hlp.1, hlp.2]⟩
      · simp [Option.map_eq_some_iff] at h
    · simp [Option.map_eq_some_iff] at h

theorem applyWrappers_refused {t : Tbl} {l p : String} {s : Session} {c : Option (String × String)} {code : Nat} :
    ∀ {ws : List Wrapper}, applyWrappers t l p s c ws = some (some code) → ∃ helper, t.code helper = some code
  | [], h => by simp [applyWrappers] at h
  | .auth a :: rest, h => by
    simp only [applyWrappers] at h
    split at h
    · exact ⟨_, by simpa [Option.map_eq_some_iff] using h⟩
    · split at h
      · exact ⟨_, by simpa [Option.map_eq_some_iff] using h⟩
      · exact applyWrappers_refused h
  | .basic :: rest, h => by
    simp only [applyWrappers] at h
    split at h
    · split at h
      · exact applyWrappers_refused h
      · exact ⟨_, by simpa [Option.map_eq_some_iff] using h⟩
    · exact ⟨_, by simpa [Option.map_eq_some_iff] using h⟩

/-- the status of a refusal: `abort(400 / 404 / 405)`, a crash (500), or what a refusal helper sends -/
def Tbl.refusal (t : Tbl) (n : Nat) : Prop :=
  n = 400 ∨ n = 404 ∨ n = 405 ∨ n = 500 ∨ ∃ helper, t.code helper = some n

theorem routed_resp {t : Tbl} {l p : String} {s : Session} {c : Option (String × String)} {rule method : String}
    {args : List (String × String)} {k : Route → List (String × Arg) → Outcome} {x : Response}
    (h : routed t l p s c rule method args k = .resp x) :
    (x.job = none ∧ x.loc = "" ∧ t.refusal x.status ∧ ∀ k', routed t l p s c rule method args k' = .resp x) ∨
    ∃ r0 more r cargs, t.routes.filter (·.rule == rule) = r0 :: more ∧
      convertAll args r0.params = some cargs ∧
      (r0 :: more).find? (·.methods.contains method) = some r ∧
      applyWrappers t l p s c r.wrappers = some none ∧ k r cargs = .resp x ∧
      ∀ k', routed t l p s c rule method args k' = k' r cargs := by
  unfold routed at h ⊢
  split at h
  · cases h
    exact Or.inl ⟨rfl, rfl, by simp [Tbl.refusal], fun _ => rfl⟩
  · rename_i r0 more hf
    split at h
    · cases h
    · rename_i hknown
      split at h
      · cases h
        exact Or.inl ⟨rfl, rfl, by simp [Tbl.refusal], fun _ => if_neg hknown⟩
      · rename_i cargs hca
        split at h
        · cases h
          exact Or.inl ⟨rfl, rfl, by simp [Tbl.refusal], fun _ => if_neg hknown⟩
        · rename_i r hfind
          split at h
          · cases h
          · rename_i code hw
            cases h
            exact Or.inl ⟨rfl, rfl, Or.inr (Or.inr (Or.inr (Or.inr (applyWrappers_refused hw)))),
              fun _ => if_neg hknown⟩
          · rename_i hw
            exact Or.inr ⟨r0, more, r, cargs, hf, hca, hfind, hw, h, fun _ => if_neg hknown⟩

theorem route_found {t : Tbl} {rule method : String} {r0 r : Route} {more : List Route}
    (hf : t.routes.filter (·.rule == rule) = r0 :: more)
    (hfind : (r0 :: more).find? (·.methods.contains method) = some r) :
    r ∈ t.routes ∧ r.rule = rule ∧ r.methods.contains method = true := by
  have hr : r ∈ t.routes.filter (·.rule == rule) := by
    rw [hf]; exact List.mem_of_find?_eq_some hfind
  have := List.mem_filter.mp hr
  exact ⟨this.1, by simpa using this.2, by simpa using List.find?_some hfind⟩

theorem validate_ok {args : List (String × Arg)} {json : Body} :
    ∀ {cs : List Check}, validate args json cs = .ok → ∀ c ∈ cs, checkOne args json c = .ok
  | [], _, c, hc => by simp at hc
  | c0 :: rest, h, c, hc => by
    simp only [validate] at h
    cases h0 : checkOne args json c0 with
    | ok =>
      simp only [h0] at h
      rcases List.mem_cons.mp hc with rfl | hc
      · exact h0
      · exact validate_ok h c hc
    | invalid => simp [h0] at h
    | crash => simp [h0] at h
    | unmodelled w => simp [h0] at h

theorem regexMatch_branch {v : String} (h : regexMatch branchRegexpText v = .ok) : MatchesBranch v.toList := by
  simp only [regexMatch, if_true] at h
  split at h
  · exact matchBranch_sound ‹_›
  · cases h

theorem regexMatch_branchFrom {v : String} (h : regexMatch branchFromRegexpText v = .ok) :
    MatchesBranchFrom v.toList := by
  have hne : branchFromRegexpText ≠ branchRegexpText := by decide +kernel
  simp only [regexMatch, hne, if_false, if_true] at h
  split at h
  · exact matchBranchFrom_sound ‹_›
  · cases h

theorem checkOne_urlRegex {args : List (String × Arg)} {json : Body} {p rx : String}
    (h : checkOne args json (.urlRegex p rx) = .ok) : ∃ v, args.lookup p = some (.str v) ∧ regexMatch rx v = .ok := by
  simp only [checkOne] at h
  split at h
  · rename_i v hv; exact ⟨v, hv, h⟩
  · cases h

theorem checkOne_urlIntLt {args : List (String × Arg)} {json : Body} {p : String} {b : Int}
    (h : checkOne args json (.urlIntLt p b) = .ok) : ∃ n : Nat, args.lookup p = some (.int n) ∧ b ≤ (n : Int) := by
  simp only [checkOne] at h
  split at h
  · rename_i n hn
    refine ⟨n, hn, ?_⟩
    split at h
    · cases h
    · omega
  · cases h

theorem checkOne_json {args : List (String × Arg)} {json : Body} {k rx : String}
    (h : checkOne args json (.jsonRegexIfPresent k rx) = .ok) :
    ∀ v, (jsonEntries json).lookup k = some v → ∃ s, v = .str s ∧ regexMatch rx s = .ok := by
  intro v hv
  cases json with
  | obj kvs =>
    simp only [jsonEntries] at hv
    simp only [checkOne, hv] at h
    cases v with
    | str s => exact ⟨s, rfl, h⟩
    | lit _ => cases h
  | absent | arr _ | scalar _ => simp [jsonEntries] at hv

/-- what `APIEndpoint.view` (or a view that overrides it) answers -/
theorem apiView_resp {t : Tbl} {e : Endpoint} {s : Session} {args : List (String × Arg)} {req : Request}
    {x : Response} (h : apiView t e s args req = .resp x) :
    (x.job = none ∧ x.loc = "" ∧ ((e.job = none ∧ x.status = 200) ∨ t.refusal x.status)) ∨
    ∃ jobCls st, e.job = some jobCls ∧ validate args req.body.orEmpty e.checks = .ok ∧
      mkSettings req.body.orEmpty args = some st ∧
      x.job = some { kind := jobCls, settings := st, user := s.user } ∧ x.loc = "" ∧
      ((x.status = 202 ∧ ∃ kvs, st = .map kvs) ∨ (x.status = 500 ∧ ∃ b, st = .raw b)) := by
  unfold apiView at h
  split at h
  · rename_i hjob
    cases h
    by_cases hk : (args.isEmpty || req.jobKnown) = true
    · exact Or.inl ⟨rfl, rfl, Or.inl ⟨hjob, by simp [hk]⟩⟩
    · exact Or.inl ⟨rfl, rfl, Or.inr (by simp [hk, Tbl.refusal])⟩
  · rename_i jobCls hjob
    split at h
    · cases h
    · split at h
      · cases h; exact Or.inl ⟨rfl, rfl, Or.inr (by simp [Tbl.refusal])⟩
      · split at h
        · cases h; exact Or.inl ⟨rfl, rfl, Or.inr (by simp [Tbl.refusal])⟩
        · split at h
          · cases h
          · cases h; exact Or.inl ⟨rfl, rfl, Or.inr (by simp [Tbl.refusal])⟩
          · split at h
            · rename_i c hc
              cases h; exact Or.inl ⟨rfl, rfl, Or.inr (Or.inr (Or.inr (Or.inr (Or.inr ⟨_, hc⟩))))⟩
            · cases h
          · rename_i hv
            split at h
            · cases h; exact Or.inl ⟨rfl, rfl, Or.inr (by simp [Tbl.refusal])⟩
            · rename_i kvs hst
              cases h
              exact Or.inr ⟨jobCls, .map kvs, hjob, hv, hst, rfl, rfl, Or.inl ⟨rfl, kvs, rfl⟩⟩
            · rename_i b hst
              cases h
              exact Or.inr ⟨jobCls, .raw b, hjob, hv, hst, rfl, rfl, Or.inr ⟨rfl, b, rfl⟩⟩

theorem formCall_resp {t : Tbl} {s : Session} {e : Endpoint} {r : Route} {args : List (String × String)}
    {json : List (String × Val)} {x : Response} (h : formCall t s e r args json = .resp x) :
    x.status = 302 ∧ ∃ ir, serveEndpoint t s { rule := r.rule, method := e.method, args := args, body := .obj json }
      = .resp ir ∧ x.job = ir.job ∧ (x.loc = "status" ↔ ir.status = 202) ∧ (x.loc = "status" ∨ x.loc = "manage-error") := by
  unfold formCall at h
  split at h
  · cases h
  · rename_i ir hir
    split at h <;> cases h
    · exact ⟨rfl, ir, hir, rfl, by simp [*], Or.inl rfl⟩
    · exact ⟨rfl, ir, hir, rfl, by simp [*], Or.inr rfl⟩

/-- what `APIForm.view` answers -/
theorem formView_resp {t : Tbl} {f : Form} {s : Session} {req : Request} {x : Response}
    (h : formView t f s req = .resp x) :
    (x.job = none ∧ (x.status = 500 ∨ (x.status = 302 ∧ x.loc = "manage-error"))) ∨
    (req.csrfOk = true ∧ validateFields req.fields f.fields = .ok ∧
      ∃ e r args, e ∈ t.endpoints ∧ e.cls = f.endpoint ∧
        formCall t s e r args (formJson r (formData f req)) = .resp x) := by
  unfold formView at h
  split at h
  · cases h
  · cases h; exact Or.inl ⟨rfl, Or.inl rfl⟩
  · cases h; exact Or.inl ⟨rfl, Or.inr ⟨rfl, rfl⟩⟩
  · rename_i hval
    split at h
    · cases h; exact Or.inl ⟨rfl, Or.inr ⟨rfl, rfl⟩⟩
    · rename_i hcsrf
      split at h
      · cases h
      · rename_i e he
        split at h
        · cases h; exact Or.inl ⟨rfl, Or.inl rfl⟩
        · rename_i r _
          split at h
          · cases h; exact Or.inl ⟨rfl, Or.inl rfl⟩
          · rename_i args _
            exact Or.inr ⟨by simpa using hcsrf, hval, e, r, args, List.mem_of_find?_eq_some he,
              by simpa using List.find?_some he, h⟩

theorem dispatchEvent_resp {t : Tbl} {h : HookRoute} {r : HookReq} {x : Response}
    (hd : dispatchEvent t h r = .resp x) :
    (x.job = none ∧ (x.status = 500 ∨ x.status = h.ignored)) ∨
    ∃ key handler cls, eventKey h r = some key ∧ h.dispatch.lookup key = some handler ∧
      runHandler t handler (eventName h r) r = .job cls ∧
      x = { status := h.accepted, job := some { kind := cls, settings := .map [], user := some "", target := r.target } } := by
  unfold dispatchEvent at hd
  split at hd
  · cases hd; exact Or.inl ⟨rfl, Or.inr rfl⟩
  · rename_i handler hb
    split at hd
    · cases hd
    · cases hd; exact Or.inl ⟨rfl, Or.inl rfl⟩
    · cases hd; exact Or.inl ⟨rfl, Or.inr rfl⟩
    · rename_i cls hrun
      cases hd
      cases hk : eventKey h r with
      | none => simp [hk] at hb
      | some key =>
        simp only [hk, Option.bind_some] at hb
        exact Or.inr ⟨key, handler, cls, rfl, hb, hrun, rfl⟩

theorem hookView_resp {t : Tbl} {h : HookRoute} {cfg : HookCfg} {r : HookReq} {x : Response}
    (hv : hookView t h cfg r = .resp x) :
    (x.job = none ∧ (x.status = 500 ∨ x.status = h.refused)) ∨
    (identityCheck cfg r h.identity = .ok ∧ dispatchEvent t h r = .resp x) := by
  unfold hookView at hv
  split at hv
  · cases hv; exact Or.inl ⟨rfl, Or.inr rfl⟩
  · split at hv
    · cases hv; exact Or.inl ⟨rfl, Or.inl rfl⟩
    · split at hv
      · cases hv; exact Or.inl ⟨rfl, Or.inl rfl⟩
      · split at hv
        · cases hv
        · cases hv; exact Or.inl ⟨rfl, Or.inl rfl⟩
        · cases hv; exact Or.inl ⟨rfl, Or.inr rfl⟩
        · rename_i hid
          exact Or.inr ⟨hid, hv⟩

theorem identity_ok {cfg : HookCfg} {r : HookReq} :
    ∀ {ids : List (String × String)}, identityCheck cfg r ids = .ok →
      ∀ expr attr, (expr, attr) ∈ ids → ∃ v c, payloadValue r expr = some (some v, c) ∧ cfgValue cfg attr = some v
  | [], _, _, _, hm => by simp at hm
  | (e0, a0) :: rest, h, expr, attr, hm => by
    simp only [identityCheck] at h
    split at h
    · rename_i v raises c hp hc
      split at h
      · cases h
      · split at h
        · cases h
        · cases h
        · split at h
          · cases h
          · rename_i hvc
            have hv : v = some c := by simpa using hvc
            rcases List.mem_cons.mp hm with heq | hm'
            · cases heq
              exact ⟨c, raises, by rw [hp, hv], hc⟩
            · exact identity_ok h expr attr hm'
    · cases h

end BertE.Http
