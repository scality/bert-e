import BertE.Model.Cascade
import BertE.Model.CascadeSpec
/- Order of the keys (`compare_branches` = the declarative line order), sorting, `maxInts`. -/
namespace BertE.Cascade
open Spec

theorem nodup_of_map {α β : Type} (f : α → β) {l : List α} (h : (l.map f).Nodup) : l.Nodup := by
  rw [List.Nodup, List.pairwise_map] at h
  exact h.imp (by intro a b hab e; exact hab (by rw [e]))

theorem inj_of_nodup_map {α β : Type} {f : α → β} {l : List α} (h : (l.map f).Nodup) {a b : α}
    (ha : a ∈ l) (hb : b ∈ l) (e : f a = f b) : a = b := by
  induction l with
  | nil => cases ha
  | cons x xs ih =>
    rw [List.map_cons, List.nodup_cons] at h
    rcases List.mem_cons.mp ha with rfl | ha' <;> rcases List.mem_cons.mp hb with rfl | hb'
    · rfl
    · exact (h.1 (e ▸ List.mem_map_of_mem hb')).elim
    · exact (h.1 (e ▸ List.mem_map_of_mem ha')).elim
    · exact ih h.2 ha' hb'

theorem eq_mergeSort {α : Type} {le : α → α → Bool}
    (tr : ∀ a b c, le a b = true → le b c = true → le a c = true) (tot : ∀ a b, (le a b || le b a) = true)
    {s l : List α} (hs : s.Pairwise (fun a b => le a b = true)) (hp : s.Perm l)
    (anti : ∀ a b, a ∈ l → b ∈ l → le a b = true → le b a = true → a = b) : s = l.mergeSort le :=
  List.Perm.eq_of_pairwise
    (fun a b ha hb => anti a b (hp.mem_iff.mp ha) ((List.mergeSort_perm l le).mem_iff.mp hb))
    hs (List.pairwise_mergeSort tr tot l) (hp.trans (List.mergeSort_perm l le).symm)

theorem isDev_iff {b : Branch} : b.isDev = true ↔ ∃ M m, b = .dev M m := by
  cases b <;> simp [Branch.isDev]

theorem isStab_iff {b : Branch} : b.isStab = true ↔ ∃ M m u, b = .stab M m u := by
  cases b <;> simp [Branch.isStab]

theorem isHotfix_iff {b : Branch} : b.isHotfix = true ↔ ∃ M m u, b = .hotfix M m u := by
  cases b <;> simp [Branch.isHotfix]

theorem not_isHotfix_iff {b : Branch} : b.isHotfix = false ↔ b.isDev = true ∨ b.isStab = true := by
  cases b <;> simp [Branch.isHotfix, Branch.isDev, Branch.isStab]

theorem stab_eq_of_key {bs : List Branch}
    (hone : ∀ M m u u', Branch.stab M m u ∈ bs → Branch.stab M m u' ∈ bs → u = u') {a b : Branch}
    (ha : a ∈ bs) (hb : b ∈ bs) (sa : a.isStab = true) (sb : b.isStab = true) (hk : a.key = b.key) : a = b := by
  obtain ⟨M, m, u, rfl⟩ := isStab_iff.mp sa
  obtain ⟨M', m', u', rfl⟩ := isStab_iff.mp sb
  simp only [Branch.key, Prod.mk.injEq, Option.some.injEq] at hk
  obtain ⟨rfl, rfl⟩ := hk
  rw [hone _ _ _ _ ha hb]

theorem minorLt_irrefl (a : Option Nat) : ¬ minorLt a a := by
  cases a <;> simp [minorLt]

theorem minorLt_trans {a b c : Option Nat} (h1 : minorLt a b) (h2 : minorLt b c) : minorLt a c := by
  cases a <;> cases b <;> cases c <;> simp_all [minorLt] <;> omega

theorem minorLt_total (a b : Option Nat) : minorLt a b ∨ a = b ∨ minorLt b a := by
  cases a <;> cases b <;> simp [minorLt] <;> omega

theorem keyLt_irrefl (a : Key) : ¬ keyLt a a := by
  intro h
  rcases h with h | ⟨_, h⟩
  · omega
  · exact minorLt_irrefl _ h

theorem keyLt_trans {a b c : Key} (h1 : keyLt a b) (h2 : keyLt b c) : keyLt a c := by
  rcases h1 with h1 | ⟨e1, h1⟩ <;> rcases h2 with h2 | ⟨e2, h2⟩
  · exact Or.inl (by omega)
  · exact Or.inl (by omega)
  · exact Or.inl (by omega)
  · exact Or.inr ⟨by omega, minorLt_trans h1 h2⟩

theorem keyLt_total (a b : Key) : keyLt a b ∨ a = b ∨ keyLt b a := by
  obtain ⟨a1, a2⟩ := a
  obtain ⟨b1, b2⟩ := b
  by_cases h : a1 < b1
  · exact Or.inl (Or.inl h)
  · by_cases h' : b1 < a1
    · exact Or.inr (Or.inr (Or.inl h'))
    · have e : a1 = b1 := by omega
      subst e
      rcases minorLt_total a2 b2 with h2 | h2 | h2
      · exact Or.inl (Or.inr ⟨rfl, h2⟩)
      · subst h2; exact Or.inr (Or.inl rfl)
      · exact Or.inr (Or.inr (Or.inr ⟨rfl, h2⟩))

theorem keyLt_asymm {a b : Key} (h1 : keyLt a b) (h2 : keyLt b a) : False :=
  keyLt_irrefl a (keyLt_trans h1 h2)

theorem keyLt_ne {a b : Key} (h : keyLt a b) : a ≠ b := by
  intro e; subst e; exact keyLt_irrefl _ h

theorem keyLe_refl (a : Key) : keyLe a a := Or.inl rfl

theorem keyLe_trans {a b c : Key} (h1 : keyLe a b) (h2 : keyLe b c) : keyLe a c := by
  rcases h1 with rfl | h1
  · exact h2
  · rcases h2 with rfl | h2
    · exact Or.inr h1
    · exact Or.inr (keyLt_trans h1 h2)

theorem keyLe_total (a b : Key) : keyLe a b ∨ keyLe b a := by
  rcases keyLt_total a b with h | h | h
  · exact Or.inl (Or.inr h)
  · exact Or.inl (Or.inl h)
  · exact Or.inr (Or.inr h)

theorem keyLe_antisymm {a b : Key} (h1 : keyLe a b) (h2 : keyLe b a) : a = b := by
  rcases h1 with rfl | h1
  · rfl
  · rcases h2 with rfl | h2
    · rfl
    · exact (keyLt_asymm h1 h2).elim

theorem not_keyLt_iff {a b : Key} : ¬ keyLt a b ↔ keyLe b a := by
  constructor
  · intro h
    rcases keyLt_total a b with h' | h' | h'
    · exact absurd h' h
    · exact Or.inl h'.symm
    · exact Or.inr h'
  · intro h h'
    rcases h with rfl | h
    · exact keyLt_irrefl _ h'
    · exact keyLt_asymm h h'

theorem not_keyLe_iff {a b : Key} : ¬ keyLe a b ↔ keyLt b a := by
  rw [← not_keyLt_iff]; exact Decidable.not_not

theorem keyLt_of_le_of_lt {a b c : Key} (h1 : keyLe a b) (h2 : keyLt b c) : keyLt a c := by
  rcases h1 with rfl | h1
  · exact h2
  · exact keyLt_trans h1 h2

theorem keyLt_of_lt_of_le {a b c : Key} (h1 : keyLt a b) (h2 : keyLe b c) : keyLt a c := by
  rcases h2 with rfl | h2
  · exact h1
  · exact keyLt_trans h1 h2

theorem keyLt_iff_le_ne {a b : Key} : keyLt a b ↔ keyLe a b ∧ a ≠ b :=
  ⟨fun h => ⟨Or.inr h, keyLt_ne h⟩, fun ⟨h, n⟩ => h.resolve_left n⟩

/-- `compare_branches` is the line order -/
theorem cmpKey_le_iff (a b : Key) : cmpKey a b ≤ 0 ↔ keyLe a b := by
  obtain ⟨a1, a2⟩ := a
  obtain ⟨b1, b2⟩ := b
  unfold cmpKey keyLe keyLt
  by_cases h1 : a1 = b1
  · subst h1
    cases a2 <;> cases b2 <;> simp [minorLt] <;> omega
  · simp [h1]
    omega

def Sorted (c : Cascade) : Prop := c.Pairwise (fun p q => keyLt p.1 q.1)

theorem Sorted.nodupKeys {c : Cascade} (h : Sorted c) : (c.map (·.1)).Nodup := by
  unfold Sorted at h
  rw [List.Nodup, List.pairwise_map]
  exact h.imp (fun hlt => keyLt_ne hlt)

theorem Sorted.eq_of_mem {c : Cascade} (h : Sorted c) {p q : Key × BranchSet} (hp : p ∈ c) (hq : q ∈ c)
    (hk : p.1 = q.1) : p = q :=
  inj_of_nodup_map h.nodupKeys hp hq hk

theorem sortCascade_perm (c : Cascade) : (sortCascade c).Perm c := List.mergeSort_perm _ _

theorem sortCascade_sorted {c : Cascade} (h : (c.map (·.1)).Nodup) : Sorted (sortCascade c) := by
  have hle : (sortCascade c).Pairwise (fun p q => decide (cmpKey p.1 q.1 ≤ 0) = true) := by
    apply List.pairwise_mergeSort
    · intro a b d hab hbd
      simp only [decide_eq_true_eq, cmpKey_le_iff] at *
      exact keyLe_trans hab hbd
    · intro a b
      simp only [Bool.or_eq_true, decide_eq_true_eq, cmpKey_le_iff]
      exact keyLe_total _ _
  have hnd : (sortCascade c).Pairwise (fun p q => p.1 ≠ q.1) := by
    have : ((sortCascade c).map (·.1)).Nodup := ((sortCascade_perm c).map _).nodup_iff.mpr h
    rw [List.Nodup, List.pairwise_map] at this
    exact this
  unfold Sorted
  refine (hle.and hnd).imp ?_
  intro p q ⟨h1, h2⟩
  simp only [decide_eq_true_eq, cmpKey_le_iff] at h1
  exact keyLt_iff_le_ne.mpr ⟨h1, h2⟩

theorem Sorted.ext {c c' : Cascade} (h : Sorted c) (h' : Sorted c') (hm : ∀ p, p ∈ c ↔ p ∈ c') : c = c' := by
  have nd : c.Nodup := nodup_of_map _ h.nodupKeys
  have nd' : c'.Nodup := nodup_of_map _ h'.nodupKeys
  have hp : c.Perm c' := (List.perm_ext_iff_of_nodup nd nd').mpr hm
  refine List.Perm.eq_of_pairwise (le := fun (p q : Key × BranchSet) => keyLt p.1 q.1) ?_ h h' hp
  intro a b _ _ hab hba
  exact (keyLt_asymm hab hba).elim

theorem sortByKey_perm (l : List Branch) : (sortByKey l).Perm l := List.mergeSort_perm _ _

theorem keyLe_dec_trans (a b c : Branch) (h1 : decide (keyLe a.key b.key) = true)
    (h2 : decide (keyLe b.key c.key) = true) : decide (keyLe a.key c.key) = true :=
  decide_eq_true (keyLe_trans (of_decide_eq_true h1) (of_decide_eq_true h2))

theorem keyLe_dec_total (a b : Branch) : (decide (keyLe a.key b.key) || decide (keyLe b.key a.key)) = true := by
  simp only [Bool.or_eq_true, decide_eq_true_eq]
  exact keyLe_total _ _

theorem sortByKey_pairwise (l : List Branch) : (sortByKey l).Pairwise (fun a b => keyLe a.key b.key) :=
  (List.pairwise_mergeSort keyLe_dec_trans keyLe_dec_total l).imp of_decide_eq_true

theorem eq_sortByKey {l s : List Branch} (hs : s.Pairwise (fun a b => keyLt a.key b.key))
    (hl : (l.map Branch.key).Nodup) (hm : ∀ b, b ∈ s ↔ b ∈ l) : s = sortByKey l := by
  have nds : s.Nodup := hs.imp (by intro a b h e; subst e; exact keyLt_irrefl _ h)
  exact eq_mergeSort keyLe_dec_trans keyLe_dec_total (hs.imp fun h => decide_eq_true (Or.inr h))
    ((List.perm_ext_iff_of_nodup nds (nodup_of_map _ hl)).mpr hm)
    (fun a b ha hb hab hba =>
      inj_of_nodup_map hl ha hb (keyLe_antisymm (of_decide_eq_true hab) (of_decide_eq_true hba)))

theorem maxInts_ge (x : Int) (l : List Int) : x ≤ maxInts x l := by
  induction l generalizing x with
  | nil => simp [maxInts]
  | cons a l ih =>
    simp only [maxInts, List.foldl_cons] at *
    have := ih (max x a)
    omega

theorem maxInts_ge_mem (x : Int) (l : List Int) : ∀ a ∈ l, a ≤ maxInts x l := by
  induction l generalizing x with
  | nil => intro a h; cases h
  | cons b l ih =>
    intro a h
    simp only [maxInts, List.foldl_cons]
    rcases List.mem_cons.mp h with rfl | h
    · have := maxInts_ge (max x a) l
      simp only [maxInts] at this
      omega
    · exact ih (max x b) a h

theorem maxInts_mem (x : Int) (l : List Int) : maxInts x l = x ∨ maxInts x l ∈ l := by
  induction l generalizing x with
  | nil => simp [maxInts]
  | cons b l ih =>
    simp only [maxInts, List.foldl_cons]
    rcases ih (max x b) with h | h
    · simp only [maxInts] at h
      rw [h]
      by_cases hx : x ≤ b
      · right; simp [Int.max_eq_right hx]
      · left; exact Int.max_eq_left (by omega)
    · right; exact List.mem_cons_of_mem _ h

theorem maxInts_congr (x : Int) {l l' : List Int} (h : ∀ a, a ∈ l ↔ a ∈ l') : maxInts x l = maxInts x l' := by
  have key : ∀ {l l' : List Int}, (∀ a, a ∈ l → a ∈ l') → maxInts x l ≤ maxInts x l' := by
    intro l l' hsub
    rcases maxInts_mem x l with e | e
    · rw [e]; exact maxInts_ge x l'
    · exact maxInts_ge_mem x l' _ (hsub _ e)
  exact Int.le_antisymm (key fun a => (h a).mp) (key fun a => (h a).mpr)

theorem maxInts_append (x : Int) (l l' : List Int) : maxInts x (l ++ l') = maxInts (maxInts x l) l' := by
  simp [maxInts, List.foldl_append]

theorem maxInts_cons (x a : Int) (l : List Int) : maxInts x (a :: l) = maxInts (max x a) l := rfl

theorem maxInts_swap (x : Int) (l l' : List Int) : maxInts (maxInts x l) l' = maxInts (maxInts x l') l := by
  rw [← maxInts_append, ← maxInts_append]
  exact maxInts_congr x (by intro a; simp [or_comm])

theorem foldl_cond_max {α : Type} (P : α → Bool) (f : α → Int) (l : List α) (x : Int) :
    l.foldl (fun a t => if P t then max (f t) a else a) x = maxInts x ((l.filter P).map f) := by
  induction l generalizing x with
  | nil => rfl
  | cons t l ih =>
    simp only [List.foldl_cons, List.filter_cons]
    by_cases h : P t = true
    · simp only [h, if_true, List.map_cons, maxInts_cons]
      rw [ih, Int.max_comm]
    · simp only [h, Bool.false_eq_true, if_false]
      exact ih x

end BertE.Cascade
