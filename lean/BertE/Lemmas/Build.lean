import BertE.Model.Build
/- Helper lemmas about `firstMax` (Python's `max(seq, key=...)`). -/
namespace BertE.Build

theorem firstMax_some {rk : Status → Nat} {sts : List Status} (h : sts ≠ []) :
    ∃ i w, firstMax rk sts = some (i, w) := by
  cases sts with
  | nil => exact absurd rfl h
  | cons s rest =>
    simp only [firstMax]
    cases firstMax rk rest with
    | none => exact ⟨0, s, rfl⟩
    | some p =>
      obtain ⟨j, t⟩ := p
      by_cases hlt : rk s < rk t
      · exact ⟨j + 1, t, by simp [hlt]⟩
      · exact ⟨0, s, by simp [hlt]⟩

theorem firstMax_none {rk : Status → Nat} {sts : List Status} (h : firstMax rk sts = none) : sts = [] := by
  cases sts with
  | nil => rfl
  | cons s rest =>
    obtain ⟨i, w, hw⟩ := firstMax_some (rk := rk) (sts := s :: rest) (by simp)
    rw [h] at hw; cases hw

theorem firstMax_spec {rk : Status → Nat} : ∀ {sts : List Status} {i : Nat} {w : Status},
    firstMax rk sts = some (i, w) → sts[i]? = some w ∧ ∀ s ∈ sts, rk s ≤ rk w
  | [], _, _, h => by simp [firstMax] at h
  | s :: rest, i, w, h => by
    simp only [firstMax] at h
    cases hr : firstMax rk rest with
    | none =>
      rw [hr] at h
      simp only [Option.some.injEq, Prod.mk.injEq] at h
      obtain ⟨rfl, rfl⟩ := h
      have : rest = [] := firstMax_none hr
      subst this
      simp
    | some p =>
      obtain ⟨j, t⟩ := p
      rw [hr] at h
      have ih := firstMax_spec hr
      by_cases hlt : rk s < rk t
      · simp only [hlt, if_true, Option.some.injEq, Prod.mk.injEq] at h
        obtain ⟨rfl, rfl⟩ := h
        refine ⟨by simpa using ih.1, ?_⟩
        intro x hx
        rcases List.mem_cons.mp hx with rfl | hx
        · omega
        · exact ih.2 x hx
      · simp only [hlt, if_false, Option.some.injEq, Prod.mk.injEq] at h
        obtain ⟨rfl, rfl⟩ := h
        refine ⟨by simp, ?_⟩
        intro x hx
        rcases List.mem_cons.mp hx with rfl | hx
        · exact Nat.le_refl _
        · have := ih.2 x hx; omega

theorem mem_of_getElem? {l : List Status} {i : Nat} {w : Status} (h : l[i]? = some w) : w ∈ l :=
  List.mem_of_getElem? h

end BertE.Build
