import BertE.Lemmas.C02RecSkip
import BertE.Lemmas.C02RecQueue
import BertE.Lemmas.C02RecEnqueueAgain
/- Concrete states for the non-vacuity examples of the recovery theorems of C02, and a
   decidable sufficient check of `Sys.WF` for concrete states. -/
namespace BertE.Flow
open BertE.Git

instance rec_decGraphWF (g : Graph) : Decidable g.WF := by unfold Graph.WF; infer_instance

/-- one hypothesis, so that `by decide +kernel` evaluates the concrete state once -/
theorem rec_wf_check {s : Sys} (h : s.g.WF ∧ s.remote.all (fun rc => decide (rc.2 < s.g.size)) = true ∧
    s.devs.Pairwise (fun a b => keyLt a b = true) ∧
    s.remote.all (fun rc => match rc.1 with
      | .dest (.dev M m) => s.devs.contains (M, m)
      | _ => true) = true) : s.WF := by
  obtain ⟨hg, hv, hsort, hd⟩ := h
  refine ⟨hg, ?_, hsort, ?_⟩
  · intro r c h
    have := List.all_eq_true.mp hv _ (RefMap.get_mem h)
    simpa using this
  · intro M m c h
    have := List.all_eq_true.mp hd _ (RefMap.get_mem h)
    simpa using this

theorem rec_qtip_check {g : Graph} {m : RefMap} (h : m.all (fun rc => match rc.1 with
      | .q d => (match m.get (.dest d) with
        | some t => g.le t rc.2
        | none => true)
      | _ => true) = true) : rec_QTip g m := by
  intro d q t hq ht
  have := List.all_eq_true.mp h _ (RefMap.get_mem hq)
  simp only [ht] at this
  exact this

theorem rec_qempty_check {s : Sys} {pr : PrInfo} (h : ∀ d ∈ s.targets pr.dst, s.remote.get (.q d) = none) :
    rec_QEmpty s pr := by
  intro d hd a _
  unfold rec_Qc0
  rw [h d hd]

end BertE.Flow

namespace BertE.Flow.RecDemo
open BertE.Git BertE.Flow

def d43 : Dest := .dev 4 (some 3)
def d51 : Dest := .dev 5 (some 1)

/-- queues enabled, `skip_queue_when_not_needed` on; development/4.3 (commit 1) and development/5.1 (commit 2) -/
def k0 : Sys := BertE.Drv.C01.initSys true true [d43, d51]
/-- a first pull request (`feature/y`, behind its destination) goes through the queue and is merged: the queue
    branches q/4.3 and q/5.1 stay behind, the queue is empty -/
def k1 : Sys := (step k0 (.extSet "feature/y" [0] false)).1
def k2 : Sys := (step k1 (.evalPr ⟨1, "feature/y", d43, false⟩ .final [] [])).1
def k3 : Sys := (step k2 (.evalQueues [1])).1
/-- a second pull request, `feature/x` (commit 7), up to date with development/4.3 (commit 5) -/
def k4 : Sys := (step k3 (.extSet "feature/x" [5] false)).1
def prX : PrInfo := ⟨2, "feature/x", d43, false⟩

theorem k4_WF : k4.WF := rec_wf_check (by decide +kernel)

/-- queue mode (no skipping): `feature/y` queued (pull request 1), `feature/x` (on top of development/4.3) queued
    behind it (pull request 2) -/
def q0 : Sys := BertE.Drv.C01.initSys true false [d43, d51]
def q1 : Sys := (step q0 (.extSet "feature/y" [0] false)).1
def q2 : Sys := (step q1 (.extSet "feature/x" [1] false)).1
def q3 : Sys := (step q2 (.evalPr ⟨1, "feature/y", d43, false⟩ .final [] [])).1
def q4 : Sys := (step q3 (.evalPr ⟨2, "feature/x", d43, false⟩ .final [] [])).1

def prY : PrInfo := ⟨1, "feature/y", d43, false⟩

theorem q2_QTip : rec_QTip q2.g q2.remote := rec_qtip_check (by decide +kernel)
theorem q2_QEmpty : rec_QEmpty q2 prY := rec_qempty_check (by decide +kernel)
theorem q3_QTip : rec_QTip q3.g q3.remote := rec_qtip_check (by decide +kernel)

theorem q2_WF : q2.WF := rec_wf_check (by decide +kernel)
theorem q3_WF : q3.WF := rec_wf_check (by decide +kernel)
theorem q4_WF : q4.WF := rec_wf_check (by decide +kernel)

end BertE.Flow.RecDemo
