import BertE.Lemmas.Full2Graph
/-
The direct merge: (1) with antisymmetric ancestry the direct merge lands EXACTLY on the source
tip (first target) and on the tips of the integration branches (later targets); (2) `chained` — the hypothesis of
`C03_direct_e2e_partial` — is a consequence of `prepare` and of what `is_needed = false` tested.
-/
namespace BertE.Full2
open BertE.Git BertE.Flow BertE.Close BertE.Eval

theorem full2_mergeRest_exact {pr : PrInfo} : ∀ (ds : List Dest) {l : Loc} {prevD pw : Commit}, l.OK →
    close_Antisym l.g → ds.Nodup →
    prevD < l.g.size → l.g.le prevD pw = true → ffReady l.g l.refs pr.src pw ds →
    ∃ l', mergeRest l pr prevD ds = some l' ∧ l'.g = l.g ∧
      (∀ x, (∀ d ∈ ds, x ≠ .dest d) → l'.refs.get x = l.refs.get x) ∧
      ∀ d ∈ ds, l'.refs.get (.dest d) = l.refs.get (.w d pr.src) ∧ (l.refs.get (.w d pr.src)).isSome = true
  | [], l, _, _, _, _, _, _, _, _ => ⟨l, rfl, rfl, fun _ _ => rfl, fun _ hd => nomatch hd⟩
  | d :: ds, l, prevD, pw, hl, ha, hnd, hp, hpw, hready => by
    obtain ⟨t, wc, ht, hwc, htw, hpww, hrest⟩ := hready
    rw [List.nodup_cons] at hnd
    have hwclt : wc < l.g.size := hl.valid _ _ hwc
    -- the merge into `d` is a fast-forward to the integration tip `wc`; with antisymmetry it lands exactly there
    obtain ⟨l1, n, hm, hl1, hg1, hsame1, hn, _, hwn, hnw⟩ :=
      Loc.mergeD_ff hl pr.noOct ht hwclt htw (le_trans hl.wf hpw hpww)
    cases ha wc n hwn hnw
    have hwne : ∀ d' : Dest, Ref.w d' pr.src ≠ .dest d := fun _ he => nomatch he
    have hready1 : ffReady l1.g l1.refs pr.src wc ds := by
      rw [hg1]
      exact ffReady_of_same ds wc (fun d' hd' =>
        ⟨hsame1 _ (fun he => hnd.1 (Ref.dest.inj he ▸ hd')), hsame1 _ (hwne d')⟩) hrest
    obtain ⟨l', hm', hg', hsame', hres'⟩ := full2_mergeRest_exact ds (pw := wc) hl1 (hg1 ▸ ha) hnd.2
      (hl1.valid _ _ hn) (hg1 ▸ le_refl hl.wf hwclt) hready1
    refine ⟨l', by simpa only [mergeRest, hwc, hm, hn] using hm', hg'.trans hg1, fun x hx => ?_, fun d' hd' => ?_⟩
    · rw [hsame' x (fun d' hd' => hx d' (List.mem_cons_of_mem _ hd'))]
      exact hsame1 x (hx d List.mem_cons_self)
    · rcases List.mem_cons.mp hd' with rfl | hd''
      · rw [hsame' _ (fun d'' hd'' he => hnd.1 (by cases he; exact hd'')), hn, hwc]
        exact ⟨rfl, rfl⟩
      · rw [← hsame1 _ (hwne d')]
        exact hres' d' hd''

/-- The direct merge, exactly (antisymmetric ancestry): if the source contains its destination's tip and every
    integration branch contains its target's tip and its predecessor's tip, the plan is the pushes of the preparation,
    the deletion of the `q/` branches, and ONE atomic pruning push of a clone in which the first target is on the
    source tip, every later target on the tip of its integration branch, every other destination where it was. -/
theorem full2_directMerge_exact {s : Sys} {l4 : Loc} (hl : l4.OK) (ha : close_Antisym l4.g) (pr : PrInfo) {sc dc : Commit}
    (d1 : Dest) (ds : List Dest) (hnd : (d1 :: ds).Nodup) (pre : List Op)
    (hdc : l4.refs.get (.dest d1) = some dc) (hsc : sc < l4.g.size) (hle : l4.g.le dc sc = true)
    (hready : ffReady l4.g l4.refs pr.src sc ds) :
    (directMerge s l4 pr sc (d1 :: ds) pre).g = l4.g ∧
    (directMerge s l4 pr sc (d1 :: ds) pre).outcome = "SuccessMessage" ∧
    ∃ loc, (directMerge s l4 pr sc (d1 :: ds) pre).ops =
        pre ++ (if s.useQueue then qOnly l4.refs else []).map Op.delete ++ [.pushAll loc true] ∧
      loc.get (.dest d1) = some sc ∧
      (∀ d ∈ ds, loc.get (.dest d) = l4.refs.get (.w d pr.src) ∧ (l4.refs.get (.w d pr.src)).isSome = true) ∧
      (∀ d, d ∉ d1 :: ds → loc.get (.dest d) = l4.refs.get (.dest d)) := by
  -- the deletion of the `q/` branches touches neither a destination nor an integration branch
  have hq : ∀ x, (∀ d, x ≠ Ref.q d) → (delRefs l4.refs (if s.useQueue then qOnly l4.refs else [])).get x = l4.refs.get x :=
    fun x hx => get_delRefs_of_not_q (directMerge_qs s l4) hx
  unfold directMerge
  generalize (if s.useQueue then qOnly l4.refs else []) = qs at hq ⊢
  have hqd : ∀ d, (delRefs l4.refs qs).get (.dest d) = l4.refs.get (.dest d) := fun d => hq _ (fun _ he => nomatch he)
  have hqw : ∀ d, (delRefs l4.refs qs).get (.w d pr.src) = l4.refs.get (.w d pr.src) := fun d => hq _ (fun _ he => nomatch he)
  simp only
  have hl5 : Loc.OK { l4 with refs := delRefs l4.refs qs } := hl.delRefs qs
  obtain ⟨n1, hm1, _, hsn, hns⟩ := Loc.merge_ff (l := { l4 with refs := delRefs l4.refs qs }) hl5 ((hqd d1).trans hdc)
    (show sc ∈ dc :: [sc] by simp) (forall_mem_pair.mpr ⟨hle, le_refl hl.wf hsc⟩)
  cases ha sc n1 hsn hns
  rw [hm1]
  simp only [RefMap.get_set_eq]
  rw [List.nodup_cons] at hnd
  have hset : ∀ x, x ≠ Ref.dest d1 → (∀ d, x ≠ Ref.q d) →
      ((delRefs l4.refs qs).set (.dest d1) sc).get x = l4.refs.get x := fun x h1 h2 => by
    rw [RefMap.get_set_ne _ _ h1, hq x h2]
  obtain ⟨l7, hm7, hg7, hsame7, hres7⟩ := full2_mergeRest_exact (pr := pr) ds
    (l := { l4 with refs := (delRefs l4.refs qs).set (.dest d1) sc }) (pw := sc)
    (hl5.set _ hsc) ha hnd.2 hsc (le_refl hl.wf hsc)
    (ffReady_of_same ds sc (fun d hd => ⟨hset _ (fun he => hnd.1 (Ref.dest.inj he ▸ hd)) (fun _ he => nomatch he),
      hset _ (fun he => nomatch he) (fun _ he => nomatch he)⟩) hready)
  rw [hm7]
  simp only
  -- the integration branches pruned from the clone are not destinations
  have hlocd : ∀ d, (delRefs l7.refs (ds.map (fun d => Ref.w d pr.src))).get (.dest d) = l7.refs.get (.dest d) := by
    intro d
    rw [get_delRefs, if_neg]
    simp only [List.mem_map, not_exists, not_and]
    exact fun _ _ he => nomatch he
  refine ⟨hg7, trivial, _, rfl, ?_, fun d hd => ?_, fun d hd => ?_⟩
  · rw [hlocd, hsame7 _ (fun d' hd' he => hnd.1 (by cases he; exact hd'))]
    exact RefMap.get_set_eq _ _ _
  · rw [hlocd, ← hset (.w d pr.src) (fun he => nomatch he) (fun _ he => nomatch he)]
    exact hres7 d hd
  · rw [hlocd, hsame7 _ (fun d' hd' he => hd (by cases he; exact List.mem_cons_of_mem _ hd'))]
    exact hset _ (fun he => hd (Ref.dest.inj he ▸ List.mem_cons_self)) (fun _ he => nomatch he)

/-- post-condition of a successful `update_integration_branches` -/
theorem full2_updateW_chained (pr : PrInfo) : ∀ (ds : List Dest) {l : Loc} {prev : Commit} {done : List Ref},
    l.OK → prev < l.g.size → ds.Nodup → (updateW l pr prev ds done).2.2 = true →
    chained (updateW l pr prev ds done).1.g (updateW l pr prev ds done).1.refs pr.src prev ds
  | [], _, _, _, _, _, _, _ => trivial
  | d :: ds, l, prev, done, hl, hp, hnd, hok => by
    revert hok
    simp only [updateW]
    cases ht : l.refs.get (.dest d) with
    | none => intro hok; cases hok
    | some t =>
      simp only
      cases hm : l.mergeN pr.noOct (.w d pr.src) t prev with
      | none => intro hok; cases hok
      | some l' =>
        simp only
        have hs : ∀ x ∈ [t, prev], x < l.g.size := forall_mem_pair.mpr ⟨hl.valid _ _ ht, hp⟩
        obtain ⟨hl', _, _, _, n, _, hn, _, hsn⟩ := Loc.mergeN_spec hl hs hm
        rw [hn]
        simp only
        intro hok
        rw [List.nodup_cons] at hnd
        have hnlt : n < l'.g.size := hl'.valid _ _ hn
        refine ⟨n, ?_, ?_, full2_updateW_chained pr ds hl' hnlt hnd.2 hok⟩
        · rw [updateW_only pr ds l' n _ _ (fun d' hd' he => by
            simp only [Ref.w.injEq] at he; exact hnd.1 (he.1 ▸ hd'))]
          exact hn
        · exact (updateW_wonly pr ds hl' hnlt).ext.le hnlt (hsn prev (by simp))

/-- git's "Already up to date" -/
theorem full2_merge_noop {l : Loc} {r : Ref} {a : Commit} {srcs : List Commit} (hr : l.refs.get r = some a)
    (haa : l.g.le a a = true) (hall : ∀ x ∈ srcs, l.g.le x a = true) :
    l.merge r srcs = some { l with refs := l.refs.set r a } := by
  have h : topHead l.g (a :: srcs) = some a := by
    unfold topHead
    rw [List.find?_cons_of_pos]
    simp only [List.all_cons, haa, Bool.true_and, List.all_eq_true]
    exact hall
  unfold Loc.merge
  rw [hr]
  simp only
  rw [h]

theorem full2_get_set_same {m : RefMap} {r : Ref} {a : Commit} (hr : m.get r = some a) (x : Ref) :
    (m.set r a).get x = m.get x := by
  rw [RefMap.get_set]
  by_cases hx : x = r
  · subst hx; simp [hr]
  · simp [hx]

theorem full2_merge1_noop {l : Loc} {r : Ref} {a c : Commit} (hr : l.refs.get r = some a)
    (haa : l.g.le a a = true) (hca : l.g.le c a = true) :
    ∃ l', l.merge1 r c = (l', true) ∧ l'.g = l.g ∧ ∀ x, l'.refs.get x = l.refs.get x := by
  refine ⟨{ l with refs := l.refs.set r a }, ?_, rfl, full2_get_set_same hr⟩
  unfold Loc.merge1
  rw [full2_merge_noop hr haa (List.forall_mem_singleton.mpr hca)]

theorem full2_mergeN_noop {l : Loc} (n : Bool) {r : Ref} {a t p : Commit} (hr : l.refs.get r = some a)
    (haa : l.g.le a a = true) (hta : l.g.le t a = true) (hpa : l.g.le p a = true) :
    ∃ l', l.mergeN n r t p = some l' ∧ l'.g = l.g ∧ ∀ x, l'.refs.get x = l.refs.get x := by
  cases n with
  | false =>
    refine ⟨{ l with refs := l.refs.set r a }, ?_, rfl, full2_get_set_same hr⟩
    simp only [Loc.mergeN, Bool.false_eq_true, if_false]
    exact full2_merge_noop hr haa (forall_mem_pair.mpr ⟨hta, hpa⟩)
  | true =>
    -- `consecutive_merge`: two merges, each with nothing to do
    obtain ⟨l1, e1, g1, r1⟩ := full2_merge1_noop hr haa hta
    obtain ⟨l2, e2, g2, r2⟩ := full2_merge1_noop (l := l1) (c := p) (by rw [r1]; exact hr) (by rw [g1]; exact haa)
      (by rw [g1]; exact hpa)
    have hh : l.refs.has r = true := (RefMap.has_iff _ _).mpr ⟨a, hr⟩
    exact ⟨l2, by simp [Loc.mergeN, Loc.merge2, Loc.seq2, hh, e1, e2], g2.trans g1, fun x => (r2 x).trans (r1 x)⟩

theorem full2_ok_of_same {l l' : Loc} (hl : l.OK) (hg : l'.g = l.g) (hr : ∀ x, l'.refs.get x = l.refs.get x) :
    l'.OK :=
  ⟨by rw [hg]; exact hl.wf, fun r c h => by rw [hg]; exact hl.valid r c (by rw [← hr]; exact h)⟩

/-- `update_integration_branches` has nothing to do when the integration branches are in sync and each contains the
    tip of its target -/
theorem full2_updateW_noop (pr : PrInfo) : ∀ (ds : List Dest) {l : Loc} {prev : Commit} {done : List Ref}, l.OK →
    (∀ d ∈ ds, ∃ t a, l.refs.get (.dest d) = some t ∧ l.refs.get (.w d pr.src) = some a ∧ l.g.le t a = true) →
    inSync l.g l.refs prev (ds.map (fun d => Ref.w d pr.src)) = true →
    (updateW l pr prev ds done).1.g = l.g ∧ ∀ x, (updateW l pr prev ds done).1.refs.get x = l.refs.get x
  | [], _, _, _, _, _, _ => ⟨rfl, fun _ => rfl⟩
  | d :: ds, l, prev, done, hl, h1, h2 => by
    obtain ⟨t, a, ht, ha, hta⟩ := h1 d List.mem_cons_self
    simp only [List.map_cons, inSync, ha, Bool.and_eq_true] at h2
    obtain ⟨l', hm, hg', hr'⟩ := full2_mergeN_noop pr.noOct ha (le_refl hl.wf (hl.valid _ _ ha)) hta h2.1
    -- the clone after the merge is the clone before it: the hypotheses carry over
    obtain ⟨r1, r2⟩ := full2_updateW_noop pr ds (prev := a) (done := done ++ [.w d pr.src]) (full2_ok_of_same hl hg' hr')
      (fun d' hd' => by simpa only [hr', hg'] using h1 d' (List.mem_cons_of_mem _ hd'))
      (by rw [hg', inSync_congr (Extends.refl _) hl.valid hr']; exact h2.2)
    simp only [updateW, ht, hm, hr', ha]
    exact ⟨r1.trans hg', fun x => (r2 x).trans (hr' x)⟩

theorem full2_createW_new (pr : PrInfo) : ∀ (ds : List Dest) (l : Loc), ds.Nodup → ∀ d ∈ ds,
    l.refs.get (.w d pr.src) = none → (createW l pr ds).refs.get (.w d pr.src) = l.refs.get (.dest d)
  | [], _, _, _, hd, _ => nomatch hd
  | d0 :: ds, l, hnd, d, hd, hw => by
    rw [List.nodup_cons] at hnd
    rcases List.mem_cons.mp hd with rfl | hd'
    · -- created now, then left alone
      simp only [createW, hw]
      rw [createW_only pr ds _ _ (fun d' hd' he => hnd.1 (by cases he; exact hd'))]
      cases ht : l.refs.get (.dest d) with
      | none => exact hw
      | some t => exact RefMap.get_set_eq _ _ _
    · -- the step for `d0` touches neither `w/d` nor `d`
      obtain ⟨l', he, _, _, hsame, _, _⟩ := createW_step l pr d0 ds
      have hne : Ref.w d pr.src ≠ .w d0 pr.src := fun he => hnd.1 (by cases he; exact hd')
      rw [he, full2_createW_new pr ds l' hnd.2 d hd' (by rw [hsame _ hne]; exact hw)]
      exact hsame _ (fun he => nomatch he)

theorem full2_resetW_some (remote : RefMap) (src : String) {d : Dest} {c : Commit}
    (hc : remote.get (.w d src) = some c) : ∀ (rest : List Dest) (m : RefMap),
    (d ∈ rest ∨ m.get (.w d src) = some c) →
    (rest.foldl (fun m d => match remote.get (.w d src) with
        | some c => m.set (.w d src) c
        | none => m) m).get (.w d src) = some c
  | [], _, h => h.elim (fun h => nomatch h) fun h => h
  | d' :: rest, m, h => by
    simp only [List.foldl_cons]
    refine full2_resetW_some remote src hc rest _ ?_
    by_cases hd : d = d'
    · subst hd
      rw [hc]
      exact .inr (RefMap.get_set_eq _ _ _)
    · refine h.imp (fun h => (List.mem_cons.mp h).resolve_left hd) fun h => ?_
      split
      · rw [RefMap.get_set_ne _ _ (fun he => hd (Ref.w.inj he).1)]
        exact h
      · exact h

theorem full2_settle_some {s : Sys} (pr : PrInfo) {rest : List Dest} {sync : Bool} (l3 : Loc)
    (h : (s.useQueue && sync) = true) {d : Dest} (hd : d ∈ rest) {c : Commit}
    (hc : s.remote.get (.w d pr.src) = some c) :
    (settle s pr rest sync l3).refs.get (.w d pr.src) = some c := by
  simp only [settle, h, if_true]
  exact full2_resetW_some s.remote pr.src hc rest l3.refs (Or.inl hd)

theorem full2_settle_none (s : Sys) (pr : PrInfo) (rest : List Dest) (sync : Bool) (l3 : Loc) {x : Ref}
    (hx : s.remote.get x = none) : (settle s pr rest sync l3).refs.get x = l3.refs.get x := by
  rcases (settle_cases s pr rest sync l3).2 x with h | ⟨_, _, _, _, hs, _⟩
  · exact h
  · rw [hx] at hs; cases hs

theorem full2_chained_of_inSync {g : Graph} {refs refs' : RefMap} {src : String} : ∀ (ds : List Dest) (prev : Commit),
    (∀ d ∈ ds, refs'.get (.w d src) = refs.get (.w d src)) →
    inSync g refs prev (ds.map (fun d => Ref.w d src)) = true → chained g refs' src prev ds
  | [], _, _, _ => trivial
  | d :: ds, prev, h, hs => by
    simp only [List.map_cons, inSync] at hs
    cases hw : refs.get (.w d src) with
    | none => rw [hw] at hs; cases hs
    | some c =>
      rw [hw] at hs
      simp only [Bool.and_eq_true] at hs
      exact ⟨c, by rw [h d List.mem_cons_self]; exact hw, hs.1,
        full2_chained_of_inSync ds c (fun d' hd' => h d' (List.mem_cons_of_mem _ hd')) hs.2⟩

/-- `chained` for the clone `l4` that `prepare` hands over (`l1`, `l2`, `u`: after `createW`, after the conflict check,
    the result of `updateW`; `sync`: the outcome of `check_in_sync`): without the reset of `settle` it is the
    post-condition of `update_integration_branches`; with it, the update had nothing to do and the chain is the one
    `check_in_sync` has seen. -/
theorem full2_chained_core {s : Sys} (hs : s.WF) (pr : PrInfo) {sc dc : Commit} {orc : List Bool} (rest : List Dest)
    (hnd : rest.Nodup) (sync : Bool) (hsclt : sc < s.g.size) {l1 l2 l4 : Loc} {u : Loc × List Ref × Bool}
    (e1 : l1 = createW ⟨s.g, s.remote, orc⟩ pr rest) (e2 : l2 = (conflictCheck l1 dc sc).2)
    (e3 : u = updateW l2 pr sc rest []) (e4 : l4 = settle s pr rest sync u.1)
    (hsync : sync = true → inSync l1.g l1.refs sc (rest.map (fun d => Ref.w d pr.src)) = true)
    (hupd : u.2.2 = true)
    (hall : ∀ d ∈ rest, ∃ wc t, l4.refs.get (.w d pr.src) = some wc ∧ l4.refs.get (.dest d) = some t ∧
      l4.g.le t wc = true) :
    chained l4.g l4.refs pr.src sc rest := by
  have hl0 : Loc.OK ⟨s.g, s.remote, orc⟩ := ⟨hs.g, hs.valid⟩
  have hw1 : WOnly ⟨s.g, s.remote, orc⟩ l1 := e1 ▸ createW_wonly pr rest hl0
  have hg1 : l1.g = s.g := e1 ▸ (createW_frame pr rest ⟨s.g, s.remote, orc⟩).1
  have ho1 : ∀ x, (∀ d ∈ rest, x ≠ .w d pr.src) → l1.refs.get x = s.remote.get x :=
    e1 ▸ createW_only pr rest ⟨s.g, s.remote, orc⟩
  have hkeep := (createW_frame pr rest ⟨s.g, s.remote, orc⟩).2.2.2.1
  have hnew := full2_createW_new pr rest ⟨s.g, s.remote, orc⟩ hnd
  rw [← e1] at hkeep hnew
  obtain ⟨hg2, hr2⟩ := conflictCheck_same l1 dc sc
  have hl2 : l2.OK := e2 ▸ (conflictCheck_wonly hw1.ok dc sc).ok
  rw [← e2] at hg2 hr2
  have hsc2 : sc < l2.g.size := by rw [hg2, hg1]; exact hsclt
  have hw3 : WOnly l2 u.1 := e3 ▸ updateW_wonly pr rest (done := []) hl2 hsc2
  have ho3 : ∀ x, (∀ d ∈ rest, x ≠ .w d pr.src) → u.1.refs.get x = l2.refs.get x :=
    e3 ▸ updateW_only pr rest l2 sc []
  subst e4
  by_cases hcond : (s.useQueue && sync) = true
  · -- the reset applies: `updateW` was a no-op
    have hsy : sync = true := ((Bool.and_eq_true _ _).mp hcond).2
    have h1 : ∀ d ∈ rest, ∃ t a, l2.refs.get (.dest d) = some t ∧ l2.refs.get (.w d pr.src) = some a ∧
        l2.g.le t a = true := by
      intro d hd
      obtain ⟨wc, t, x1, x2, x3⟩ := hall d hd
      rw [settle_only s pr rest sync _ _ (fun _ _ he => by cases he),
        ho3 _ (fun _ _ he => by cases he)] at x2
      have x2' : s.remote.get (.dest d) = some t := by
        rw [← ho1 (.dest d) (fun _ _ he => nomatch he), ← hr2]
        exact x2
      rw [(settle_cases ..).1] at x3
      cases hR : s.remote.get (.w d pr.src) with
      | some R =>
        rw [full2_settle_some pr _ hcond hd hR] at x1
        cases x1
        have hRlt : wc < l2.g.size := by rw [hg2, hg1]; exact hs.valid _ _ hR
        refine ⟨t, wc, x2, ?_, ?_⟩
        · rw [hr2]; exact hkeep _ wc hR
        · rw [← hw3.ext.2 t wc hRlt]; exact x3
      | none =>
        refine ⟨t, t, x2, ?_, ?_⟩
        · rw [hr2, hnew d hd hR]; exact x2'
        · exact le_refl hl2.wf (hl2.valid _ _ x2)
    have h2 : inSync l2.g l2.refs sc (rest.map (fun d => Ref.w d pr.src)) = true := by
      rw [hg2, hr2]; exact hsync hsy
    obtain ⟨r1, r2⟩ := full2_updateW_noop pr rest (prev := sc) (done := []) hl2 h1 h2
    rw [← e3] at r1 r2
    rw [(settle_cases ..).1, r1]
    refine full2_chained_of_inSync rest sc ?_ h2
    intro d hd
    cases hR : s.remote.get (.w d pr.src) with
    | some R =>
      rw [full2_settle_some pr _ hcond hd hR, hr2]
      exact (hkeep _ R hR).symm
    | none =>
      rw [full2_settle_none s pr rest sync _ hR, r2]
  · -- no reset: the post-condition of `updateW`
    have hcond' : (s.useQueue && sync) = false := by simpa using hcond
    rw [show settle s pr rest sync u.1 = u.1 by simp [settle, hcond'], e3]
    exact full2_updateW_chained pr rest hl2 hsc2 hnd (e3 ▸ hupd)

/-- `chained`, the hypothesis `hchain` of `C03_direct_e2e_partial`, follows from `prepare` and from what
    `is_needed = false` tested (`hall`) -/
theorem full2_prepare_chained {s : Sys} (hs : s.WF) (pr : PrInfo) {sc dc : Commit} {orc : List Bool} {l4 : Loc}
    {pushW : List Op}
    (hsc : s.remote.get (.other pr.src) = some sc)
    (hprep : prepare s pr sc dc orc = .inr (l4, pushW))
    (hall : ∀ d ∈ (s.targets pr.dst).drop 1, ∃ wc t, l4.refs.get (.w d pr.src) = some wc ∧
        l4.refs.get (.dest d) = some t ∧ l4.g.le t wc = true) :
    chained l4.g l4.refs pr.src sc ((s.targets pr.dst).drop 1) := by
  have hnd : (s.targets pr.dst).Nodup := pairwise_before_nodup (targets_pairwise hs.sorted pr.dst)
  obtain ⟨rest, hts⟩ := evalG_targets_cons s pr.dst
  revert hprep hall
  refine prepare_elim (motive := fun r => r = .inr (l4, pushW) →
    (∀ d ∈ (s.targets pr.dst).drop 1, ∃ wc t, l4.refs.get (.w d pr.src) = some wc ∧
        l4.refs.get (.dest d) = some t ∧ l4.g.le t wc = true) →
    chained l4.g l4.refs pr.src sc ((s.targets pr.dst).drop 1)) s pr sc dc orc ?_
  intro l1 l2 u e1 e2 e3
  refine ⟨fun h => (nomatch h), fun h => (nomatch h), fun hupd l4' e4 hp hall => ?_⟩
  cases hp
  rw [hts] at hnd e1 e3 e4 hall ⊢
  simp only [List.drop_succ_cons, List.drop_zero] at e1 e3 e4 hall ⊢
  rw [List.nodup_cons] at hnd
  -- the first "integration branch" `check_in_sync` reads is the source branch itself
  have hmap : (pr.dst :: rest).map (wRef pr pr.dst) = .other pr.src :: rest.map (fun d => Ref.w d pr.src) := by
    rw [List.map_cons]
    congr 1
    · simp [wRef]
    · apply List.map_congr_left
      intro d hd
      have hne : d ≠ pr.dst := fun he => hnd.1 (he ▸ hd)
      simp [wRef, hne]
  rw [hmap] at e4
  refine full2_chained_core hs pr rest hnd.2 _ (hs.valid _ _ hsc) e1 e2 e3 e4 ?_ hupd hall
  intro hsy
  simp only [inSync] at hsy
  rw [e1, createW_only pr rest _ _ (fun _ _ he => by cases he)] at hsy
  have : (⟨s.g, s.remote, orc⟩ : Loc).refs.get (.other pr.src) = some sc := hsc
  rw [this] at hsy
  simp only [Bool.and_eq_true] at hsy
  rw [e1]
  exact hsy.2

end BertE.Full2
