import BertE.Lemmas.C02RecSkip
import BertE.Lemmas.C02RecQueue
import BertE.Lemmas.EnqueueInv
/- C02, recovery of `add_to_queue` (`Flow.enqueue`): the content of the queue commits that its final push offers is
   a closed-form function of the snapshot, whatever git's content merges answered. -/
namespace BertE.Flow
open BertE.Git

def rec_Qc (g : Graph) (m : RefMap) (d : Dest) (a : Commit) : Prop :=
  ∃ q, m.get (.q d) = some q ∧ g.le a q = true

/-- `a` is on the queue branch of `d`, or - when there is no queue branch yet - on the destination branch, where
    `get_queue_branch` creates it -/
def rec_Qc0 (g : Graph) (m : RefMap) (d : Dest) (a : Commit) : Prop :=
  match m.get (.q d) with
  | some q => g.le a q = true
  | none => Dc g m d a

theorem rec_Qc_congr {g g' : Graph} {m m' : RefMap} {d : Dest} (hv : RefsValid g m) (he : Extends g g')
    (hm : m'.get (.q d) = m.get (.q d)) (a : Commit) : rec_Qc g' m' d a ↔ rec_Qc g m d a := by
  unfold rec_Qc
  rw [hm]
  constructor
  · rintro ⟨w, hw, hle⟩
    exact ⟨w, hw, by rw [← he.2 a w (hv _ _ hw)]; exact hle⟩
  · rintro ⟨w, hw, hle⟩
    exact ⟨w, hw, he.le (hv _ _ hw) hle⟩

theorem rec_Qc0_congr {g g' : Graph} {m m' : RefMap} {d : Dest} (hv : RefsValid g m) (he : Extends g g')
    (hq : m'.get (.q d) = m.get (.q d)) (hd : m'.get (.dest d) = m.get (.dest d)) (a : Commit) :
    rec_Qc0 g' m' d a ↔ rec_Qc0 g m d a := by
  unfold rec_Qc0
  rw [hq]
  cases hqq : m.get (.q d) with
  | some q => simp only; rw [he.2 a q (hv _ _ hqq)]
  | none => exact Dc_congr hv he hd a

theorem rec_createQ_content {l : Loc} (hl : l.OK) (ts : List Dest) :
    (createQ l ts).1.OK ∧ (createQ l ts).1.g = l.g ∧
    (∀ x, (∀ d, x ≠ .q d) → (createQ l ts).1.refs.get x = l.refs.get x) ∧
    ∀ d ∈ ts, ∀ a, rec_Qc (createQ l ts).1.g (createQ l ts).1.refs d a ↔ rec_Qc0 l.g l.refs d a := by
  obtain ⟨hok, hg⟩ := createQ_ok ts hl
  obtain ⟨_, hb, hc, hd⟩ := createQ_apply l.g ts l l.refs (fun _ => rfl)
  refine ⟨hok, hg, fun x hx => (hb x hx).2, ?_⟩
  intro d hdts a
  unfold rec_Qc rec_Qc0
  rw [hg]
  rcases hc d with h | ⟨_, hn, hv⟩
  · rw [h]
    cases hq : l.refs.get (.q d) with
    | some q => simp
    | none =>
      simp only [reduceCtorEq, false_and, exists_false, false_iff]
      rintro ⟨t, ht, _⟩
      have := hd d hdts (by rw [ht]; rfl)
      rw [h, hq] at this
      cases this
  · rw [hv, hn]
    rfl

theorem rec_qrefs_ne (pr : PrInfo) {d : Dest} {ds : List Dest} (h : d ∉ ds) :
    (∀ d' ∈ ds, Ref.q d ≠ .q d' ∧ Ref.q d ≠ .qw pr.id d' pr.src) ∧
    ∀ d' ∈ ds, Ref.qw pr.id d pr.src ≠ .q d' ∧ Ref.qw pr.id d pr.src ≠ .qw pr.id d' pr.src := by
  constructor
  · exact fun d' hd' => ⟨fun he => h (Ref.q.inj he ▸ hd'), nofun⟩
  · exact fun d' hd' => ⟨nofun, fun he => h ((Ref.qw.inj he).2.1 ▸ hd')⟩

theorem rec_qstep_other {l l1 : Loc} (hl : l.OK) (hext : Extends l.g l1.g) {d d' : Dest}
    (hsame : ∀ x, x ≠ .q d → l1.refs.get x = l.refs.get x) (hne : d' ≠ d) (i : Nat) (n : String) (c : Commit)
    (src : String) (a : Commit) :
    (rec_Qc l1.g (l1.refs.set (.qw i d n) c) d' a ∨ Wc l1.g (l1.refs.set (.qw i d n) c) src d' a) ↔
    (rec_Qc l.g l.refs d' a ∨ Wc l.g l.refs src d' a) := by
  have e1 : (l1.refs.set (.qw i d n) c).get (.q d') = l.refs.get (.q d') := by
    rw [RefMap.get_set_ne _ _ (by intro he; cases he)]
    exact hsame _ (by intro he; injection he with he; exact hne he)
  have e2 : (l1.refs.set (.qw i d n) c).get (.w d' src) = l.refs.get (.w d' src) := by
    rw [RefMap.get_set_ne _ _ (by intro he; cases he)]
    exact hsame _ (by intro he; cases he)
  rw [rec_Qc_congr hl.valid hext e1 a, Wc_congr hl.valid hext e2 a]

/-- content among the commits that existed before (`< N`); what `queueRest` leaves alone is `queueRest_spec` -/
theorem rec_queueRest_content (pr : PrInfo) (N : Nat) : ∀ (ds : List Dest) {l l' : Loc} {prevQ : Commit},
    l.OK → prevQ < l.g.size → N ≤ l.g.size → ds.Nodup → queueRest l pr prevQ ds = some l' →
    ∀ pre d post, ds = pre ++ d :: post → ∀ n, l'.refs.get (.q d) = some n →
      ∀ a, a < N → (l'.g.le a n = true ↔
        (l.g.le a prevQ = true ∨ ∃ d' ∈ pre ++ [d], rec_Qc l.g l.refs d' a ∨ Wc l.g l.refs pr.src d' a))
  | [], _, _, _, _, _, _, _, _ => by
    intro pre d post h
    cases pre <;> cases h
  | d :: ds, l, l', prevQ, hl, hp, hN, hnd, hm => by
    simp only [queueRest] at hm
    cases hw : l.refs.get (.w d pr.src) with
    | none => rw [hw] at hm; simp at hm
    | some wc =>
      rw [hw] at hm
      simp only at hm
      cases hm1 : l.mergeN pr.noOct (.q d) wc prevQ with
      | none => rw [hm1] at hm; simp at hm
      | some l1 =>
        rw [hm1] at hm
        simp only at hm
        have hs : ∀ x ∈ [wc, prevQ], x < l.g.size := by
          intro x hx
          simp only [List.mem_cons, List.not_mem_nil, or_false] at hx
          rcases hx with rfl | rfl
          · exact hl.valid _ _ hw
          · exact hp
        obtain ⟨hl1, hext1, hsame1, _⟩ := Loc.mergeN_spec hl hs hm1
        obtain ⟨qold, c, hqold, hc, hex⟩ := Loc.mergeN_exact hl hs hm1
        rw [hc] at hm
        simp only at hm
        have hclt : c < l1.g.size := hl1.valid _ _ hc
        have hl2 : Loc.OK { l1 with refs := l1.refs.set (.qw pr.id d pr.src) c } := ⟨hl1.wf, hl1.valid.set hclt⟩
        rw [List.nodup_cons] at hnd
        obtain ⟨_, hext2, hsame2, _⟩ := queueRest_spec ds hl2 hclt hnd.2 hm
        have hcc : ∀ a, a < N → (l1.g.le a c = true ↔
            (l.g.le a prevQ = true ∨ rec_Qc l.g l.refs d a ∨ Wc l.g l.refs pr.src d a)) := by
          intro a ha
          rw [hex a (Nat.lt_of_lt_of_le ha hN)]
          constructor
          · rintro (h | ⟨x, hx, h⟩)
            · exact Or.inr (Or.inl ⟨qold, hqold, h⟩)
            · simp only [List.mem_cons, List.not_mem_nil, or_false] at hx
              rcases hx with rfl | rfl
              · exact Or.inr (Or.inr ⟨x, hw, h⟩)
              · exact Or.inl h
          · rintro (h | ⟨t', ht', h⟩ | ⟨w, hw', h⟩)
            · exact Or.inr ⟨prevQ, by simp, h⟩
            · rw [hqold] at ht'; cases ht'
              exact Or.inl h
            · rw [hw] at hw'; cases hw'
              exact Or.inr ⟨wc, by simp, h⟩
        intro pre x post hsplit n hn a ha
        cases pre with
        | nil =>
          simp only [List.nil_append, List.cons.injEq] at hsplit
          obtain ⟨rfl, _⟩ := hsplit
          -- the later merges leave `q/d` on `c`
          rw [hsame2 _ (rec_qrefs_ne pr hnd.1).1] at hn
          have hn' : l1.refs.get (.q d) = some n := by
            rw [← hn]
            exact (RefMap.get_set_ne _ _ (by intro he; cases he)).symm
          rw [hc] at hn'
          cases hn'
          rw [hext2.2 a c hclt, hcc a ha]
          simp
        | cons y pre' =>
          simp only [List.cons_append, List.cons.injEq] at hsplit
          obtain ⟨rfl, hsplit⟩ := hsplit
          rw [rec_queueRest_content pr N ds hl2 hclt (Nat.le_trans hN hext1.1) hnd.2 hm pre' x post hsplit n hn a ha]
          dsimp only
          rw [hcc a ha]
          have hconv := fun d' (hd' : d' ∈ pre' ++ [x]) => rec_qstep_other hl hext1 hsame1
            (fun he => hnd.1 (he ▸ rec_mem_prefix hsplit hd')) pr.id pr.src c pr.src a
          constructor
          · rintro ((h | h | h) | ⟨d', hd', h⟩)
            · exact Or.inl h
            · exact Or.inr ⟨d, by simp, Or.inl h⟩
            · exact Or.inr ⟨d, by simp, Or.inr h⟩
            · exact Or.inr ⟨d', List.mem_cons_of_mem _ hd', (hconv d' hd').mp h⟩
          · rintro (h | ⟨d', hd', h⟩)
            · exact Or.inl (Or.inl h)
            · rcases List.mem_cons.mp hd' with rfl | hd'
              · exact Or.inl (Or.inr h)
              · exact Or.inr ⟨d', hd', (hconv d' hd').mpr h⟩

/-- what the queue commit on the first target contains -/
def rec_QFirst (g : Graph) (m : RefMap) (sc : Commit) (d1 : Dest) (a : Commit) : Prop :=
  rec_Qc0 g m d1 a ∨ g.le a sc = true

/-- the names of the final push of `add_to_queue` -/
def rec_qnames (pr : PrInfo) (ts : List Dest) : List Ref :=
  ts.map Ref.q ++ ts.map (fun d => Ref.qw pr.id d pr.src)

/-- `add_to_queue` that succeeds: the pushes of the queue branches it had to create, then ONE non-atomic push of
    the queue branches and queue-integration refs of the pull request; contents among the commits `< N` -/
theorem rec_enqueue_content {s : Sys} {l4 : Loc} {pr : PrInfo} {ts : List Dest} {d1 : Dest} {ds : List Dest}
    {pre : List Op} (N : Nat) (hts : ts = d1 :: ds)
    (hl : l4.OK) (hN : N ≤ l4.g.size) (hnd : ts.Nodup)
    (hout : (enqueue s l4 pr ts pre).outcome = "Queued") :
    ∃ l8 sc', l4.refs.get (.other pr.src) = some sc' ∧ Loc.OK l8 ∧ Extends l4.g l8.g ∧
      (enqueue s l4 pr ts pre).g = l8.g ∧
      (enqueue s l4 pr ts pre).ops = pre ++ (createQ l4 ts).2 ++ [Op.push (tipsOf l8.refs (rec_qnames pr ts))] ∧
      (enqueue s l4 pr ts pre).queue = s.queue ++ [⟨pr.id, pr.src, ts⟩] ∧
      (∃ n1, l8.refs.get (.qw pr.id d1 pr.src) = some n1 ∧ l8.refs.get (.q d1) = some n1 ∧ ∀ a, a < N →
        (l8.g.le a n1 = true ↔ rec_QFirst l4.g l4.refs sc' d1 a)) ∧
      ∀ pre' d post, ds = pre' ++ d :: post → ∃ n, l8.refs.get (.qw pr.id d pr.src) = some n ∧
        l8.refs.get (.q d) = some n ∧ ∀ a, a < N →
        (l8.g.le a n = true ↔ (rec_QFirst l4.g l4.refs sc' d1 a ∨
          ∃ d' ∈ pre' ++ [d], rec_Qc0 l4.g l4.refs d' a ∨ Wc l4.g l4.refs pr.src d' a)) := by
  subst hts
  obtain ⟨hl5, hg5, hoth5, hq5⟩ := rec_createQ_content hl (d1 :: ds)
  unfold enqueue at hout ⊢
  generalize hcq : createQ l4 (d1 :: ds) = cq at hl5 hg5 hoth5 hq5 hout ⊢
  obtain ⟨l5, qops⟩ := cq
  simp only at hl5 hg5 hoth5 hq5 hout ⊢
  have hsrc5 : l5.refs.get (.other pr.src) = l4.refs.get (.other pr.src) := hoth5 _ (fun _ he => by cases he)
  cases hsrc : l5.refs.get (.other pr.src) with
  | none => rw [hsrc] at hout; simp at hout
  | some sc' =>
    rw [hsrc] at hout
    simp only at hout ⊢
    cases hm : l5.merge (.q d1) [sc'] with
    | none => rw [hm] at hout; simp at hout
    | some l6 =>
      rw [hm] at hout
      simp only at hout ⊢
      have hss : ∀ x ∈ [sc'], x < l5.g.size := by
        intro x hx
        rw [List.mem_singleton.mp hx]
        exact hl5.valid _ _ hsrc
      obtain ⟨hl6, hext6, hsame6, _⟩ := Loc.merge_spec hl5 hss hm
      obtain ⟨o1, n1, ho1, hn1, hex1⟩ := Loc.merge_exact hl5 hss hm
      rw [hn1] at hout ⊢
      simp only at hout ⊢
      have hn1lt := hl6.valid _ _ hn1
      cases hqr : queueRest { l6 with refs := l6.refs.set (.qw pr.id d1 pr.src) n1 } pr n1 ds with
      | none => rw [hqr] at hout; simp at hout
      | some l8 =>
        simp only
        rw [List.nodup_cons] at hnd
        have hl7 : Loc.OK { l6 with refs := l6.refs.set (.qw pr.id d1 pr.src) n1 } := ⟨hl6.wf, hl6.valid.set hn1lt⟩
        obtain ⟨hl8, hext8, hsame8, hgrow8, _⟩ := queueRest_spec ds hl7 hn1lt hnd.2 hqr
        have hrest8 := rec_queueRest_content pr N ds hl7 hn1lt (Nat.le_trans (by rw [hg5]; exact hN) hext6.1) hnd.2 hqr
        obtain ⟨hnq, hnqw⟩ := rec_qrefs_ne pr hnd.1
        have hq1 : l8.refs.get (.q d1) = some n1 := by
          rw [hsame8 _ hnq]
          show (l6.refs.set (.qw pr.id d1 pr.src) n1).get (.q d1) = some n1
          rw [RefMap.get_set_ne _ _ (by intro he; cases he)]; exact hn1
        have hqw1 : l8.refs.get (.qw pr.id d1 pr.src) = some n1 := by
          rw [hsame8 _ hnqw]
          exact RefMap.get_set_eq _ _ _
        have hfirst6 : ∀ a, a < N → (l6.g.le a n1 = true ↔ rec_QFirst l4.g l4.refs sc' d1 a) := by
          intro a ha
          rw [hex1 a (by rw [hg5]; exact Nat.lt_of_lt_of_le ha hN)]
          unfold rec_QFirst
          rw [← hq5 d1 List.mem_cons_self a, hg5]
          unfold rec_Qc
          constructor
          · rintro (h | ⟨x, hx, h⟩)
            · exact Or.inl ⟨o1, ho1, h⟩
            · rw [List.mem_singleton.mp hx] at h
              exact Or.inr h
          · rintro (⟨q, hq, h⟩ | h)
            · rw [ho1] at hq; cases hq
              exact Or.inl h
            · exact Or.inr ⟨sc', by simp, h⟩
        refine ⟨l8, sc', hsrc5.symm.trans hsrc, hl8, hg5 ▸ hext6.trans hext8, rfl, rfl, trivial, ⟨n1, hqw1, hq1, ?_⟩, ?_⟩
        · intro a ha
          rw [hext8.2 a n1 hn1lt]
          exact hfirst6 a ha
        · intro pre' d post hsplit
          obtain ⟨_, n, _, hn, hnqw', _⟩ := hgrow8 d (hsplit ▸ List.mem_append_right _ List.mem_cons_self)
          refine ⟨n, hnqw', hn, fun a ha => ?_⟩
          rw [hrest8 pre' d post hsplit n hn a ha]
          dsimp only
          rw [hfirst6 a ha]
          -- the queue and integration branches of the further targets: from the clone of the merge back to `l4`
          have hconv : ∀ d' ∈ pre' ++ [d],
              (rec_Qc l6.g (l6.refs.set (.qw pr.id d1 pr.src) n1) d' a ∨
                Wc l6.g (l6.refs.set (.qw pr.id d1 pr.src) n1) pr.src d' a) ↔
              (rec_Qc0 l4.g l4.refs d' a ∨ Wc l4.g l4.refs pr.src d' a) := by
            intro d' hd'
            have hd'ds : d' ∈ ds := rec_mem_prefix hsplit hd'
            rw [rec_qstep_other hl5 hext6 hsame6 (fun he => hnd.1 (he ▸ hd'ds)),
              hq5 d' (List.mem_cons_of_mem _ hd'ds) a]
            unfold Wc
            rw [hg5, hoth5 _ (fun _ he => by cases he)]
          constructor
          · rintro (h | ⟨d', hd', h⟩)
            · exact Or.inl h
            · exact Or.inr ⟨d', hd', (hconv d' hd').mp h⟩
          · rintro (h | ⟨d', hd', h⟩)
            · exact Or.inl h
            · exact Or.inr ⟨d', hd', (hconv d' hd').mpr h⟩

/-- what the queue commit on the k-th further target contains -/
def rec_QFinal (g : Graph) (m : RefMap) (src : String) (sc : Commit) (d1 : Dest) (upto : List Dest) (a : Commit) : Prop :=
  rec_QFirst g m sc d1 a ∨ ∃ d' ∈ upto, rec_Qc0 g m d' a ∨ Wc g m src d' a

/-- a queue branch contains the tip of its destination (part of the invariant `QInv`; `validate` checks it) -/
def rec_QTip (g : Graph) (m : RefMap) : Prop :=
  ∀ d q t, m.get (.q d) = some q → m.get (.dest d) = some t → g.le t q = true

theorem rec_Dc_Qc0 {g : Graph} (hg : g.WF) {m : RefMap} (ht : rec_QTip g m) {d : Dest} {a : Commit}
    (h : Dc g m d a) : rec_Qc0 g m d a := by
  unfold rec_Qc0
  cases hq : m.get (.q d) with
  | none => exact h
  | some q =>
    obtain ⟨t, htd, hle⟩ := h
    exact le_trans hg hle (ht d q t hq htd)

theorem rec_directMerge_outcome (s : Sys) (l4 : Loc) (pr : PrInfo) (sc : Commit) (ts : List Dest) (pre : List Op) :
    (directMerge s l4 pr sc ts pre).outcome ≠ "Queued" := by
  obtain ⟨_, _, _, _, ⟨_, _, he⟩ | ⟨_, _, _, _, _, _, _, _, _, _, he⟩⟩ := directMerge_shape s l4 pr sc ts pre <;>
    rw [he] <;> simp

theorem close_rec_planPr_enqueue {s : Sys} (pr : PrInfo) (hnaq : alreadyQueued s pr = false) (orc : List Bool)
    (sel : List Nat) {sc : Commit} (hsc : s.remote.get (.other pr.src) = some sc)
    (hout : (planPr s pr .final orc sel).outcome = "Queued") :
    ∃ dc l4 pushW, s.remote.get (.dest pr.dst) = some dc ∧ s.g.le sc dc = false ∧
      prepare s pr sc dc orc = .inr (l4, pushW) ∧ isNeeded s l4 pr (s.targets pr.dst) = true ∧
      planPr s pr .final orc sel = enqueue s l4 pr (s.targets pr.dst) pushW := by
  -- every branch is kept as an equation `planPr .. = p`; only `add_to_queue` answers Queued
  refine planPr_rec (motive := fun p => planPr s pr .final orc sel = p → p.outcome = "Queued" → _) s pr .final orc sel
    (fun o ho _ hout => ?_) (fun sc' dc hsc' hdc hle => ⟨fun hq => ?_, fun _ => ⟨fun p hp _ hout => ?_, fun l4 pushW hp =>
      ⟨(fun hst => nomatch hst), fun _ hneed he _ => ?_, fun _ _ _ hout => ?_⟩⟩⟩) rfl hout
  · cases (show o = "Queued" from hout)
    simp at ho
  · rw [hnaq] at hq
    cases hq
  · rw [prepare_inl_outcome hp] at hout
    simp at hout
  · cases hsc.symm.trans hsc'
    exact ⟨dc, l4, pushW, hdc, hle, hp, hneed, he⟩
  · exact absurd hout (rec_directMerge_outcome _ _ _ _ _ _)

theorem rec_split_of_mem {α : Type} {l pre post : List α} {d d' : α} (hsplit : l = pre ++ d :: post)
    (hd' : d' ∈ pre ++ [d]) : ∃ p1 post', l = p1 ++ d' :: post' ∧ ∀ x ∈ p1 ++ [d'], x ∈ pre ++ [d] := by
  obtain ⟨p1, p2, hp12⟩ := List.append_of_mem hd'
  refine ⟨p1, p2 ++ post, ?_, fun x hx => ?_⟩
  · rw [hsplit, List.append_cons, hp12, List.append_assoc, List.cons_append]
  · rw [hp12, List.append_cons]
    exact List.mem_append_left _ hx

/-- the bounds of `rec_prepare_content`, for every target up to the k-th -/
theorem rec_wcont_upto {s : Sys} {pr : PrInfo} {sc : Commit} {l4 : Loc} {rest : List Dest}
    (hwcont : ∀ pre d post, rest = pre ++ d :: post → ∃ w', l4.refs.get (.w d pr.src) = some w' ∧
      ∀ a, a < s.g.size →
        (Wc s.g s.remote pr.src d a → l4.g.le a w' = true) ∧
        (l4.g.le a w' = true →
          (s.g.le a sc = true ∨ ∃ d'' ∈ pre ++ [d], Wc s.g s.remote pr.src d'' a ∨ Dc s.g s.remote d'' a)))
    {pre post : List Dest} {d d' : Dest} (hsplit : rest = pre ++ d :: post) (hd' : d' ∈ pre ++ [d]) :
    ∃ w', l4.refs.get (.w d' pr.src) = some w' ∧ ∀ a, a < s.g.size →
      (Wc s.g s.remote pr.src d' a → l4.g.le a w' = true) ∧
      (l4.g.le a w' = true →
        (s.g.le a sc = true ∨ ∃ d'' ∈ pre ++ [d], Wc s.g s.remote pr.src d'' a ∨ Dc s.g s.remote d'' a)) := by
  obtain ⟨p1, post', hsplit', hsub⟩ := rec_split_of_mem hsplit hd'
  obtain ⟨w', hw', hcw⟩ := hwcont p1 d' post' hsplit'
  refine ⟨w', hw', fun a ha => ⟨(hcw a ha).1, fun hle => ?_⟩⟩
  exact ((hcw a ha).2 hle).imp_right (fun ⟨d'', hd'', h⟩ => ⟨d'', hsub d'' hd'', h⟩)

/-- the run of an evaluation that entered the queue, as far as recovery needs it -/
structure rec_QRun (s : Sys) (pr : PrInfo) (sc : Commit) (p : Plan) (l4 l8 : Loc) : Prop where
  ok4 : l4.OK
  ok8 : l8.OK
  ext1 : Extends s.g l4.g
  ext2 : Extends l4.g l8.g
  pg : p.g = l8.g
  ops : p.ops = pushWOps l4 pr ((s.targets pr.dst).drop 1) ++ (createQ l4 (s.targets pr.dst)).2 ++
    [Op.push (tipsOf l8.refs (rec_qnames pr (s.targets pr.dst)))]
  queue : p.queue = s.queue ++ [⟨pr.id, pr.src, s.targets pr.dst⟩]
  same : ∀ x, (∀ d ∈ (s.targets pr.dst).drop 1, x ≠ .w d pr.src) → l4.refs.get x = s.remote.get x
  wcont : ∀ pre d post, (s.targets pr.dst).drop 1 = pre ++ d :: post → ∃ w', l4.refs.get (.w d pr.src) = some w' ∧
    ∀ a, a < s.g.size →
      (Wc s.g s.remote pr.src d a → l4.g.le a w' = true) ∧
      (l4.g.le a w' = true →
        (s.g.le a sc = true ∨ ∃ d'' ∈ pre ++ [d], Wc s.g s.remote pr.src d'' a ∨ Dc s.g s.remote d'' a))
  first : ∃ n1, l8.refs.get (.qw pr.id pr.dst pr.src) = some n1 ∧ l8.refs.get (.q pr.dst) = some n1 ∧
    ∀ a, a < s.g.size → (l8.g.le a n1 = true ↔ rec_QFirst s.g s.remote sc pr.dst a)
  further : ∀ pre d post, (s.targets pr.dst).drop 1 = pre ++ d :: post →
    ∃ n, l8.refs.get (.qw pr.id d pr.src) = some n ∧ l8.refs.get (.q d) = some n ∧
    ∀ a, a < s.g.size → (l8.g.le a n = true ↔ rec_QFinal s.g s.remote pr.src sc pr.dst (pre ++ [d]) a)

/-- the content of the queue commits, among the commits that existed when the job started, is a function of the
    snapshot (`rec_QFirst`, `rec_QFinal`): neither the answers of git's content merges nor the new commits appear -/
theorem rec_planPr_qrun {s : Sys} (hs : s.WF) (hqt : rec_QTip s.g s.remote) (pr : PrInfo)
    (hnaq : alreadyQueued s pr = false) (orc : List Bool)
    (sel : List Nat) {sc : Commit} (hsc : s.remote.get (.other pr.src) = some sc)
    (hout : (planPr s pr .final orc sel).outcome = "Queued") :
    ∃ l4 l8, rec_QRun s pr sc (planPr s pr .final orc sel) l4 l8 := by
  obtain ⟨dc, l4, pushW, _, _, hprep, _, hpe⟩ := close_rec_planPr_enqueue pr hnaq orc sel hsc hout
  rw [hpe] at hout ⊢
  have hsclt : sc < s.g.size := hs.valid _ _ hsc
  obtain ⟨hw, hpw⟩ := prepare_inr hs pr hsclt hprep
  have hnd := pairwise_before_nodup (targets_pairwise hs.sorted pr.dst)
  obtain ⟨_, hsame, hwcont⟩ := rec_prepare_content hs pr hsclt orc hprep rfl
    (List.nodup_cons.mp (targets_cons s pr.dst ▸ hnd)).2
  obtain ⟨l8, sc', hsc', hl8, hext8, hg8, hops8, hqueue8, hfirst, hfurther⟩ :=
    rec_enqueue_content (s := s) (pr := pr) (pre := pushW) s.g.size (targets_cons s pr.dst) hw.ok hw.ext.1 hnd hout
  have hsceq : sc' = sc := by
    have := hsame (.other pr.src) (fun _ _ he => nomatch he)
    rw [hsc', hsc] at this
    exact Option.some.inj this
  subst hsceq
  -- the clone that `prepare` hands over has the queue and destination branches of the snapshot
  have hQ0 : ∀ d a, rec_Qc0 l4.g l4.refs d a ↔ rec_Qc0 s.g s.remote d a := fun d a =>
    rec_Qc0_congr hs.valid hw.ext (hw.dests (.q d) (fun _ _ he => nomatch he))
      (hw.dests (.dest d) (fun _ _ he => nomatch he)) a
  have hF : ∀ a, rec_QFirst l4.g l4.refs sc' pr.dst a ↔ rec_QFirst s.g s.remote sc' pr.dst a := by
    intro a
    unfold rec_QFirst
    rw [hQ0, hw.ext.2 a sc' hsclt]
  refine ⟨l4, l8, hw.ok, hl8, hw.ext, hext8, hg8, by rw [hops8, hpw], hqueue8, hsame, hwcont, ?_, ?_⟩
  · obtain ⟨n1, h1, h2, hc⟩ := hfirst
    exact ⟨n1, h1, h2, fun a ha => (hc a ha).trans (hF a)⟩
  · intro pre d post hsplit
    obtain ⟨n, hn, hnq, hc⟩ := hfurther pre d post hsplit
    refine ⟨n, hn, hnq, fun a ha => ?_⟩
    rw [hc a ha, hF a]
    unfold rec_QFinal
    -- on the clone the integration branches are between the bounds of `prepare`
    constructor
    · rintro (h | ⟨d', hd', h | ⟨w, hw', hle'⟩⟩)
      · exact Or.inl h
      · exact Or.inr ⟨d', hd', Or.inl ((hQ0 d' a).mp h)⟩
      · obtain ⟨w'', hw'', hcw⟩ := rec_wcont_upto hwcont hsplit hd'
        rw [hw''] at hw'; cases hw'
        rcases (hcw a ha).2 hle' with h' | ⟨d'', hd'', h' | h'⟩
        · exact Or.inl (Or.inr h')
        · exact Or.inr ⟨d'', hd'', Or.inr h'⟩
        · exact Or.inr ⟨d'', hd'', Or.inl (rec_Dc_Qc0 hs.g hqt h')⟩
    · rintro (h | ⟨d', hd', h | h⟩)
      · exact Or.inl h
      · exact Or.inr ⟨d', hd', Or.inl ((hQ0 d' a).mpr h)⟩
      · obtain ⟨w'', hw'', hcw⟩ := rec_wcont_upto hwcont hsplit hd'
        exact Or.inr ⟨d', hd', Or.inr ⟨w'', hw'', (hcw a ha).1 h⟩⟩

end BertE.Flow
