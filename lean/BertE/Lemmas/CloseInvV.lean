import BertE.Lemmas.ClosePost
import BertE.Lemmas.SelectEx
/-
`InvV = Inv ∧ VX` implies `Select.Validated` and is preserved by every event (`close_stepV_inv`, `close_runV_inv`)
under `AdmV`, which drops the `Validated` hypotheses of `Select.AdmB`.
-/
namespace BertE.Close
open BertE.Git BertE.Flow BertE.Select

theorem close_master {s : Sys} (h : InvV s) {d : Dest} (hd : d ∈ queueDests s.remote) :
    (s.remote.get (.q d)).isSome = true := by
  unfold queueDests at hd
  rw [mem_dedup, List.mem_filterMap] at hd
  obtain ⟨⟨r, c⟩, hm, hq⟩ := hd
  have hs := close_get_isSome_of_mem hm
  cases r with
  | q d' =>
    simp only [qDest, Option.some.injEq] at hq; subst hq; exact hs
  | qw p d' src =>
    simp only [qDest, Option.some.injEq] at hq; subst hq
    obtain ⟨e, he, _, _, hdt⟩ := h.vx.qwE p d' src hs
    exact h.inv.q.qhas e he d' hdt
  | dest _ => cases hq
  | w _ _ => cases hq
  | other _ => cases hq

theorem close_validated_of_invV {s : Sys} (h : InvV s) : Validated s := by
  refine ⟨h.vx.pos, fun d hd => close_master h hd, ?_, ?_⟩
  · intro d hd M m u he
    subst he
    exact h.vx.stabDev M m u (h.inv.q.qdest _ (close_master h hd))
  · intro d hd k hk hb
    have := h.vx.qUpper d (close_master h hd) k hk hb
    cases hc : s.remote.get (.q (devDest k)) with
    | none => rw [hc] at this; cases this
    | some c => exact mem_queueDests_of_q hc

theorem VX.of_same {s s' : Sys} (hx : VX s) (hqueue : s'.queue = s.queue) (hdevs : s'.devs = s.devs)
    (hdest : ∀ d, s'.remote.get (.dest d) = s.remote.get (.dest d))
    (hq : ∀ d, s'.remote.get (.q d) = s.remote.get (.q d))
    (hqw : ∀ pr d src, s'.remote.get (.qw pr d src) = s.remote.get (.qw pr d src)) : VX s' := by
  refine ⟨?_, ?_, ?_, ?_, ?_⟩
  · rw [hqueue]; exact hx.pos
  · intro pr d src h; rw [hqw] at h; rw [hqueue]; exact hx.qwE pr d src h
  · intro k hk; rw [hdevs] at hk; rw [hdest]; exact hx.devsHave k hk
  · intro d h k hk hb
    rw [hq] at h ⊢; rw [hdevs] at hk
    exact hx.qUpper d h k hk hb
  · intro M m u h; rw [hdest] at h; rw [hdevs]; exact hx.stabDev M m u h

theorem TouchesW.vx {s : Sys} {p : Plan} (hp : TouchesW s p) (hx : VX s) : VX (s.after p) :=
  VX.of_same hx hp.1 rfl (fun _ => hp.2 _ (fun _ _ he => by cases he)) (fun _ => hp.2 _ (fun _ _ he => by cases he))
    (fun _ _ _ => hp.2 _ (fun _ _ he => by cases he))

theorem close_vx_foreign {s : Sys} (hx : VX s) (g' : Graph) {r : Ref}
    (hr : (∀ d, r ≠ .dest d) ∧ (∀ d, r ≠ .q d) ∧ (∀ pr d src, r ≠ .qw pr d src)) {m' : RefMap}
    (hget : ∀ x, x ≠ r → m'.get x = s.remote.get x) : VX { s with g := g', remote := m' } :=
  VX.of_same hx rfl rfl (fun d => hget _ (hr.1 d).symm) (fun d => hget _ (hr.2.1 d).symm)
    (fun pr d src => hget _ (hr.2.2 pr d src).symm)

theorem VX.of_noq {s' : Sys} (hqueue : s'.queue = [])
    (hdevs : ∀ k ∈ s'.devs, (s'.remote.get (.dest (devDest k))).isSome = true)
    (hstab : ∀ M m u, (s'.remote.get (.dest (.stab M m u))).isSome = true → (M, some m) ∈ s'.devs)
    (hq : ∀ d, s'.remote.get (.q d) = none) (hqw : ∀ pr d src, s'.remote.get (.qw pr d src) = none) : VX s' := by
  refine ⟨?_, ?_, hdevs, ?_, hstab⟩
  · intro e he; rw [hqueue] at he; cases he
  · intro pr d src h; rw [hqw] at h; cases h
  · intro d h; rw [hq] at h; cases h

theorem VX.of_drop {s' : Sys} (m : RefMap) (hrem : s'.remote = delRefs m (allQRefs m)) (hqueue : s'.queue = [])
    (hdevs : ∀ k ∈ s'.devs, (m.get (.dest (devDest k))).isSome = true)
    (hstab : ∀ M m' u, (m.get (.dest (.stab M m' u))).isSome = true → (M, some m') ∈ s'.devs) : VX s' := by
  refine VX.of_noq hqueue ?_ ?_ ?_ ?_
  · intro k hk; rw [hrem, drop_other _ _ (close_dest_ne_q _)]; exact hdevs k hk
  · intro M m' u h; rw [hrem, drop_other _ _ (close_dest_ne_q _)] at h; exact hstab M m' u h
  · intro d; rw [hrem]; exact noq_after_drop _ d
  · intro pr d src; rw [hrem]; exact close_noqw_after_drop _ pr d src

theorem close_planDropQueues_vx {s : Sys} (hx : VX s) : VX (s.after (planDropQueues s)) :=
  VX.of_drop s.remote (close_planDropQueues_after s).1 (close_planDropQueues_after s).2 hx.devsHave hx.stabDev

theorem close_createBranch_vx {s : Sys} (h : InvV s) (d : Dest) (c : Commit)
    (habs : s.remote.get (.dest d) = none) (devs' : List Key) (stabs' : List (Nat × Nat × Nat))
    (hold : ∀ k ∈ s.devs, k ∈ devs') (hnew : ∀ k ∈ devs', k ∈ s.devs ∨ d = devDest k)
    (hstab : ∀ M m u, d = .stab M m u → (M, some m) ∈ s.devs) :
    VX { s.after (planCreateBranch s d c) with devs := devs', stabs := stabs' } := by
  have hx := h.vx
  have hdev1 : ∀ k ∈ devs', ((s.remote.set (.dest d) c).get (.dest (devDest k))).isSome = true := by
    intro k hk
    rw [RefMap.get_set]
    split
    · rfl
    · rcases hnew k hk with h1 | h1
      · exact hx.devsHave k h1
      · rename_i hne; exact absurd (by rw [h1]) hne
  have hstab1 : ∀ M m u, ((s.remote.set (.dest d) c).get (.dest (.stab M m u))).isSome = true → (M, some m) ∈ devs' := by
    intro M m u hs
    rw [RefMap.get_set] at hs
    split at hs
    · rename_i he
      simp only [Ref.dest.injEq] at he
      exact hold _ (hstab M m u he.symm)
    · exact hold _ (hx.stabDev M m u hs)
  rcases close_planCreateBranch_after s d c habs with ⟨_, hrem, hqueue⟩ | ⟨hqd, hrem, hqueue⟩
  · exact VX.of_drop _ hrem hqueue hdev1 hstab1
  · simp only [hrem, hqueue]
    refine ⟨hx.pos, ?_, hdev1, ?_, hstab1⟩
    · intro pr d' src hs
      have hs' : ((s.remote.set (.dest d) c).get (.qw pr d' src)).isSome = true := hs
      rw [RefMap.get_set_ne _ _ (by intro he; cases he)] at hs'
      exact hx.qwE pr d' src hs'
    · intro d0 hs k hk hb
      have hs' : ((s.remote.set (.dest d) c).get (.q d0)).isSome = true := hs
      show ((s.remote.set (.dest d) c).get (.q (devDest k))).isSome = true
      rw [RefMap.get_set_ne _ _ (by intro he; cases he)] at hs' ⊢
      rcases hnew k hk with h1 | h1
      · exact hx.qUpper d0 hs' k h1 hb
      · -- a new development branch with queues disabled: there is no queue branch at all
        have hu : s.useQueue = false := by
          cases hu : s.useQueue
          · rfl
          · rw [hu, h1] at hqd; cases hqd
        rw [(h.inv.q.noq hu).2 d0] at hs'; cases hs'

theorem close_deleteBranch_vx {s : Sys} (hx : VX s) (d : Dest)
    (devs' : List Key) (stabs' : List (Nat × Nat × Nat))
    (hsub : ∀ k ∈ devs', k ∈ s.devs ∧ devDest k ≠ d)
    (hkeep : ∀ M m u, (s.remote.get (.dest (.stab M m u))).isSome = true → Dest.stab M m u ≠ d → (M, some m) ∈ devs') :
    VX { s.after (plan s (.deleteBranch d)) with devs := devs', stabs := stabs' } := by
  refine ⟨hx.pos, ?_, ?_, ?_, ?_⟩
  · intro pr d' src hs
    exact hx.qwE pr d' src (close_deleteBranch_sub hs).1
  · intro k hk
    obtain ⟨h1, h2⟩ := hsub k hk
    show ((s.after (plan s (.deleteBranch d))).remote.get _).isSome = true
    rw [close_deleteBranch_same (by intro he; simp only [Ref.dest.injEq] at he; exact h2 he) (by intro he; cases he)]
    exact hx.devsHave k h1
  · intro d0 hs k hk hb
    obtain ⟨h1, h2⟩ := hsub k hk
    show ((s.after (plan s (.deleteBranch d))).remote.get _).isSome = true
    rw [close_deleteBranch_same (by intro he; cases he) (by intro he; simp only [Ref.q.injEq] at he; exact h2 he)]
    exact hx.qUpper d0 (close_deleteBranch_sub hs).1 k h1 hb
  · intro M m u hs
    obtain ⟨hs', hne, _⟩ := close_deleteBranch_sub hs
    exact hkeep M m u hs' (fun he => hne (by rw [he]))

theorem close_planQueues_vx {s : Sys} (h : InvV s) (sel : List Nat) : VX (s.after (planQueues s sel)) := by
  have hx := h.vx
  by_cases hne : s.queue.filter (fun e => sel.contains e.pr) = []
  · rw [close_planQueues_nothing hne]; exact hx
  · obtain ⟨hqueue, _, hother⟩ := close_planQueues_after h.inv sel rfl hne
    have hdest := close_dest_iff h.inv.wf (p := planQueues s sel) (by rw [planQueues_g]; exact Extends.refl _)
      (planQueues_valid h.inv.wf h.inv.incl h.inv.q.base sel) (FlowExt.planQueues_keeps s sel)
    have hq : ∀ d, (s.after (planQueues s sel)).remote.get (.q d) = s.remote.get (.q d) := by
      intro d
      rw [hother _ (fun _ he => by cases he), if_neg]
      intro hm
      obtain ⟨_, _, _, _, h' | h'⟩ := gone_mem hm <;> cases h'
    refine ⟨?_, ?_, ?_, ?_, ?_⟩
    · intro e he; rw [hqueue] at he; exact hx.pos e (List.mem_filter.mp he).1
    · intro pr d src hsome
      rw [hother _ (fun _ he => by cases he)] at hsome
      split at hsome
      · cases hsome
      · rename_i hng
        obtain ⟨e, he, hp, hsrc, hdt⟩ := hx.qwE pr d src hsome
        refine ⟨e, ?_, hp, hsrc, hdt⟩
        rw [hqueue, List.mem_filter]
        refine ⟨he, ?_⟩
        cases hsel : sel.contains e.pr with
        | false => rfl
        | true =>
          exfalso; apply hng
          simp only [List.mem_flatMap, List.mem_filter, List.mem_cons, List.not_mem_nil, or_false]
          exact ⟨e, ⟨he, hsel⟩, d, hdt, Or.inl (by rw [hp, hsrc])⟩
    · intro k hk; rw [hdest]; exact hx.devsHave k hk
    · intro d hd k hk hb
      rw [hq] at hd ⊢
      exact hx.qUpper d hd k hk hb
    · intro M m u hd
      rw [hdest] at hd
      exact hx.stabDev M m u hd

theorem close_enqueue_vx {s : Sys} (h : InvV s) {orc : List Bool} {l4 : Loc}
    (hw : WOnly ⟨s.g, s.remote, orc⟩ l4) (pr : PrInfo) {pre : List Op} (hpre : PushesW pre)
    (hfresh : ∀ d ∈ s.targets pr.dst, s.remote.get (.qw pr.id d pr.src) = none) (hid0 : pr.id ≠ 0) :
    VX (s.after (enqueue s l4 pr (s.targets pr.dst) pre)) := by
  have hx := h.vx
  obtain ⟨hdest, hqts, hcases⟩ := close_enqueue_after h.inv.wf hw pr hpre hfresh rfl
  -- a queue branch is never removed, and a new one is a target's
  have hmono : ∀ d, (s.remote.get (.q d)).isSome = true →
      ((s.after (enqueue s l4 pr (s.targets pr.dst) pre)).remote.get (.q d)).isSome = true := by
    intro d hd
    rcases hcases with ⟨_, _, hqq⟩ | ⟨_, _, hout, hin⟩
    · rcases hqq d with h1 | ⟨_, hn, _⟩
      · rw [h1]; exact hd
      · rw [hn] at hd; cases hd
    · by_cases hdt : d ∈ s.targets pr.dst
      · exact (hin d hdt).1
      · rw [hout d hdt]; exact hd
  have hnew : ∀ d, ((s.after (enqueue s l4 pr (s.targets pr.dst) pre)).remote.get (.q d)).isSome = true →
      (s.remote.get (.q d)).isSome = true ∨ d ∈ s.targets pr.dst := by
    intro d hd
    rcases hcases with ⟨_, _, hqq⟩ | ⟨_, _, hout, _⟩
    · rcases hqq d with h1 | ⟨hm, _, _⟩
      · left; rw [← h1]; exact hd
      · right; exact hm
    · by_cases hdt : d ∈ s.targets pr.dst
      · right; exact hdt
      · left; rw [← hout d hdt]; exact hd
  refine ⟨?_, ?_, ?_, ?_, ?_⟩
  · intro e he
    rcases hcases with ⟨hqu, _⟩ | ⟨hqu, _⟩ <;> rw [hqu] at he
    · exact hx.pos e he
    · rcases List.mem_append.mp he with he | he
      · exact hx.pos e he
      · simp only [List.mem_cons, List.not_mem_nil, or_false] at he
        subst he; exact hid0
  · intro p d src hs
    rcases hcases with ⟨hqu, hqw, _⟩ | ⟨hqu, hqw, _⟩
    · rw [hqw] at hs; rw [hqu]; exact hx.qwE p d src hs
    · by_cases hc : p = pr.id ∧ src = pr.src ∧ d ∈ s.targets pr.dst
      · obtain ⟨rfl, rfl, hd⟩ := hc
        exact ⟨⟨pr.id, pr.src, s.targets pr.dst⟩, by rw [hqu]; simp, rfl, rfl, hd⟩
      · rw [hqw p d src hc] at hs
        obtain ⟨e, he, h2⟩ := hx.qwE p d src hs
        exact ⟨e, by rw [hqu]; exact List.mem_append_left _ he, h2⟩
  · intro k hk; rw [hdest]; exact hx.devsHave k hk
  · intro d hs k hk hb
    rcases hnew d hs with h1 | h1
    · exact hmono _ (hx.qUpper d h1 k hk hb)
    · exact hqts _ (targets_closed h1 hb hk rfl) (hx.devsHave k hk)
  · intro M m u hs; rw [hdest] at hs; exact hx.stabDev M m u hs

theorem close_planPr_vx {s : Sys} (h : InvV s) (pr : PrInfo) (stage : Stage) (orc : List Bool) (sel : List Nat)
    (hid0 : pr.id ≠ 0) : VX (s.after (planPr s pr stage orc sel)) := by
  have hs := h.inv.wf
  have hx := h.vx
  have hdest := close_dest_iff hs (p := planPr s pr stage orc sel) (planPr_gext hs pr stage orc sel).ext
    (planPr_valid hs pr stage orc sel (planQueues_valid hs h.inv.incl h.inv.q.base sel))
    (FlowExt.planPr_keeps hs pr stage orc sel)
  revert hdest
  refine close_planPr_cases hs pr stage orc sel (P := fun p =>
    (∀ d, ((s.after p).remote.get (.dest d)).isSome = (s.remote.get (.dest d)).isSome) → VX (s.after p)) ?_ ?_ ?_ ?_
  · intro p hp _; exact hp.vx hx
  · intro _ _; exact close_planQueues_vx h sel
  · intro l4 pushW hw hpw _ hfresh _; exact close_enqueue_vx h hw pr hpw hfresh hid0
  · intro l4 pushW sc hw hpw hsc hneed hdest
    obtain ⟨hqueue, hnoq, hnoqw⟩ := close_directMerge_after h hw pr hpw hsc hneed
    refine VX.of_noq hqueue ?_ ?_ hnoq hnoqw
    · intro k hk; rw [hdest]; exact hx.devsHave k hk
    · intro M m u hsome; rw [hdest] at hsome; exact hx.stabDev M m u hsome

/-- What the strengthened invariant needs of an event beyond `Flow.Adm`:
    * the pull request that is evaluated has a positive id (ids are positive on every git host);
    * `create_branch` of a stabilization branch: its development branch exists (`new_cascade.validate()` on the
      clone that holds the new branch: `DevBranchDoesNotExist`);
    * `delete_branch` of a development branch: no stabilization branch of it exists ("do not allow deleting a dev
      branch if there is a stab"). -/
def AdmC (s : Sys) : Event → Prop
  | .evalPr pr _ _ _ => pr.id ≠ 0
  | .createBranch (.stab M m _) _ => (M, some m) ∈ s.devs
  | .deleteBranch (.dev M m) => ∀ m' u, m = some m' → s.remote.get (.dest (.stab M m' u)) = none
  | _ => True

theorem close_step_vx {s : Sys} (h : InvV s) (ev : Event) (hadm : Adm s ev) (hc : AdmC s ev) : VX (step s ev).1 := by
  have hx := h.vx
  cases ev with
  | evalPr pr stage orc sel => exact close_planPr_vx h pr stage orc sel hc
  | evalDeclined pr cd => exact (close_planDeclined_touchesW s pr cd).vx hx
  | reset pr => exact (close_planReset_touchesW s pr).vx hx
  | evalQueues sel => exact close_planQueues_vx h sel
  | dropQueues => exact close_planDropQueues_vx hx
  | createBranch d c =>
    obtain ⟨_, habs, _⟩ := hadm
    cases d with
    | dev M m =>
      exact close_createBranch_vx h (.dev M m) c habs (insertKey (M, m) s.devs) s.stabs
        (fun k hk => mem_insertKey.mpr (Or.inr hk))
        (fun k hk => by
          rcases mem_insertKey.mp hk with rfl | h1
          · exact Or.inr rfl
          · exact Or.inl h1)
        (fun _ _ _ he => by cases he)
    | stab M m u =>
      exact close_createBranch_vx h (.stab M m u) c habs s.devs ((M, m, u) :: s.stabs)
        (fun k hk => hk) (fun k hk => Or.inl hk)
        (fun M' m' u' he => by
          simp only [Dest.stab.injEq] at he
          obtain ⟨rfl, rfl, rfl⟩ := he
          exact hc)
    | hotfix M m u =>
      exact close_createBranch_vx h (.hotfix M m u) c habs s.devs s.stabs
        (fun k hk => hk) (fun k hk => Or.inl hk) (fun _ _ _ he => by cases he)
  | deleteBranch d =>
    cases d with
    | dev M m =>
      exact close_deleteBranch_vx hx (.dev M m) (s.devs.filter (· != (M, m))) s.stabs
        (fun k hk => by
          obtain ⟨h1, h2⟩ := List.mem_filter.mp hk
          refine ⟨h1, ?_⟩
          intro he
          obtain ⟨k1, k2⟩ := k
          simp only [devDest, Dest.dev.injEq] at he
          obtain ⟨rfl, rfl⟩ := he
          simp at h2)
        (fun M' m' u hs _ => by
          rw [List.mem_filter]
          refine ⟨hx.stabDev M' m' u hs, ?_⟩
          simp only [bne_iff_ne, ne_eq, Prod.mk.injEq, not_and]
          intro hM hm
          subst hM
          rw [hc m' u hm.symm] at hs; cases hs)
    | stab M m u =>
      exact close_deleteBranch_vx hx (.stab M m u) s.devs (s.stabs.filter (· != (M, m, u)))
        (fun k hk => ⟨hk, fun he => by cases he⟩) (fun M' m' u' hs _ => hx.stabDev M' m' u' hs)
    | hotfix M m u =>
      exact close_deleteBranch_vx hx (.hotfix M m u) s.devs s.stabs
        (fun k hk => ⟨hk, fun he => by cases he⟩) (fun M' m' u' hs _ => hx.stabDev M' m' u' hs)
  | extSet n ps t => exact close_vx_foreign hx _ (other_foreign n) (fun _ h => RefMap.get_set_ne _ _ h)
  | extW d src =>
    simp only [step]
    split
    · exact close_vx_foreign hx _ (w_foreign d src) (fun _ h => RefMap.get_set_ne _ _ h)
    · exact hx
  | extDelete n => exact close_vx_foreign hx s.g (other_foreign n) (fun _ h => RefMap.get_del_ne _ h)
  | extPoint n c => exact close_vx_foreign hx s.g (other_foreign n) (fun _ h => RefMap.get_set_ne _ c h)

/-- What an event with computed selection needs of the state it is applied to, under the strengthened
    invariant: NOTHING for a queue evaluation (`Select.AdmB` asked `Validated s`); for a pull-request evaluation a
    positive id and that a pull request recorded as queued is found queued (as `AdmB`, without `Validated`). -/
def AdmV (s : Sys) : EventB → Prop
  | .queues _ _ => True
  | .pr _ p _ _ => p.id ≠ 0 ∧ (p.id ∈ s.queue.map (·.pr) → alreadyQueued s p = true)
  | .other ev => Adm s ev ∧ AdmC s ev

def AdmAllV (s : Sys) : List EventB → Prop
  | [] => True
  | ev :: evs => AdmV s ev ∧ AdmAllV (step s (ev.toEvent s)).1 evs

theorem close_admB_of_admV {s : Sys} (h : InvV s) {ev : EventB} (hadm : AdmV s ev) : AdmB s ev := by
  cases ev with
  | queues b force => exact close_validated_of_invV h
  | pr b p stage orc => exact ⟨fun _ => close_validated_of_invV h, hadm.2⟩
  | other ev => exact hadm.1

theorem close_stepV_inv {s : Sys} (h : InvV s) (ev : EventB) (hadm : AdmV s ev) :
    InvV (step s (ev.toEvent s)).1 := by
  refine ⟨stepB_inv h.inv ev (close_admB_of_admV h hadm), ?_⟩
  cases ev with
  | queues b force => exact close_planQueues_vx h _
  | pr b p stage orc => exact close_planPr_vx h p stage orc _ hadm.1
  | other ev => exact close_step_vx h ev hadm.1 hadm.2

theorem close_runV_inv : ∀ (evs : List EventB) {s : Sys}, InvV s → AdmAllV s evs → InvV (runB s evs)
  | [], _, h, _ => h
  | ev :: evs, _, h, hadm => close_runV_inv evs (close_stepV_inv h ev hadm.1) hadm.2

theorem close_admAllV_take : ∀ (evs : List EventB) (s : Sys), AdmAllV s evs → ∀ k, AdmAllV s (evs.take k)
  | [], _, _, k => by simp [AdmAllV]
  | ev :: evs, s, hadm, k => by
    cases k with
    | zero => simp [AdmAllV]
    | succ k => exact ⟨hadm.1, close_admAllV_take evs _ hadm.2 k⟩

theorem close_invV_init (useQueue skipQueue : Bool) : InvV ⟨Graph.empty, [], [], [], [], useQueue, skipQueue⟩ :=
  ⟨⟨⟨empty_WF, fun _ _ hc => (nomatch hc), List.Pairwise.nil, fun _ _ _ hc => (nomatch hc)⟩,
      fun _ _ _ _ _ hca => (nomatch hca), QInv.of_empty rfl (fun _ => rfl)⟩,
    VX.of_noq rfl (fun _ hk => (nomatch hk)) (fun _ _ _ hs => (nomatch hs)) (fun _ => rfl) (fun _ _ _ => rfl)⟩

theorem close_exHistory_admV : AdmAllV exEmpty exHistory := by
  refine ⟨⟨?_, trivial⟩, ⟨⟨?_, ?_, ?_⟩, trivial⟩, ⟨⟨?_, ?_, ?_⟩, trivial⟩, ⟨?_, trivial⟩, ⟨?_, ?_⟩, ⟨?_, trivial⟩,
    ⟨?_, ?_⟩, trivial⟩
  · intro p hp; cases hp
  · decide
  · decide
  · exact inclOn_const (c0 := 0) (by decide) (by decide)
  · decide
  · decide
  · exact inclOn_const (c0 := 0) (by decide) (by decide)
  · show ∀ p ∈ ([0] : List Nat), p < _
    decide
  · decide
  · decide
  · show ∀ p ∈ ([0] : List Nat), p < _
    decide
  · decide
  · decide

theorem close_exSys_invV : InvV exSys := close_runV_inv exHistory (close_invV_init true false) close_exHistory_admV

end BertE.Close
