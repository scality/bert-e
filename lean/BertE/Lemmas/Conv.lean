import BertE.Model.Conv
import BertE.Lemmas.Comments
import BertE.Lemmas.Eval
import BertE.Lemmas.C10
/- Lemmas about the closed loop of one pull request's evaluation (`Model/Conv.lean`), behind `C10_converges_partial`. -/
namespace BertE.Conv
open BertE.Git BertE.Flow BertE.Eval BertE.Reactor BertE.Comments

/-- a class protected against repetition: `dont_repeat_if_in_history` is `-1` or a positive window -/
def Protected (c : Cfg) (cls : String) : Prop := ∃ n : Int, c.nr cls = some n ∧ (1 ≤ n ∨ n = -1)

theorem conv_sendOne_thread (c : Cfg) (cs : List Comment) (cls : String) :
    (sendOne c cs cls).1 = if (sendOne c cs cls).2 then cs ++ [⟨robot c, c.render cls⟩] else cs := by
  unfold sendOne
  split
  · next cs' h => simp [send_posted h]
  · simp

theorem conv_sendOne_twice (c : Cfg) (cs : List Comment) (cls : String) (hp : Protected c cls) :
    sendOne c (sendOne c cs cls).1 cls = ((sendOne c cs cls).1, false) := by
  obtain ⟨n, hn, hn2⟩ := hp
  by_cases h : (sendOne c cs cls).2 = true
  · have ht := conv_sendOne_thread c cs cls
    rw [h] at ht
    simp only [if_true] at ht
    rw [ht]
    unfold sendOne
    rw [hn, send_window_newest (robot c) cs (c.render cls) n hn2]
  · have h' : (sendOne c cs cls).2 = false := by simpa using h
    have ht := conv_sendOne_thread c cs cls
    rw [h'] at ht
    simp only [Bool.false_eq_true, if_false] at ht
    rw [ht]
    exact Prod.ext ht h'

theorem conv_postPr_idem (c : Cfg) (cls : String) (p : Pr) (hp : Protected c cls) :
    postPr c cls (postPr c cls p) = postPr c cls p := by
  have h2 := conv_sendOne_twice c p.comments cls hp
  by_cases h : (sendOne c p.comments cls).2 = true
  · have e1 : postPr c cls p = { p with comments := (sendOne c p.comments cls).1, participants := addParticipant p.participants (robot c) } := by
      simp [postPr, h]
    rw [e1]
    simp [postPr, h2]
  · have e1 : postPr c cls p = p := by simp [postPr, h]
    rw [e1, e1]

theorem conv_evalOut_sys (c : Cfg) (h : Host) (s : Sys) (id : Nat) (orc : List Bool) :
    (evalOut c h s id orc).sys =
      (Flow.step s ((evalPr c.eval h s id orc (selOf h s)).event orc (selOf h s))).1 := rfl

theorem conv_refs_nil {c : Cfg} {h : Host} {s : Sys} {id : Nat} {orc : List Bool}
    (hr : (evalOut c h s id orc).sys.remote = s.remote) : (evalOut c h s id orc).eff.refs = [] := by
  show changedRefs s.remote (evalOut c h s id orc).sys.remote = []
  rw [hr, changedRefs, List.filter_eq_nil_iff]
  intro r _
  simp

theorem conv_step_eta (s : Sys) : ({ s with g := s.g, remote := s.remote, queue := s.queue } : Sys) = s := by
  cases s; rfl

theorem conv_early_sys (c : Cfg) (h : Host) (s : Sys) (id : Nat) (orc : List Bool)
    (hst : (evalPr c.eval h s id orc (selOf h s)).stage = .early)
    (hd : (evalPr c.eval h s id orc (selOf h s)).declined = false) :
    (evalOut c h s id orc).sys = s := by
  rw [conv_evalOut_sys]
  unfold Result.event
  rw [hd, hst]
  simp only [Bool.false_eq_true, if_false]
  rw [step_evalPr, evalL_planPr_early]
  exact conv_step_eta s

theorem conv_noop_get (c : Cfg) (h : Host) (s : Sys) (id : Nat) (orc : List Bool)
    (hops : (evalPr c.eval h s id orc (selOf h s)).plan.ops = []) :
    (evalOut c h s id orc).sys.remote = s.remote := by
  rw [conv_evalOut_sys]
  have hp := evalPr_plan c.eval h s id orc (selOf h s)
  rw [hp] at hops
  generalize evalPr c.eval h s id orc (selOf h s) = r at hops ⊢
  unfold Result.event at hops ⊢
  -- either event is a job: the remote after the step is the remote after the operations of its plan
  cases hd : r.declined <;> simp only [hd, Bool.false_eq_true, if_false, if_true] at hops ⊢
  all_goals
    show applyOps _ noRej s.remote (plan s _).ops = s.remote
    rw [hops]
    rfl

/-- the later evaluations get the answers git gave: the repository is the same, so git is asked the same questions -/
theorem conv_fixpoint (c : Cfg) (h : Host) (s : Sys) (id : Nat) (orc : List Bool) (e : Effects)
    (hfix : evalOnce c h s id orc = (h, s, e)) :
    ∀ n, evalMany c id h s (List.replicate n orc) = (h, s, List.replicate n e) := by
  intro n
  induction n with
  | zero => rfl
  | succ n ih =>
    simp only [List.replicate_succ, evalMany, hfix, ih]

end BertE.Conv
