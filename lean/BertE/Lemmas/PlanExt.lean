import BertE.Lemmas.PlanPr
/- Every plan extends the commit graph (old ancestry is never changed) and keeps it well-formed. -/
namespace BertE.Flow
open BertE.Git

theorem GExt.refl {g : Graph} (h : g.WF) : GExt g g := ⟨h, Extends.refl _⟩
theorem GExt.trans {a b c : Graph} (h1 : GExt a b) (h2 : GExt b c) : GExt a c := ⟨h2.wf, h1.ext.trans h2.ext⟩

theorem WOnly.gext {l l' : Loc} (h : WOnly l l') : GExt l.g l'.g := ⟨h.ok.wf, h.ext⟩

theorem enqueue_gext {s : Sys} {l4 : Loc} (hl : l4.OK) (pr : PrInfo) (ts : List Dest) (pre : List Op) :
    GExt l4.g (enqueue s l4 pr ts pre).g := by
  obtain ⟨l, hlo, ⟨_, _, he⟩ | he⟩ := enqueue_spec s l4 pr ts pre <;> rw [he] <;>
    exact ⟨(hlo hl).1.wf, (hlo hl).2⟩

theorem directMerge_gext {s : Sys} {l4 : Loc} (hl : l4.OK) (pr : PrInfo) {sc : Commit} (hsc : sc < l4.g.size)
    (ts : List Dest) (hnd : ts.Nodup) (pre : List Op) :
    GExt l4.g (directMerge s l4 pr sc ts pre).g := by
  obtain ⟨_, l, hlo, hext, he | ⟨_, he⟩⟩ := directMerge_spec (s := s) hl pr hsc hnd pre <;> rw [he] <;>
    exact ⟨hlo.wf, hext⟩

theorem planQueues_g (s : Sys) (sel : List Nat) : (planQueues s sel).g = s.g := by
  unfold planQueues
  simp only
  split <;> rfl

theorem planPr_gext {s : Sys} (hs : s.WF) (pr : PrInfo) (stage : Stage) (orc : List Bool) (sel : List Nat) :
    GExt s.g (planPr s pr stage orc sel).g := by
  rcases planPr_cases s pr stage orc sel with ⟨_, _, hg⟩ | he | ⟨sc, dc, hsc, _, hp | ⟨l4, pushW, hp, he⟩⟩
  · rw [hg]
    exact GExt.refl hs.g
  · rw [he, planQueues_g]
    exact GExt.refl hs.g
  · obtain ⟨l, _, hw, _, he⟩ := prepare_inl hs pr (hs.valid _ _ hsc) hp
    rw [he]
    exact hw.gext
  · have hsclt : sc < s.g.size := hs.valid _ _ hsc
    obtain ⟨hw, _⟩ := prepare_inr hs pr hsclt hp
    rcases he with he | he | he <;> rw [he]
    · exact hw.gext
    · exact hw.gext.trans (enqueue_gext hw.ok pr _ _)
    · exact hw.gext.trans (directMerge_gext hw.ok pr (hw.ext.lt hsclt) _
        (pairwise_before_nodup (targets_pairwise hs.sorted pr.dst)) _)

end BertE.Flow
