import BertE.Lemmas.CloseHoriz
/-
Completeness of the modelled `QueueCollection.validate()`: the loops of
`_vertical_validation` on levels that are ONE queue (a list of entries, oldest first) filtered per version.
Abstract: `hasQ` says which versions have a key in the stack, `tip` gives the queue commits.
-/
namespace BertE.Close
open BertE.Git BertE.Flow BertE.Select BertE.QV

section Abstract
variable (g : Graph) (hasQ : Dest → Bool) (tip : QEntry → Dest → Commit)

/-- `E`: the queue, oldest first; the result newest first -/
def close_ints (E : List QEntry) (d : Dest) : List QInt :=
  ((E.filter fun e => e.targets.contains d).reverse).map (close_mk tip d)

def close_lev (E : List QEntry) (d : Dest) : Level :=
  ⟨d, if hasQ d = true then some (close_ints tip E d) else none⟩

theorem close_ints_snoc (E : List QEntry) (e : QEntry) (d : Dest) :
    close_ints tip (E ++ [e]) d =
      if e.targets.contains d = true then close_mk tip d e :: close_ints tip E d else close_ints tip E d := by
  by_cases h : d ∈ e.targets
  · simp [close_ints, h]
  · simp [close_ints, h]

theorem close_lev_snoc_of_not {E : List QEntry} {e : QEntry} {d : Dest}
    (h : hasQ d = true → d ∉ e.targets) : close_lev hasQ tip (E ++ [e]) d = close_lev hasQ tip E d := by
  unfold close_lev
  split
  · rename_i hq
    rw [close_ints_snoc, if_neg (by simpa using h hq)]
  · rfl

theorem close_mem_ints {E : List QEntry} {d : Dest} {x : QInt} (h : x ∈ close_ints tip E d) :
    ∃ e ∈ E, x.pr = e.pr := by
  obtain ⟨e, he, rfl⟩ := List.mem_map.mp h
  exact ⟨e, (List.mem_filter.mp (List.mem_reverse.mp he)).1, rfl⟩

/-- `descend` for the newest entry `e`: every level loses `e` and nothing is reported -/
theorem close_descend_step (e : QEntry) (E' : List QEntry)
    (hvert : ∀ a ∈ e.targets, ∀ b ∈ e.targets, a.before b = true → g.le (tip e a) (tip e b) = true)
    (hclosed : ∀ a ∈ e.targets, ∀ b, a.before b = true → hasQ b = true → b ∈ e.targets)
    (hid : ∀ e' ∈ E', e'.pr ≠ e.pr) :
    ∀ (ds : List Dest) (b : Dest), b ∈ e.targets → (∀ d ∈ ds, d.before b = true) →
      ds.Pairwise (fun a a' => a'.before a = true) →
      (∀ a ∈ ds, ∀ a' ∈ ds, a'.before a = true → hasQ a' = true → hasQ a = true) →
      descend g e.pr (close_mk tip b e) (ds.map (close_lev hasQ tip (E' ++ [e]))) =
        (ds.map (close_lev hasQ tip E'), []) := by
  intro ds
  induction ds with
  | nil => intros; rfl
  | cons d rest ih =>
    intro b hb hbef hpw hup
    rw [List.pairwise_cons] at hpw
    have hdb : d.before b = true := hbef d List.mem_cons_self
    have hnhf : (verLen d == 4) = false := by
      cases d with
      | hotfix M m u => simp [Dest.before] at hdb
      | dev _ _ => rfl
      | stab _ _ _ => rfl
    -- the levels below `d` do not change when neither of them can hold `e`
    have hrest_same : (∀ d' ∈ rest, hasQ d' = true → d' ∉ e.targets) →
        rest.map (close_lev hasQ tip (E' ++ [e])) = rest.map (close_lev hasQ tip E') := by
      intro h
      apply List.map_congr_left
      intro d' hd'
      exact close_lev_snoc_of_not hasQ tip (h d' hd')
    simp only [List.map_cons]
    by_cases hq : hasQ d = true
    · by_cases hd : d ∈ e.targets
      · -- `e` is on this level: it is its top
        have hc : e.targets.contains d = true := by simpa using hd
        have ih := ih d hd (fun d' hd' => hpw.1 d' hd') hpw.2
          (fun a ha a' ha' => hup a (List.mem_cons_of_mem _ ha) a' (List.mem_cons_of_mem _ ha'))
        unfold descend
        simp only [close_lev, hq, if_true, close_ints_snoc, hc, hnhf, Bool.false_eq_true, if_false]
        rw [ih]
        have hle : g.le (close_mk tip d e).tip (close_mk tip b e).tip = true := hvert d hd b hb hdb
        have hpr : ((close_mk tip d e).pr = e.pr) = True := eq_self _
        simp only [hpr, if_true, hle, List.append_nil]
      · -- `e` is not on this level, hence on none below: the walk stops
        have hsame : close_lev hasQ tip (E' ++ [e]) d = close_lev hasQ tip E' d :=
          close_lev_snoc_of_not hasQ tip (fun _ => hd)
        have hr := hrest_same (fun d' hd' _ hd'e => hd (hclosed d' hd'e d (hpw.1 d' hd') hq))
        rw [hsame, hr]
        unfold descend
        simp only [close_lev, hq, if_true, hnhf, Bool.false_eq_true, if_false]
        cases hi : close_ints tip E' d with
        | nil => rfl
        | cons x xs =>
          have hx : x.pr ≠ e.pr := by
            obtain ⟨e', he', hpr⟩ := close_mem_ints tip (x := x) (by rw [hi]; exact List.mem_cons_self)
            rw [hpr]; exact hid e' he'
          simp only [if_neg hx]
    · -- no key for this version: `break`; nothing below has a key either
      have hsame : close_lev hasQ tip (E' ++ [e]) d = close_lev hasQ tip E' d :=
        close_lev_snoc_of_not hasQ tip (fun h => absurd h hq)
      have hr := hrest_same (fun d' hd' hq' _ =>
        hq (hup d List.mem_cons_self d' (List.mem_cons_of_mem _ hd') (hpw.1 d' hd') hq'))
      rw [hsame, hr]
      unfold descend
      simp only [close_lev, hq, Bool.false_eq_true, if_false]

/-- the pop loop on the entries `R` (newest first) of the last version: every entry is found on top of each of its levels,
    nothing is reported, everything is consumed -/
theorem close_while (last : Dest) (ds : List Dest)
    (hbef : ∀ d ∈ ds, d.before last = true)
    (hpw : ds.Pairwise (fun a a' => a'.before a = true))
    (hup : ∀ a ∈ ds, ∀ a' ∈ ds, a'.before a = true → hasQ a' = true → hasQ a = true) :
    ∀ (R : List QEntry) (prs : List Nat), prs.Perm (R.map (·.pr)) → (R.map (·.pr)).Nodup →
      (∀ e ∈ R, last ∈ e.targets) →
      (∀ e ∈ R, ∀ a ∈ e.targets, ∀ b ∈ e.targets, a.before b = true → g.le (tip e a) (tip e b) = true) →
      (∀ e ∈ R, ∀ a ∈ e.targets, ∀ b, a.before b = true → hasQ b = true → b ∈ e.targets) →
      whileLoop g (R.map (close_mk tip last)) (ds.map (close_lev hasQ tip R.reverse)) prs =
        ([], ds.map (close_lev hasQ tip []), [], []) := by
  intro R
  induction R with
  | nil =>
    intro prs hperm _ _ _ _
    have : prs = [] := List.Perm.eq_nil (by simpa using hperm)
    subst this
    rfl
  | cons e R' ih =>
    intro prs hperm hnd hlast hvert hclosed
    rw [List.map_cons, List.nodup_cons] at hnd
    have hmem : e.pr ∈ prs := hperm.mem_iff.mpr (by simp)
    have hc : prs.contains e.pr = true := by simpa using hmem
    have hid : ∀ e' ∈ R'.reverse, e'.pr ≠ e.pr := by
      intro e' he' heq
      exact hnd.1 (List.mem_map.mpr ⟨e', List.mem_reverse.mp he', heq⟩)
    have hstep := close_descend_step g hasQ tip e R'.reverse
      (hvert e List.mem_cons_self) (hclosed e List.mem_cons_self) hid ds last (hlast e List.mem_cons_self)
      hbef hpw hup
    have hperm' : (prs.erase e.pr).Perm (R'.map (·.pr)) := by
      have h1 := hperm.erase e.pr
      rw [List.map_cons, List.erase_cons_head] at h1
      exact h1
    have ih := ih (prs.erase e.pr) hperm' hnd.2
      (fun x hx => hlast x (List.mem_cons_of_mem _ hx))
      (fun x hx => hvert x (List.mem_cons_of_mem _ hx))
      (fun x hx => hclosed x (List.mem_cons_of_mem _ hx))
    rw [List.map_cons, List.reverse_cons]
    unfold whileLoop
    have hpr : (close_mk tip last e).pr = e.pr := rfl
    simp only [hpr, hc, Bool.not_true, Bool.false_eq_true, if_false, hstep, ih, List.append_nil]

end Abstract

/-- "check all subsequent versions have a master queue" reports nothing when the versions that have a key form a
    suffix of the path and every key has its master queue -/
theorem close_firstLoop_nil (stack : Coll)
    (hmaster : ∀ d v, stack.find? (fun v => v.d == d) = some v → v.master.isNone = false) :
    ∀ (ds : List Dest) (hq : Bool),
      ds.Pairwise (fun a b => (stack.find? (fun v => v.d == a)).isSome = true →
        (stack.find? (fun v => v.d == b)).isSome = true) →
      (hq = true → ∀ d ∈ ds, (stack.find? (fun v => v.d == d)).isSome = true) →
      firstLoop stack false ds hq = [] := by
  intro ds
  induction ds with
  | nil => intros; rfl
  | cons d ds ih =>
    intro hq hpw hall
    rw [List.pairwise_cons] at hpw
    unfold firstLoop
    cases hf : stack.find? (fun v => v.d == d) with
    | none =>
      have hqf : hq = false := by
        cases hq with
        | false => rfl
        | true =>
          have := hall rfl d List.mem_cons_self
          rw [hf] at this; cases this
      subst hqf
      simp only [Bool.false_and, Bool.false_eq_true, if_false, List.nil_append]
      exact ih false hpw.2 (fun h => nomatch h)
    | some v =>
      simp only [hmaster d v hf, Bool.false_eq_true, if_false, List.nil_append]
      apply ih true hpw.2
      intro _ d' hd'
      exact hpw.1 d' hd' (by rw [hf]; rfl)

theorem close_insertNew_nodup : ∀ (l acc : List Nat), (l ++ acc).Nodup → insertNew [] acc l = l.reverse ++ acc
  | [], _, _ => rfl
  | p :: l, acc, h => by
    have hp : p ∉ acc := fun hm => (List.nodup_append.mp h).2.2 p List.mem_cons_self p hm rfl
    have ih := close_insertNew_nodup l (p :: acc) (List.perm_middle.nodup_iff.mpr h)
    unfold insertNew at ih ⊢
    have hc : ([] ++ acc).contains p = false := by simpa using hp
    simp only [List.foldl_cons, hc, Bool.false_eq_true, if_false]
    rw [ih]
    simp

/-- the hotfix part of `_extract_pr_ids` is empty when the stack holds no hotfix version -/
theorem close_hfPart_nil : ∀ (c : Coll), (∀ v ∈ c, (verLen v.d == 4) = false) →
    c.foldr (fun v acc => if verLen v.d == 4 then insertNew [] acc (v.ints.map (·.pr)) else acc) [] = []
  | [], _ => rfl
  | v :: vs, h => by
    rw [List.foldr_cons, close_hfPart_nil vs (fun w hw => h w (List.mem_cons_of_mem _ hw))]
    simp only [h v List.mem_cons_self, Bool.false_eq_true, if_false]

theorem close_leftOver_nil : ∀ (ls : List Level), (∀ e ∈ ls, e.ints = none ∨ e.ints = some []) → leftOver ls = []
  | [], _ => rfl
  | e :: rest, h => by
    have ih := close_leftOver_nil rest (fun x hx => h x (List.mem_cons_of_mem _ hx))
    unfold leftOver at ih ⊢
    rw [List.flatMap_cons, ih]
    rcases h e List.mem_cons_self with h' | h' <;> rw [h'] <;> rfl

theorem close_vertAll_nil {g : Graph} {c : Coll} : ∀ (paths : List (List Dest)),
    (∀ p ∈ paths, vertical g (c.filter (fun v => p.contains v.d)) p = .ok []) → vertAll g c paths = .ok []
  | [], _ => rfl
  | p :: ps, h => by
    simp only [vertAll, h p List.mem_cons_self,
      close_vertAll_nil ps (fun q hq => h q (List.mem_cons_of_mem _ hq)), List.append_nil]

end BertE.Close
