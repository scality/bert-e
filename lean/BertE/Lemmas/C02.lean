import BertE.Model.FlowC02
import BertE.Lemmas.Queue
import BertE.Drv.C01
/- C02: the shape of every plan (`OneShot`: operations that name no destination ref, then at most ONE atomic
   pruning push), what the remote shows at every interruption, and what that push contains. -/
namespace BertE.Flow
open BertE.Git

theorem applyOpsAt_const (g : Graph) (rej : Ref → Bool) : ∀ (ops : List Op) (i : Nat) (remote : RefMap),
    applyOpsAt g (fun _ => rej) i remote ops = applyOps g rej remote ops
  | [], _, _ => rfl
  | op :: ops, i, remote => by
    simp only [applyOpsAt, applyOps, List.foldl_cons]
    exact applyOpsAt_const g rej ops (i + 1) _

theorem applyOpsAt_append (g : Graph) (rej : Nat → Ref → Bool) : ∀ (a b : List Op) (i : Nat) (remote : RefMap),
    applyOpsAt g rej i remote (a ++ b) = applyOpsAt g rej (i + a.length) (applyOpsAt g rej i remote a) b
  | [], b, i, remote => by simp [applyOpsAt]
  | op :: a, b, i, remote => by
    simp only [List.cons_append, applyOpsAt, List.length_cons]
    rw [applyOpsAt_append g rej a b (i + 1)]
    congr 1
    omega

theorem applyOpsAt_preserves {g : Graph} {I : RefMap → Prop} {P : Op → Prop}
    (hstep : ∀ rej m op, I m → P op → I (applyOp g rej m op)) (rej : Nat → Ref → Bool) :
    ∀ (ops : List Op) (i : Nat) {m : RefMap}, I m → (∀ op ∈ ops, P op) → I (applyOpsAt g rej i m ops)
  | [], _, _, h, _ => h
  | op :: ops, i, m, h, hs =>
    applyOpsAt_preserves hstep rej ops (i + 1) (hstep (rej i) m op h (hs op List.mem_cons_self))
      (fun o ho => hs o (List.mem_cons_of_mem _ ho))

theorem applyOpsAt_incl {g : Graph} (rej : Nat → Ref → Bool) : ∀ (ops : List Op) (i : Nat) {remote : RefMap},
    InclOn g remote → (∀ op ∈ ops, op.Safe g) → InclOn g (applyOpsAt g rej i remote ops) :=
  applyOpsAt_preserves (fun rej _ _ h hop => applyOp_incl rej h hop) rej

def Op.Quiet : Op → Prop
  | .push ups => ∀ rc ∈ ups, rc.1.isDest = false
  | .delete r => r.isDest = false
  | .pushAll _ _ => False

theorem Op.Quiet.not_touches {op : Op} (h : op.Quiet) (snap : RefMap) : ¬ op.TouchesDest snap := by
  cases op with
  | push ups =>
    rintro ⟨rc, hrc, hd⟩
    rw [h rc hrc] at hd; cases hd
  | delete r =>
    intro hd
    simp only [Op.TouchesDest] at hd
    rw [h] at hd; cases hd
  | pushAll loc prune => exact h.elim

theorem applyOp_quiet_dest (g : Graph) (rej : Ref → Bool) (remote : RefMap) {op : Op} (h : op.Quiet) (d : Dest) :
    (applyOp g rej remote op).get (.dest d) = remote.get (.dest d) := by
  cases op with
  | push ups => exact push_fold_dest g rej ups h remote d
  | delete r =>
    simp only [applyOp]
    split
    · rfl
    · apply RefMap.get_del_ne
      intro he
      rw [← he] at h
      simp [Op.Quiet, Ref.isDest] at h
  | pushAll loc prune => exact h.elim

theorem applyOpsAt_quiet_dest (g : Graph) (rej : Nat → Ref → Bool) (ops : List Op) (i : Nat) (remote : RefMap)
    (h : ∀ op ∈ ops, op.Quiet) (d : Dest) : (applyOpsAt g rej i remote ops).get (.dest d) = remote.get (.dest d) :=
  applyOpsAt_preserves (I := fun m => m.get (.dest d) = remote.get (.dest d))
    (fun rej m _ hI hop => (applyOp_quiet_dest g rej m hop d).trans hI) rej ops i rfl h

/-- quiet operations, then possibly ONE atomic pruning push, whose content satisfies `Final` -/
def OneShot (ops : List Op) (Final : RefMap → Prop) : Prop :=
  ∃ quiet : List Op, (∀ op ∈ quiet, op.Quiet) ∧
    (ops = quiet ∨ ∃ loc, ops = quiet ++ [Op.pushAll loc true] ∧ Final loc)

theorem OneShot.mono {ops : List Op} {F F' : RefMap → Prop} (h : OneShot ops F) (hF : ∀ loc, F loc → F' loc) :
    OneShot ops F' := by
  obtain ⟨quiet, hq, h⟩ := h
  refine ⟨quiet, hq, ?_⟩
  rcases h with h | ⟨loc, h, hf⟩
  · exact Or.inl h
  · exact Or.inr ⟨loc, h, hF loc hf⟩

theorem OneShot.nil (F : RefMap → Prop) : OneShot [] F := ⟨[], (fun _ h => nomatch h), Or.inl rfl⟩

theorem OneShot.quiet {ops : List Op} (h : ∀ op ∈ ops, op.Quiet) (F : RefMap → Prop) : OneShot ops F :=
  ⟨ops, h, Or.inl rfl⟩

theorem OneShot.single (loc : RefMap) {F : RefMap → Prop} (h : F loc) : OneShot [Op.pushAll loc true] F :=
  ⟨[], (fun _ h' => nomatch h'), Or.inr ⟨loc, rfl, h⟩⟩

/-- at every interruption, whatever the server refuses in each operation: either no destination ref has moved, or
    the remote IS the content of the final push -/
theorem OneShot.observable {ops : List Op} {F : RefMap → Prop} (h : OneShot ops F) (g : Graph)
    (rej : Nat → Ref → Bool) (k : Nat) (remote : RefMap) :
    (∀ d, (applyOpsAt g rej 0 remote (ops.take k)).get (.dest d) = remote.get (.dest d)) ∨
    F (applyOpsAt g rej 0 remote (ops.take k)) := by
  obtain ⟨quiet, hq, h⟩ := h
  have htake : ∀ op ∈ quiet.take k, op.Quiet := fun op hop => hq op (List.mem_of_mem_take hop)
  rcases h with rfl | ⟨loc, rfl, hf⟩
  · exact Or.inl (applyOpsAt_quiet_dest g rej _ 0 remote htake)
  · by_cases hk : k ≤ quiet.length
    · rw [List.take_append_of_le_length hk]
      exact Or.inl (applyOpsAt_quiet_dest g rej _ 0 remote htake)
    · have hlen : (quiet ++ [Op.pushAll loc true]).length ≤ k := by
        simp only [List.length_append, List.length_cons, List.length_nil]; omega
      rw [List.take_of_length_le hlen, applyOpsAt_append]
      have hsame := applyOpsAt_quiet_dest g rej quiet 0 remote hq
      generalize applyOpsAt g rej 0 remote quiet = r1 at hsame
      simp only [applyOpsAt]
      rcases applyOp_pushAll_cases g (rej (0 + quiet.length)) r1 loc true with h | h <;> rw [h]
      · exact Or.inr hf
      · exact Or.inl hsame

/-- at most one operation touches a destination ref; it is atomic and it is the last one -/
theorem OneShot.touches {ops : List Op} {F : RefMap → Prop} (h : OneShot ops F) (snap : RefMap) (i : Nat) (op : Op)
    (hi : ops[i]? = some op) (ht : op.TouchesDest snap) : op.atomic = true ∧ i + 1 = ops.length := by
  obtain ⟨quiet, hq, h⟩ := h
  rcases h with rfl | ⟨loc, rfl, _⟩
  · exact absurd ht ((hq op (List.mem_of_getElem? hi)).not_touches snap)
  · obtain ⟨hlt, rfl⟩ := List.getElem?_eq_some_iff.mp hi
    rw [List.length_append, List.length_singleton] at hlt ⊢
    by_cases hq' : i < quiet.length
    · rw [List.getElem_append_left hq'] at ht
      exact absurd ht ((hq _ (List.getElem_mem _)).not_touches snap)
    · obtain rfl : i = quiet.length := by omega
      exact ⟨by simp [Op.atomic], rfl⟩

theorem push_tipsOf_quiet (refs : RefMap) (rs : List Ref) (h : ∀ r ∈ rs, r.isDest = false) :
    (Op.push (tipsOf refs rs)).Quiet := fun _ hrc => h _ (tipsOf_mem hrc)

theorem wMap_not_dest (ts : List Dest) (src : String) : ∀ r ∈ ts.map (fun d => Ref.w d src), r.isDest = false := by
  intro r hr
  obtain ⟨d, _, rfl⟩ := List.mem_map.mp hr
  rfl

theorem pushWOps_quiet (l : Loc) (pr : PrInfo) (rest : List Dest) : ∀ op ∈ pushWOps l pr rest, op.Quiet := by
  intro op hop
  unfold pushWOps at hop
  split at hop
  · cases hop
  · rw [List.mem_singleton.mp hop]
    exact push_tipsOf_quiet _ _ (wMap_not_dest rest pr.src)

theorem conflictPush_quiet (l : Loc) (updated : List Ref) (h : ∀ r ∈ updated, r.isDest = false) :
    ∀ op ∈ conflictPush l updated, op.Quiet := by
  intro op hop
  unfold conflictPush at hop
  split at hop
  · cases hop
  · rw [List.mem_singleton.mp hop]
    exact push_tipsOf_quiet _ _ h

theorem createQ_quiet (ds : List Dest) (l : Loc) : ∀ op ∈ (createQ l ds).2, op.Quiet := fun op h => by
  obtain ⟨d, t, rfl⟩ := createQ_ops ds l op h
  intro rc hrc
  cases List.mem_singleton.mp hrc
  rfl

theorem allQRefs_not_dest (m : RefMap) : ∀ r ∈ allQRefs m, r.isDest = false := by
  intro r hr
  unfold allQRefs at hr
  simp only [List.mem_map, List.mem_filter] at hr
  obtain ⟨rc, ⟨_, hq⟩, rfl⟩ := hr
  cases hrc : rc.1 <;> simp [hrc] at hq <;> rfl

theorem deletes_quiet (qs : List Ref) (h : ∀ r ∈ qs, r.isDest = false) : ∀ op ∈ qs.map Op.delete, op.Quiet := by
  intro op hop
  simp only [List.mem_map] at hop
  obtain ⟨r, hr, rfl⟩ := hop
  exact h r hr

theorem prepare_quiet (s : Sys) (pr : PrInfo) (sc dc : Commit) (orc : List Bool) :
    (∀ p, prepare s pr sc dc orc = .inl p → ∀ op ∈ p.ops, op.Quiet) ∧
    (∀ l4 ops, prepare s pr sc dc orc = .inr (l4, ops) → ∀ op ∈ ops, op.Quiet) := by
  unfold prepare
  simp only
  split
  · refine ⟨fun p hp => ?_, fun _ _ hp => nomatch hp⟩
    cases hp
    exact fun _ h => nomatch h
  · split
    · refine ⟨fun p hp => ?_, fun _ _ hp => nomatch hp⟩
      cases hp
      exact conflictPush_quiet _ _ (updateW_done pr _ _ _ _ (fun r h => nomatch h))
    · refine ⟨(fun _ hp => nomatch hp), fun l4 ops hp => ?_⟩
      cases hp
      exact pushWOps_quiet _ pr _

theorem enqueue_quiet {s : Sys} {l4 : Loc} {pr : PrInfo} {ts : List Dest} {pre : List Op}
    (hpre : ∀ op ∈ pre, op.Quiet) : ∀ op ∈ (enqueue s l4 pr ts pre).ops, op.Quiet := by
  have hpq : ∀ op ∈ pre ++ (createQ l4 ts).2, op.Quiet :=
    List.forall_mem_append.mpr ⟨hpre, createQ_quiet ts l4⟩
  rcases enqueue_shape s l4 pr ts pre with ⟨g, o, h⟩ | ⟨l8, h⟩ <;> rw [h]
  · exact hpq
  · exact List.forall_mem_append.mpr
      ⟨hpq, List.forall_mem_singleton.mpr (push_tipsOf_quiet _ _ (queueNames_not_dest pr ts))⟩

theorem delRefs_dest_same (m : RefMap) (rs : List Ref) (h : ∀ r ∈ rs, r.isDest = false) (d : Dest) :
    (delRefs m rs).get (.dest d) = m.get (.dest d) := by
  rw [get_delRefs, if_neg fun hm => by have := h _ hm; simp [Ref.isDest] at this]

def Landed (g : Graph) (ts : List Dest) (c : Commit) (loc : RefMap) : Prop :=
  ∀ d ∈ ts, ∃ t, loc.get (.dest d) = some t ∧ g.le c t = true

theorem directMerge_cases (s : Sys) (l4 : Loc) (pr : PrInfo) (sc : Commit) (d1 : Dest) (ds : List Dest)
    (pre : List Op) :
    (directMerge s l4 pr sc (d1 :: ds) pre).ops =
      pre ++ (if s.useQueue then qOnly l4.refs else []).map Op.delete ∨
    ∃ l6 n1 l7,
      Loc.merge { l4 with refs := delRefs l4.refs (if s.useQueue then qOnly l4.refs else []) } (.dest d1) [sc] =
        some l6 ∧
      l6.refs.get (.dest d1) = some n1 ∧ mergeRest l6 pr n1 ds = some l7 ∧
      (directMerge s l4 pr sc (d1 :: ds) pre).g = l7.g ∧
      (directMerge s l4 pr sc (d1 :: ds) pre).ops =
        pre ++ (if s.useQueue then qOnly l4.refs else []).map Op.delete ++
          [Op.pushAll (delRefs l7.refs (ds.map (fun d => Ref.w d pr.src))) true] := by
  unfold directMerge
  simp only
  split
  · exact Or.inl rfl
  · split
    · exact Or.inl rfl
    · split
      · exact Or.inl rfl
      · exact Or.inr ⟨_, _, _, ‹_›, ‹_›, ‹_›, rfl, rfl⟩

theorem directMerge_oneShot {s : Sys} {l4 : Loc} {pr : PrInfo} {sc : Commit} {ts : List Dest} {pre : List Op}
    (hl : l4.OK) (hsc : sc < l4.g.size) (hnd : ts.Nodup) (hpre : ∀ op ∈ pre, op.Quiet) :
    OneShot (directMerge s l4 pr sc ts pre).ops (Landed (directMerge s l4 pr sc ts pre).g ts sc) := by
  have hqnd : ∀ r ∈ (if s.useQueue then qOnly l4.refs else []), r.isDest = false := fun r hr => by
    obtain ⟨d, rfl⟩ := directMerge_qs s l4 r hr
    rfl
  have hpq := List.forall_mem_append.mpr ⟨hpre, deletes_quiet _ hqnd⟩
  cases ts with
  | nil => exact OneShot.quiet hpq _
  | cons d1 ds =>
    rcases directMerge_cases s l4 pr sc d1 ds pre with h | ⟨l6, n1, l7, hm1, hn1, hm2, hg, hops⟩
    · rw [h]
      exact OneShot.quiet hpq _
    · rw [hops, hg]
      refine ⟨_, hpq, Or.inr ⟨_, rfl, ?_⟩⟩
      obtain ⟨hl6, _, _, _, n1', _, hn1', _, hsrc1⟩ :=
        Loc.merge_spec (hl.delRefs _) (List.forall_mem_singleton.mpr hsc) hm1
      rw [hn1] at hn1'
      cases hn1'
      have hn1lt : n1 < l6.g.size := hl6.valid _ _ hn1
      rw [List.nodup_cons] at hnd
      obtain ⟨hl7, hext2, hsame2, hgrow2, _⟩ := mergeRest_spec ds hl6 hn1lt hnd.2 hm2
      have hsn1 : l7.g.le sc n1 = true := hext2.le hn1lt (hsrc1 sc List.mem_cons_self)
      intro d hd
      rw [delRefs_dest_same _ _ (wMap_not_dest ds pr.src)]
      rcases List.mem_cons.mp hd with rfl | hd'
      · exact ⟨n1, (hsame2 _ fun d' hd' he => hnd.1 (by cases he; exact hd')).trans hn1, hsn1⟩
      · obtain ⟨_, n, _, hn, _, hpn⟩ := hgrow2 d hd'
        exact ⟨n, hn, le_trans hl7.wf hsn1 hpn⟩

/-- the queue commit of every entry of `es` is contained in the tip of each of its targets -/
def QueueLanded (s : Sys) (es : List QEntry) (loc : RefMap) : Prop :=
  ∀ e ∈ es, ∀ d ∈ e.targets, ∃ c qc, loc.get (.dest d) = some c ∧ qwOf s.remote e d = some qc ∧ s.g.le qc c = true

/-- the order that `add_to_queue` establishes between the queue commits of two queued pull requests -/
def Horiz (s : Sys) (e e' : QEntry) : Prop :=
  ∀ d, d ∈ e.targets → d ∈ e'.targets → ∀ c c', qwOf s.remote e d = some c → qwOf s.remote e' d = some c' →
    s.g.le c c' = true

theorem mergeEntries_landed {s : Sys} (hs : s.WF) (hq : QueueInv s) : ∀ (todo done : List QEntry) (m : RefMap),
    (∀ e ∈ todo, e ∈ s.queue) → (done ++ todo).Pairwise (Horiz s) →
    (∀ pr d src, m.get (.qw pr d src) = s.remote.get (.qw pr d src)) →
    QueueLanded s done m → QueueLanded s (done ++ todo) (todo.foldl mergeEntry m)
  | [], done, m, _, _, _, hl => by simpa using hl
  | e :: todo, done, m, hmem, hpw, hqs, hl => by
    have heq : e ∈ s.queue := hmem e List.mem_cons_self
    obtain ⟨hnew, hsame⟩ := mergeEntry_get hq heq hqs
    have hcross := (List.pairwise_append.mp hpw).2.2
    have hl' : QueueLanded s (done ++ [e]) (mergeEntry m e) := by
      intro e0 he0 d hd
      rcases List.mem_append.mp he0 with he0 | he0
      · obtain ⟨c, qc, hc, hqc, hle⟩ := hl e0 he0 d hd
        by_cases hde : d ∈ e.targets
        · obtain ⟨qc', _, hqc', _, _⟩ := hq.entry e heq d hde
          exact ⟨qc', qc, (hnew d hde).trans hqc', hqc,
            hcross e0 he0 e List.mem_cons_self d hd hde qc qc' hqc hqc'⟩
        · exact ⟨c, qc, (hsame (.dest d) fun d' hd' he => hde (by cases he; exact hd')).trans hc, hqc, hle⟩
      · cases List.mem_singleton.mp he0
        obtain ⟨qc, _, hqc, _, _⟩ := hq.entry e heq d hd
        exact ⟨qc, qc, (hnew d hd).trans hqc, hqc, le_refl hs.g (hs.valid _ _ hqc)⟩
    have := mergeEntries_landed hs hq todo (done ++ [e]) (mergeEntry m e)
      (fun x hx => hmem x (List.mem_cons_of_mem _ hx)) (by simpa using hpw)
      (fun pr d src => (hsame (.qw pr d src) fun _ _ he => nomatch he).trans (hqs pr d src)) hl'
    simpa using this

def selected (s : Sys) (sel : List Nat) : List QEntry := s.queue.filter (fun e => sel.contains e.pr)

theorem planQueues_oneShot {s : Sys} (hs : s.WF) (hq : QueueInv s) (sel : List Nat) :
    OneShot (planQueues s sel).ops (QueueLanded s (selected s sel)) := by
  unfold planQueues
  simp only
  split
  · exact OneShot.nil _
  · apply OneShot.single
    have hl := mergeEntries_landed hs hq (selected s sel) [] s.remote
      (fun e he => (List.mem_filter.mp he).1)
      ((show s.queue.Pairwise (Horiz s) from hq.horiz).sublist List.filter_sublist) (fun _ _ _ => rfl) (fun _ h => nomatch h)
    simp only [List.nil_append] at hl
    intro e he d hd
    obtain ⟨c, qc, hc, hqc, hle⟩ := hl e he d hd
    refine ⟨c, qc, ?_, hqc, hle⟩
    rw [delRefs_dest_same]
    · exact hc
    · intro r hr
      simp only [List.mem_flatMap, List.mem_cons, List.not_mem_nil, or_false] at hr
      obtain ⟨_, _, _, _, rfl | rfl⟩ := hr <;> rfl

theorem planPr_queued {s : Sys} {pr : PrInfo} {stage : Stage} {orc : List Bool} {sel : List Nat}
    (h : alreadyQueued s pr = true) :
    planPr s pr stage orc sel = planQueues s sel ∨
    ((planPr s pr stage orc sel).ops = [] ∧ (planPr s pr stage orc sel).g = s.g) := by
  unfold planPr
  split
  · exact Or.inr ⟨rfl, rfl⟩
  · split
    · exact Or.inr ⟨rfl, rfl⟩
    · exact Or.inr ⟨rfl, rfl⟩
    · split
      · exact Or.inr ⟨rfl, rfl⟩
      · exact Or.inl rfl

theorem planPr_oneShot_src {s : Sys} (hs : s.WF) (pr : PrInfo) (stage : Stage) (orc : List Bool) (sel : List Nat)
    (hnq : alreadyQueued s pr = false) :
    OneShot (planPr s pr stage orc sel).ops (fun loc => ∀ sc, s.remote.get (.other pr.src) = some sc →
      Landed (planPr s pr stage orc sel).g (s.targets pr.dst) sc loc) := by
  refine planPr_elim (motive := fun p => OneShot p.ops fun loc => ∀ sc, s.remote.get (.other pr.src) = some sc →
      Landed p.g (s.targets pr.dst) sc loc) s pr stage orc sel (fun _ => OneShot.nil _)
    (fun h => absurd (hnq ▸ h) Bool.false_ne_true)
    (fun sc dc p _ _ hp => OneShot.quiet ((prepare_quiet s pr sc dc orc).1 p hp) _)
    fun sc dc l4 pushW hsc _ hp _ => ?_
  have hquiet := (prepare_quiet s pr sc dc orc).2 l4 pushW hp
  refine ⟨OneShot.quiet hquiet _, fun _ => OneShot.quiet (enqueue_quiet hquiet) _, fun _ _ => ?_⟩
  have hsclt : sc < s.g.size := hs.valid _ _ hsc
  obtain ⟨hw, _⟩ := prepare_inr hs pr hsclt hp
  exact (directMerge_oneShot hw.ok (hw.ext.lt hsclt) (pairwise_before_nodup (targets_pairwise hs.sorted pr.dst))
    hquiet).mono fun loc h sc' hsc' => Option.some.inj (hsc.symm.trans hsc') ▸ h

theorem planPr_oneShot {s : Sys} (hs : s.WF) (pr : PrInfo) (stage : Stage) (orc : List Bool) (sel : List Nat)
    (hnq : alreadyQueued s pr = false) {sc : Commit} (hsc : s.remote.get (.other pr.src) = some sc) :
    OneShot (planPr s pr stage orc sel).ops (Landed (planPr s pr stage orc sel).g (s.targets pr.dst) sc) :=
  (planPr_oneShot_src hs pr stage orc sel hnq).mono fun _ h => h sc hsc

def DestSame (m : RefMap) (loc : RefMap) : Prop := ∀ d, loc.get (.dest d) = m.get (.dest d)

theorem wRefs_not_dest (m : RefMap) (ts : List Dest) (src : String) :
    ∀ r ∈ (ts.map (fun d => Ref.w d src)).filter (fun r => m.has r), r.isDest = false :=
  fun r hr => wMap_not_dest ts src r (List.mem_filter.mp hr).1

theorem planDeclined_oneShot (s : Sys) (pr : PrInfo) (cd : Bool) :
    OneShot (planDeclined s pr cd).ops (DestSame s.remote) := by
  unfold planDeclined
  simp only
  split
  · exact OneShot.nil _
  · exact OneShot.single _ (fun d => delRefs_dest_same _ _ (wRefs_not_dest _ _ _) d)

theorem planReset_oneShot (s : Sys) (pr : PrInfo) : OneShot (planReset s pr).ops (DestSame s.remote) := by
  unfold planReset
  simp only
  split
  · exact OneShot.nil _
  · exact OneShot.single _ (fun d => delRefs_dest_same _ _ (wRefs_not_dest _ _ _) d)

theorem planDropQueues_oneShot (s : Sys) : OneShot (planDropQueues s).ops (DestSame s.remote) := by
  unfold planDropQueues
  simp only
  split
  · exact OneShot.nil _
  · exact OneShot.single _ (fun d => delRefs_dest_same _ _ (allQRefs_not_dest _) d)

/-- the events that are Bert-E jobs on pull requests and queues (create / delete branch push a destination
    branch by definition and are not concerned) -/
def Event.isFlowJob : Event → Bool
  | .createBranch _ _ => false
  | .deleteBranch _ => false
  | _ => true

theorem planQueues_shape (s : Sys) (sel : List Nat) : OneShot (planQueues s sel).ops (fun _ => True) := by
  unfold planQueues
  simp only
  split
  · exact OneShot.nil _
  · exact OneShot.single _ trivial

theorem planPr_shape {s : Sys} (hs : s.WF) (pr : PrInfo) (stage : Stage) (orc : List Bool) (sel : List Nat) :
    OneShot (planPr s pr stage orc sel).ops (fun _ => True) := by
  cases hq : alreadyQueued s pr with
  | true =>
    rcases planPr_queued (stage := stage) (orc := orc) (sel := sel) hq with h | ⟨h, _⟩
    · rw [h]; exact planQueues_shape s sel
    · rw [h]; exact OneShot.nil _
  | false => exact (planPr_oneShot_src hs pr stage orc sel hq).mono (fun _ _ => trivial)

theorem plan_shape {s : Sys} (hs : s.WF) (ev : Event) (hev : Event.isFlowJob ev = true) :
    OneShot (plan s ev).ops (fun _ => True) := by
  cases ev with
  | evalPr pr stage orc sel => exact planPr_shape hs pr stage orc sel
  | evalDeclined pr cd => exact (planDeclined_oneShot s pr cd).mono (fun _ _ => trivial)
  | reset pr => exact (planReset_oneShot s pr).mono (fun _ _ => trivial)
  | evalQueues sel => exact planQueues_shape s sel
  | dropQueues => exact (planDropQueues_oneShot s).mono (fun _ _ => trivial)
  | createBranch d c => cases hev
  | deleteBranch d => cases hev
  | extSet n ps t => exact OneShot.nil _
  | extW d src => exact OneShot.nil _
  | extDelete n => exact OneShot.nil _
  | extPoint n c => exact OneShot.nil _

end BertE.Flow

/-! a state on which the hypotheses of the C02 theorems hold (for the `example`s of Props/C02) -/
namespace BertE.Flow.Demo
open BertE.Git BertE.Flow

/-- development/4.3 (commit 1), development/5.1 (commit 2, on top of 1), a source branch `feature/x` (commit 3, on
    top of development/4.3), no queue -/
def s1 : Sys := (step (BertE.Drv.C01.initSys false false [.dev 4 (some 3), .dev 5 (some 1)]) (.extSet "feature/x" [1] false)).1

theorem s1_remote : s1.remote = [(.other "feature/x", 3), (.dest (.dev 5 (some 1)), 2), (.dest (.dev 4 (some 3)), 1)] := by decide
theorem s1_g : s1.g = ((((Graph.empty.addCommit []).1.addCommit [0]).1.addCommit [1]).1.addCommit [1]).1 := rfl

theorem s1_gWF : s1.g.WF := by
  rw [s1_g]
  have h0 := addCommit_WF (ps := []) empty_WF (fun _ h => nomatch h)
  have h1 := addCommit_WF (ps := [0]) h0 (by decide)
  have h2 := addCommit_WF (ps := [1]) h1 (by decide)
  exact addCommit_WF (ps := [1]) h2 (by decide)

theorem s1_WF : s1.WF := by
  refine ⟨s1_gWF, ?_, (by unfold SortedKeys; decide), ?_⟩
  · intro r c h
    have hm := RefMap.get_mem h
    rw [s1_remote] at hm
    simp only [List.mem_cons, List.not_mem_nil, or_false, Prod.mk.injEq] at hm
    rcases hm with ⟨_, rfl⟩ | ⟨_, rfl⟩ | ⟨_, rfl⟩ <;> decide
  · intro M m c h
    have hm := RefMap.get_mem h
    rw [s1_remote] at hm
    simp only [List.mem_cons, List.not_mem_nil, or_false, Prod.mk.injEq, Ref.dest.injEq, Dest.dev.injEq, reduceCtorEq, false_and, false_or] at hm
    rcases hm with ⟨⟨rfl, rfl⟩, _⟩ | ⟨⟨rfl, rfl⟩, _⟩ <;> decide

theorem s1_Incl : s1.Incl := by
  intro a b hab ca cb ha hb
  have hma := RefMap.get_mem ha
  have hmb := RefMap.get_mem hb
  rw [s1_remote] at hma hmb
  simp only [List.mem_cons, List.not_mem_nil, or_false, Prod.mk.injEq, Ref.dest.injEq, reduceCtorEq, false_and, false_or] at hma hmb
  rcases hma with ⟨rfl, rfl⟩ | ⟨rfl, rfl⟩ <;> rcases hmb with ⟨rfl, rfl⟩ | ⟨rfl, rfl⟩ <;> first | decide | (revert hab; decide)

theorem s1_QueueInv : QueueInv s1 :=
  ⟨(fun _ h => nomatch h), (fun _ h => nomatch h), (fun _ h => nomatch h), (fun _ h => nomatch h), List.Pairwise.nil⟩
end BertE.Flow.Demo
