import BertE.Lemmas.CascadeModeH
/- The refinement theorem on the standard constants. -/
namespace BertE.Cascade
open Spec

/-- the model computes the specification (constants of the current source) -/
theorem build_std_eq {bs : List Branch} {tags : List Tag} {dst : Branch} {inc : Branch → Branch → Bool}
    (hinc : ∀ a b, inc a b = true) (hnd : bs.Nodup) (hdst : dst ∈ bs) :
    build Cfg.std inc bs tags dst = Spec.result bs tags dst := by
  rcases addAll_spec dst hnd with ⟨c0, hadd, r, hms⟩ | ⟨herr, hms⟩
  · by_cases hdep : deprecated bs tags dst = true
    · unfold build
      rw [hadd]
      simp only []
      rw [readTags_evolve, deprecated_eq r hdst, hdep]
      simp [Spec.result, Spec.error, hms, hdep]
    · have hdep' : deprecated bs tags dst = false := by simpa using hdep
      rw [build_phases inc hadd r (by rw [deprecated_eq r hdst]; exact hdep')]
      cases dst with
      | dev M m => exact modeN hinc hnd hdst rfl r hms hdep'
      | stab M m u => exact modeN hinc hnd hdst rfl r hms hdep'
      | hotfix M m u => exact modeH hinc hnd hdst r hms hdep'
  · unfold build
    rw [herr]
    simp [Spec.result, Spec.error, hms]

theorem devsFrom_strict {bs : List Branch} (hnd : bs.Nodup) (d : Branch) :
    (devsFrom bs d).Pairwise (fun a b => keyLt a.key b.key) := by
  have h1 := sortByKey_pairwise (bs.filter fun b => b.isDev && decide (keyLe d.key b.key))
  have h2 : ((devsFrom bs d).map Branch.key).Nodup :=
    ((sortByKey_perm _).map _).nodup_iff.mpr (nodup_dev_keys hnd fun b => decide (keyLe d.key b.key))
  rw [List.Nodup, List.pairwise_map] at h2
  exact (h1.and h2).imp (fun ⟨a, b⟩ => keyLt_iff_le_ne.mpr ⟨a, b⟩)

theorem devsFrom_dev_cons {bs : List Branch} (hnd : bs.Nodup) {M : Nat} {m : Option Nat} (hdst : Branch.dev M m ∈ bs) :
    ∃ rest, devsFrom bs (.dev M m) = .dev M m :: rest := by
  have hstrict := devsFrom_strict hnd (.dev M m)
  have hin := (mem_devsFrom _).mpr ⟨hdst, rfl, keyLe_refl _⟩
  cases hl : devsFrom bs (.dev M m) with
  | nil => rw [hl] at hin; cases hin
  | cons x rest =>
    rw [hl] at hin hstrict
    rcases List.mem_cons.mp hin with e | e
    · exact ⟨rest, by rw [e]⟩
    · have h2 : x ∈ devsFrom bs (.dev M m) := by rw [hl]; exact List.mem_cons_self
      exact (not_keyLt_iff.mpr ((mem_devsFrom _).mp h2).2.2 ((List.pairwise_cons.mp hstrict).1 _ e)).elim

end BertE.Cascade
