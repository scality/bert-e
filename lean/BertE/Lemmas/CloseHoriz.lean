import BertE.Lemmas.CloseDefs
import BertE.Lemmas.QValidate
/-
Completeness of the modelled `QueueCollection.validate()`: the collection that
matches the bookkeeping seen through plain maps (no `filterMap`), and `_horizontal_validation`.
-/
namespace BertE.Close
open BertE.Git BertE.Flow BertE.Select BertE.QV

/-- 0 when there is none -/
def close_tip (s : Sys) (e : QEntry) (d : Dest) : Commit := (qwOf s.remote e d).getD 0

def close_mk (tip : QEntry → Dest → Commit) (d : Dest) (e : QEntry) : QInt := ⟨e.pr, e.src, tip e d⟩

theorem close_filterMap_eq_map {α β : Type} (f : α → Option β) (g : α → β) : ∀ (l : List α),
    (∀ x ∈ l, f x = some (g x)) → l.filterMap f = l.map g
  | [], _ => rfl
  | x :: xs, h => by
    rw [List.filterMap_cons, h x List.mem_cons_self, List.map_cons,
      close_filterMap_eq_map f g xs (fun y hy => h y (List.mem_cons_of_mem _ hy))]

theorem close_tip_eq {s : Sys} {e : QEntry} {d : Dest} {c : Commit} (h : qwOf s.remote e d = some c) :
    close_tip s e d = c := by
  unfold close_tip; rw [h]; rfl

/-- every queued pull request on `d` has its `q/w/` ref (`QueueInv.entry`) -/
theorem close_intsFor_eq {s : Sys} (hq : QueueInv s) (d : Dest) :
    intsFor s d = (entriesOn s d).reverse.map (close_mk (close_tip s) d) := by
  unfold intsFor
  apply close_filterMap_eq_map
  intro e he
  have he' := mem_entriesOn.mp (List.mem_reverse.mp he)
  obtain ⟨c, _, hc, _, _⟩ := hq.entry e he'.1 d he'.2
  have hc' : s.remote.get (.qw e.pr d e.src) = some c := hc
  rw [hc']
  simp only [Option.map_some, close_mk, close_tip_eq hc]

theorem close_chain_nil {g : Graph} {t : Commit} : ∀ (l : List QInt) (next : Commit),
    g.le t next = true → (∀ x ∈ l, g.le t x.tip = true) → (∀ x ∈ l, g.le x.tip next = true) →
    l.Pairwise (fun a b => g.le b.tip a.tip = true) → chainErrs g (some t) next l = [] := by
  intro l
  induction l with
  | nil =>
    intro next h _ _ _
    simp only [chainErrs, includesOpt, h, if_true]
  | cons x xs ih =>
    intro next _ h1 h2 hp
    rw [List.pairwise_cons] at hp
    simp only [chainErrs, h2 x List.mem_cons_self, if_true, List.nil_append]
    exact ih x.tip (h1 x List.mem_cons_self) (fun y hy => h1 y (List.mem_cons_of_mem _ hy)) (fun y hy => hp.1 y hy) hp.2

theorem close_horizontal_of_matches {s : Sys} (h : InvV s) (hsync : QSync s) {c : Coll} (hc : CollMatches s c)
    {v : VQ} (hv : v ∈ c) : horizontal s.g s.remote v = .ok [] := by
  have hQ := h.inv.q
  have hqs := (hc.mem v.d).mp (List.mem_map.mpr ⟨v, hv, rfl⟩)
  obtain ⟨mq, hmq⟩ := Option.isSome_iff_exists.mp hqs
  obtain ⟨t, hdt⟩ := Option.isSome_iff_exists.mp (hQ.qdest v.d hqs)
  have htm : s.g.le t mq = true := hQ.qtip v.d mq t hmq hdt
  -- every queue commit of the version lies between the destination's tip and the queue branch
  have hall : ∀ e ∈ (entriesOn s v.d).reverse,
      s.g.le t (close_tip s e v.d) = true ∧ s.g.le (close_tip s e v.d) mq = true := by
    intro e he
    have he' := mem_entriesOn.mp (List.mem_reverse.mp he)
    obtain ⟨cq, t', hcq, ht', hle⟩ := hQ.base.entry e he'.1 v.d he'.2
    rw [hdt, Option.some.injEq] at ht'
    subst ht'
    rw [close_tip_eq hcq]
    exact ⟨hle, hQ.qtop e he'.1 v.d he'.2 cq mq hcq hmq⟩
  -- and a newer one contains the older ones
  have hpw : (entriesOn s v.d).reverse.Pairwise
      (fun a b => s.g.le (close_tip s b v.d) (close_tip s a v.d) = true) := by
    rw [List.pairwise_reverse]
    apply (hQ.base.horiz.sublist List.filter_sublist).imp_of_mem
    intro a b ha hb hab
    have ha' := mem_entriesOn.mp ha
    have hb' := mem_entriesOn.mp hb
    obtain ⟨ca, _, hca, _, _⟩ := hQ.base.entry a ha'.1 v.d ha'.2
    obtain ⟨cb, _, hcb, _, _⟩ := hQ.base.entry b hb'.1 v.d hb'.2
    rw [close_tip_eq hca, close_tip_eq hcb]
    exact hab v.d ha'.2 hb'.2 ca cb hca hcb
  have hsy := hsync v.d mq hmq
  rw [← List.head?_reverse] at hsy
  have hints : v.ints = (entriesOn s v.d).reverse.map (close_mk (close_tip s) v.d) := by
    rw [hc.ints v hv, close_intsFor_eq hQ.base]
  unfold horizontal
  rw [hc.master v hv, hmq]
  simp only [hdt, includesOpt, htm, if_true, List.nil_append]
  cases hE : (entriesOn s v.d).reverse with
  | nil =>
    -- nothing queued on the version: the queue branch is on the destination's tip
    rw [hE, List.head?_nil, hdt] at hsy
    cases hsy
    rw [hints, hE]
    simp only [List.map_nil, bne_self_eq_false, Bool.false_eq_true, if_false, chainErrs, includesOpt, htm, if_true,
      List.append_nil]
  | cons e r =>
    -- the newest queue commit is the queue branch
    rw [hE] at hsy hall hpw
    have htop : (close_mk (close_tip s) v.d e).tip = mq := close_tip_eq hsy
    rw [hints, hE]
    simp only [List.map_cons, htop, bne_self_eq_false, Bool.false_eq_true, if_false, List.nil_append]
    exact congrArg Except.ok (close_chain_nil (List.map (close_mk (close_tip s) v.d) (e :: r)) mq htm
      (List.forall_mem_map.mpr fun e he => (hall e he).1) (List.forall_mem_map.mpr fun e he => (hall e he).2)
      (List.pairwise_map.mpr hpw))

theorem close_horizAll_nil {g : Graph} {remote : RefMap} : ∀ (c : Coll),
    (∀ v ∈ c, horizontal g remote v = .ok []) → horizAll g remote c = .ok []
  | [], _ => rfl
  | v :: vs, h => by
    simp only [horizAll, h v List.mem_cons_self,
      close_horizAll_nil vs (fun w hw => h w (List.mem_cons_of_mem _ hw)), List.append_nil]

theorem close_horizAll_of_matches {s : Sys} (h : InvV s) (hsync : QSync s) {c : Coll} (hc : CollMatches s c) :
    horizAll s.g s.remote c = .ok [] :=
  close_horizAll_nil c (fun _ hv => close_horizontal_of_matches h hsync hc hv)

end BertE.Close
