import BertE.Lemmas.PlanExt
/- The queue invariant (what `add_to_queue` establishes) and the safety of the queue merge. -/
namespace BertE.Flow
open BertE.Git

theorem mergeEntry_spec (e : QEntry) : ∀ (ts : List Dest) (m : RefMap),
    (∀ d ∈ ts, ∃ c, m.get (.qw e.pr d e.src) = some c) → ts.Nodup →
    let m' := mergeTargets e.pr e.src m ts
    (∀ x, (∀ d ∈ ts, x ≠ .dest d) → m'.get x = m.get x) ∧
    (∀ d ∈ ts, m'.get (.dest d) = m.get (.qw e.pr d e.src))
  | [], m, _, _ => ⟨fun _ _ => rfl, fun _ h => nomatch h⟩
  | t :: ts, m, hex, hnd => by
    obtain ⟨c, hc⟩ := hex t List.mem_cons_self
    rw [List.nodup_cons] at hnd
    have hstep : mergeTargets e.pr e.src m (t :: ts) = mergeTargets e.pr e.src (m.set (.dest t) c) ts := by
      simp only [mergeTargets, List.foldl_cons, hc]
    have hq : ∀ d, (m.set (.dest t) c).get (.qw e.pr d e.src) = m.get (.qw e.pr d e.src) :=
      fun d => RefMap.get_set_ne _ _ (fun h => nomatch h)
    obtain ⟨h1, h2⟩ := mergeEntry_spec e ts (m.set (.dest t) c)
      (fun d hd => by rw [hq]; exact hex d (List.mem_cons_of_mem _ hd)) hnd.2
    rw [hstep]
    refine ⟨fun x hx => ?_, fun d hd => ?_⟩
    · rw [h1 x (fun d hd => hx d (List.mem_cons_of_mem _ hd))]
      exact RefMap.get_set_ne _ _ (hx t List.mem_cons_self)
    · rcases List.mem_cons.mp hd with rfl | hd'
      · rw [h1 _ (fun d' hd' he => hnd.1 (by cases he; exact hd')), RefMap.get_set_eq, hc]
      · rw [h2 d hd', hq]

theorem mergeEntry_get {s : Sys} (hq : QueueInv s) {e : QEntry} (he : e ∈ s.queue) {m : RefMap}
    (hqs : ∀ pr d src, m.get (.qw pr d src) = s.remote.get (.qw pr d src)) :
    (∀ d ∈ e.targets, (mergeEntry m e).get (.dest d) = qwOf s.remote e d) ∧
    (∀ x, (∀ d ∈ e.targets, x ≠ .dest d) → (mergeEntry m e).get x = m.get x) := by
  obtain ⟨h1, h2⟩ := mergeEntry_spec e e.targets m
    (fun d hd => by
      obtain ⟨c, _, hc, _⟩ := hq.entry e he d hd
      exact ⟨c, (hqs _ _ _).trans hc⟩)
    (pairwise_before_nodup (hq.ordered e he))
  exact ⟨fun d hd => (h2 d hd).trans (hqs _ _ _), h1⟩

/-- invariant of the fold over the selected entries: inclusion holds, robot queue refs are untouched, and every
    destination tip is contained in the queue commit of every entry still to come -/
structure MergeInv (s : Sys) (m : RefMap) (todo : List QEntry) : Prop where
  incl : InclOn s.g m
  valid : RefsValid s.g m
  qsame : ∀ pr d src, m.get (.qw pr d src) = s.remote.get (.qw pr d src)
  present : ∀ d, (m.get (.dest d)).isSome = (s.remote.get (.dest d)).isSome
  below : ∀ e ∈ todo, ∀ d ∈ e.targets, ∀ t c, m.get (.dest d) = some t → qwOf s.remote e d = some c →
            s.g.le t c = true

theorem mergeEntries_inv {s : Sys} (hs : s.WF) (hq : QueueInv s) : ∀ (todo : List QEntry) (m : RefMap),
    (∀ e ∈ todo, e ∈ s.queue) →
    todo.Pairwise (fun e e' => ∀ d, d ∈ e.targets → d ∈ e'.targets → ∀ c c',
      qwOf s.remote e d = some c → qwOf s.remote e' d = some c' → s.g.le c c' = true) →
    MergeInv s m todo → MergeInv s (todo.foldl mergeEntry m) []
  | [], m, _, _, h => h
  | e :: todo, m, hmem, hpw, h => by
    rw [List.foldl_cons]
    have heq : e ∈ s.queue := hmem e List.mem_cons_self
    rw [List.pairwise_cons] at hpw
    obtain ⟨hin, hrest⟩ := mergeEntry_get hq heq h.qsame
    have hout : ∀ d, d ∉ e.targets → (mergeEntry m e).get (.dest d) = m.get (.dest d) :=
      fun d hd => hrest _ (fun d' hd' he => hd (by cases he; exact hd'))
    apply mergeEntries_inv hs hq todo _ (fun x hx => hmem x (List.mem_cons_of_mem _ hx)) hpw.2
    have hupd : DestUpdate s.g s.g m (mergeEntry m e) e.targets := by
      refine ⟨Extends.refl _, hout, fun d hd => ?_, ?_⟩
      · obtain ⟨c, t, hc, ht, _⟩ := hq.entry e heq d hd
        obtain ⟨o, hmd⟩ := Option.isSome_iff_exists.mp ((h.present d).trans (by rw [ht]; rfl))
        exact ⟨o, c, hmd, (hin d hd).trans hc, h.below e List.mem_cons_self d hd o c hmd hc⟩
      · exact (hq.vert e heq).imp_of_mem fun ha hb hab na nb hna hnb =>
          hab na nb (hin _ ha ▸ hna) (hin _ hb ▸ hnb)
    refine ⟨?_, ?_, fun pr d src => (hrest (.qw pr d src) (fun _ _ he => nomatch he)).trans (h.qsame pr d src), ?_, ?_⟩
    · exact incl_of_destUpdate hs.g h.valid h.incl hupd (hq.ordered e heq)
        (fun t ht b hb hbs => hq.closed e heq t ht b hb (h.present b ▸ hbs))
    · intro x c hc
      by_cases hx : ∃ d ∈ e.targets, x = .dest d
      · obtain ⟨d, hd, rfl⟩ := hx
        rw [hin d hd] at hc
        exact hs.valid _ _ hc
      · rw [hrest x (fun d hd he => hx ⟨d, hd, he⟩)] at hc
        exact h.valid _ _ hc
    · intro d
      by_cases hd : d ∈ e.targets
      · obtain ⟨c, t, hc, ht, _⟩ := hq.entry e heq d hd
        rw [hin d hd, hc, ht]
        rfl
      · rw [hout d hd]
        exact h.present d
    · intro e' he' d hd' t c ht hc
      by_cases hd : d ∈ e.targets
      · rw [hin d hd] at ht
        exact hpw.1 e' he' d hd hd' t c ht hc
      · rw [hout d hd] at ht
        exact h.below e' (List.mem_cons_of_mem _ he') d hd' t c ht hc

/-- whatever pull requests are selected, the content of the single atomic push satisfies inclusion -/
theorem planQueues_safe {s : Sys} (hs : s.WF) (hincl : s.Incl) (hq : QueueInv s) (sel : List Nat) :
    ∀ op ∈ (planQueues s sel).ops, op.Safe (planQueues s sel).g := by
  unfold planQueues
  simp only
  split
  · exact nil_safe _
  · intro op hop
    cases List.mem_singleton.mp hop
    refine ⟨rfl, InclOn.delRefs ?_ _⟩
    have h0 : MergeInv s s.remote (s.queue.filter (fun e => sel.contains e.pr)) := by
      refine ⟨hincl, hs.valid, fun _ _ _ => rfl, fun _ => rfl, fun e he d hd t c ht hc => ?_⟩
      obtain ⟨c', t', hc', ht', hle⟩ := hq.entry e (List.mem_filter.mp he).1 d hd
      cases ht.symm.trans ht'
      cases hc.symm.trans hc'
      exact hle
    exact (mergeEntries_inv hs hq _ s.remote (fun e he => (List.mem_filter.mp he).1)
      (hq.horiz.sublist List.filter_sublist) h0).incl

end BertE.Flow
