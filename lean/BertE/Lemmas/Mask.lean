import BertE.Model.Mask
/- Lemmas about `replace` (the scan of `str.replace`), the alphabet of `quote_plus`,
   `strip` / `shlex.quote`, and the rendering of message templates. -/
namespace BertE.Mask

section
variable {α : Type} [DecidableEq α]

theorem replaceAux_skip (p r : List α) :
    ∀ (s : List α) (n : Nat), replaceAux p r n s = replaceAux p r 0 (s.drop n)
  | [], n => by cases n <;> simp [replaceAux]
  | c :: s, 0 => by simp
  | c :: s, n + 1 => by
    simp only [replaceAux, List.drop_succ_cons]
    exact replaceAux_skip p r s n

theorem replace_nil (p r : List α) : replace p r [] = [] := by simp [replace, replaceAux]

theorem replace_cons_match {p r : List α} {c : α} {s : List α} (hp : p ≠ [])
    (h : p.isPrefixOf (c :: s) = true) :
    replace p r (c :: s) = r ++ replace p r ((c :: s).drop p.length) := by
  obtain ⟨a, p, rfl⟩ := List.exists_cons_of_ne_nil hp
  simp only [replace, replaceAux, h, if_true, List.length_cons, Nat.add_sub_cancel, List.drop_succ_cons]
  rw [replaceAux_skip]

theorem replace_cons_nomatch {p r : List α} {c : α} {s : List α}
    (h : p.isPrefixOf (c :: s) = false) :
    replace p r (c :: s) = c :: replace p r s := by
  unfold replace
  simp [replaceAux, h]

omit [DecidableEq α] in
theorem infix_skip_left {p r m : List α} (hr : ∀ x ∈ r, x ∉ p) (h : p <:+: r ++ m) : p <:+: m := by
  induction r with
  | nil => simpa using h
  | cons a r ih =>
    have hr' : ∀ x ∈ r, x ∉ p := fun x hx => hr x (List.mem_cons_of_mem _ hx)
    rw [List.cons_append, List.infix_cons_iff] at h
    rcases h with h | h
    · rcases List.prefix_cons_iff.mp h with rfl | ⟨t, rfl, _⟩
      · exact List.nil_infix
      · exact absurd (List.mem_cons_self) (hr a (List.mem_cons_self))
    · exact ih hr' h

theorem prefix_of_replace {p r : List α} (hp : p ≠ []) (hr0 : r ≠ []) :
    ∀ (s q : List α), (∀ x ∈ r, x ∉ q) → q <+: replace p r s → q <+: s
  | [], q, _, h => by simpa [replace_nil] using h
  | c :: s, q, hq, h => by
    cases hm : p.isPrefixOf (c :: s) with
    | true =>
      rw [replace_cons_match hp hm] at h
      cases q with
      | nil => exact List.nil_prefix
      | cons a q =>
        cases r with
        | nil => exact absurd rfl hr0
        | cons b r =>
          rw [List.cons_append, List.cons_prefix_cons] at h
          exact absurd (h.1 ▸ List.mem_cons_self) (hq b List.mem_cons_self)
    | false =>
      rw [replace_cons_nomatch hm] at h
      rcases List.prefix_cons_iff.mp h with rfl | ⟨t, rfl, ht⟩
      · exact List.nil_prefix
      · have := prefix_of_replace hp hr0 s t (fun x hx hxt => hq x hx (List.mem_cons_of_mem _ hxt)) ht
        exact List.cons_prefix_cons.mpr ⟨rfl, this⟩

theorem replace_free {p r : List α} (hp : p ≠ []) (hr0 : r ≠ []) (hr : ∀ x ∈ r, x ∉ p) :
    ∀ s : List α, ¬ p <:+: replace p r s
  | [] => fun h => hp (List.infix_nil.mp (replace_nil p r ▸ h))
  | c :: s => by
    intro h
    cases hm : p.isPrefixOf (c :: s) with
    | true =>
      rw [replace_cons_match hp hm] at h
      have : s.length + 1 - p.length < s.length + 1 := by
        have := List.length_pos_iff.mpr hp
        omega
      exact replace_free hp hr0 hr _ (infix_skip_left hr h)
    | false =>
      rw [replace_cons_nomatch hm, List.infix_cons_iff] at h
      rcases h with h | h
      · rcases List.prefix_cons_iff.mp h with rfl | ⟨t, rfl, ht⟩
        · exact hp rfl
        · have hpre := prefix_of_replace hp hr0 s t
            (fun x hx hxt => hr x hx (List.mem_cons_of_mem _ hxt)) ht
          rw [List.isPrefixOf_iff_prefix.mpr (List.cons_prefix_cons.mpr ⟨rfl, hpre⟩)] at hm
          cases hm
      · exact replace_free hp hr0 hr s h
termination_by s => s.length

end

theorem hexDigit_mem (n : Nat) : hexDigit n ∈ hexDigits := by
  unfold hexDigit
  rw [List.getD_eq_getElem?_getD]
  cases h : hexDigits[n]? with
  | none => decide +kernel
  | some x => exact List.mem_of_getElem? h

theorem mem_pct {b : Nat} {x : Char} (h : x ∈ pct b) : x = '%' ∨ x ∈ hexDigits := by
  simp only [pct, List.mem_cons, List.not_mem_nil, or_false] at h
  rcases h with h | h | h
  · exact Or.inl h
  · exact Or.inr (h ▸ hexDigit_mem _)
  · exact Or.inr (h ▸ hexDigit_mem _)

theorem mem_quoteChar {safe : List Char} {c x : Char} (h : x ∈ quoteChar safe c) :
    x ∈ quoteAlphabet safe := by
  unfold quoteChar at h
  unfold quoteAlphabet
  split at h
  · rename_i hs
    simp only [List.mem_cons, List.not_mem_nil, or_false] at h
    subst h
    simp [hs]
  · split at h
    · simp only [List.mem_cons, List.not_mem_nil, or_false] at h
      subst h
      simp
    · obtain ⟨b, _, hb⟩ := List.mem_flatMap.mp h
      rcases mem_pct hb with rfl | hx
      · simp
      · simp [hx]

theorem mem_quotePlus {safe s : List Char} {x : Char} (h : x ∈ quotePlus safe s) :
    x ∈ quoteAlphabet safe := by
  obtain ⟨c, _, hc⟩ := List.mem_flatMap.mp h
  exact mem_quoteChar hc

theorem utf8_ne_nil (c : Char) : utf8 c ≠ [] := by
  unfold utf8
  simp only
  split
  · simp
  · split
    · simp
    · split <;> simp

theorem quoteChar_ne_nil (safe : List Char) (c : Char) : quoteChar safe c ≠ [] := by
  unfold quoteChar
  split
  · simp
  · split
    · simp
    · cases h : utf8 c with
      | nil => exact absurd h (utf8_ne_nil c)
      | cons b bs => simp [List.flatMap_cons, pct]

theorem quotePlus_ne_nil {safe s : List Char} (h : s ≠ []) : quotePlus safe s ≠ [] := by
  cases s with
  | nil => exact absurd rfl h
  | cons c s =>
    unfold quotePlus
    rw [List.flatMap_cons]
    intro hnil
    exact quoteChar_ne_nil safe c (List.append_eq_nil_iff.mp hnil).1

theorem dropWhile_keeps {f : Char → Bool} {q : List Char} (hq : q ≠ []) (hf : ∀ x ∈ q, f x = false) :
    ∀ (a b : List Char), (a ++ (q ++ b)).dropWhile f = a.dropWhile f ++ (q ++ b)
  | [], b => by
    cases q with
    | nil => exact absurd rfl hq
    | cons x q => simp [hf x List.mem_cons_self]
  | y :: a, b => by
    rw [List.cons_append, List.dropWhile_cons, List.dropWhile_cons]
    cases f y with
    | true => simpa using dropWhile_keeps hq hf a b
    | false => simp

theorem pyStrip_keeps {spaces q : List Char} (hq : q ≠ []) (hs : ∀ x ∈ q, x ∉ spaces)
    (a b : List Char) : ∃ a' b', pyStrip spaces (a ++ (q ++ b)) = a' ++ (q ++ b') := by
  have hf : ∀ x ∈ q, decide (x ∈ spaces) = false := fun x hx => by simp [hs x hx]
  have hfr : ∀ x ∈ q.reverse, decide (x ∈ spaces) = false := fun x hx => hf x (List.mem_reverse.mp hx)
  have hqr : q.reverse ≠ [] := by simpa using hq
  refine ⟨a.dropWhile (· ∈ spaces), (b.reverse.dropWhile (· ∈ spaces)).reverse, ?_⟩
  unfold pyStrip
  rw [dropWhile_keeps hq hf a b]
  have : (List.dropWhile (fun x => decide (x ∈ spaces)) a ++ (q ++ b)).reverse
      = b.reverse ++ (q.reverse ++ (List.dropWhile (fun x => decide (x ∈ spaces)) a).reverse) := by
    simp [List.reverse_append, List.append_assoc]
  rw [this, dropWhile_keeps hqr hfr]
  simp [List.reverse_append, List.append_assoc]

theorem flatMap_id_of {f : Char → List Char} {q : List Char} (h : ∀ x ∈ q, f x = [x]) :
    q.flatMap f = q := by
  induction q with
  | nil => rfl
  | cons x q ih =>
    rw [List.flatMap_cons, h x List.mem_cons_self, ih (fun y hy => h y (List.mem_cons_of_mem _ hy))]
    rfl

theorem shlexQuote_keeps {shellSafe q : List Char} (hq : q ≠ []) (hs : '\'' ∉ q) (a b : List Char) :
    q <:+: shlexQuote shellSafe (a ++ (q ++ b)) := by
  unfold shlexQuote
  split
  · rename_i he
    cases a <;> cases q <;> simp_all
  · split
    · exact List.infix_append' a q b
    · have hid : q.flatMap (fun c => if c = '\'' then sqEscape else [c]) = q :=
        flatMap_id_of (fun x hx => by
          have : x ≠ '\'' := fun he => hs (he ▸ hx)
          simp [this])
      rw [List.flatMap_append, List.flatMap_append, hid]
      refine ⟨'\'' :: a.flatMap (fun c => if c = '\'' then sqEscape else [c]),
        b.flatMap (fun c => if c = '\'' then sqEscape else [c]) ++ ['\''], ?_⟩
      simp [List.append_assoc]

/-- no two neighbouring pieces without a separator character between them -/
def noAdj : List Piece → Bool
  | [] => true
  | [_] => true
  | x :: y :: r =>
    ((match x with | .sep _ => true | _ => false) || (match y with | .sep _ => true | _ => false))
      && noAdj (y :: r)

/-- what the property needs of one piece: separators are outside of the alphabet of the secret,
    tainted arguments are masked -/
def Piece.ok (alpha : List Char) : Piece → Bool
  | .lit _ => true
  | .sep c => !(alpha.contains c)
  | .arg src masked => !src.tainted || masked

def Flow.ok (alpha : List Char) (f : Flow) : Bool :=
  noAdj f.pieces && f.pieces.all (Piece.ok alpha)

theorem noAdj_tail {x : Piece} {r : List Piece} (h : noAdj (x :: r) = true) : noAdj r = true := by
  cases r with
  | nil => rfl
  | cons y r => simp only [noAdj, Bool.and_eq_true] at h; exact h.2

theorem prefix_before {q x y : List Char} {c : Char} (hcq : c ∉ q) (h : q <+: x ++ c :: y) : q <+: x := by
  have hx : x ++ [c] <+: x ++ c :: y := by simp
  rcases List.prefix_or_prefix_of_prefix h hx with h' | h'
  · rcases List.prefix_concat_iff.mp h' with rfl | h'
    · exact absurd (by simp) hcq
    · exact h'
  · exact absurd (h'.subset (by simp)) hcq

theorem infix_sep {alpha q x y : List Char} {c : Char} (hq : ∀ z ∈ q, z ∈ alpha) (hc : c ∉ alpha)
    (h : q <:+: x ++ c :: y) : q <:+: x ∨ q <:+: y := by
  have hcq : c ∉ q := fun h => hc (hq c h)
  -- the occurrence starts at the head, and then ends before `c`, or it lies in the tail
  induction x with
  | nil =>
    rcases List.infix_cons_iff.mp h with h | h
    · exact Or.inl (prefix_before (x := []) hcq h).isInfix
    · exact Or.inr h
  | cons a x ih =>
    rcases List.infix_cons_iff.mp h with h | h
    · exact Or.inl (prefix_before (x := a :: x) hcq h).isInfix
    · exact (ih h).imp_left fun h => h.trans (List.suffix_cons a x).isInfix

theorem clean_sep {alpha q : List Char} {c : Char} (hq0 : q ≠ []) (hq : ∀ z ∈ q, z ∈ alpha)
    (hc : c ∉ alpha) : ¬ q <:+: [c] := by
  intro h
  have := infix_sep (x := []) (y := []) hq hc (by simpa using h)
  simp [hq0] at this

theorem render_cons {star pwd : List Char} {e : Env} {p : Piece} {ps : List Piece} :
    render star pwd e (p :: ps) = p.text star pwd e ++ render star pwd e ps :=
  List.flatMap_cons

theorem render_clean {alpha q star pwd : List Char} {e : Env} (hq0 : q ≠ [])
    (hq : ∀ z ∈ q, z ∈ alpha) :
    ∀ (ps : List Piece), noAdj ps = true →
      (∀ p ∈ ps, ¬ q <:+: p.text star pwd e) →
      (∀ p ∈ ps, ∀ c, p = .sep c → c ∉ alpha) →
      ¬ q <:+: render star pwd e ps
  | [], _, _, _ => by simpa [render] using hq0
  | [x], _, hc, _ => by simpa [render] using hc x List.mem_cons_self
  | x :: y :: r, hadj, hc, hsep => by
    have ih := render_clean hq0 hq (y :: r) (noAdj_tail hadj)
      (fun p hp => hc p (List.mem_cons_of_mem _ hp))
      (fun p hp => hsep p (List.mem_cons_of_mem _ hp))
    intro h
    rw [render_cons] at h
    simp only [noAdj, Bool.and_eq_true, Bool.or_eq_true] at hadj
    rcases hadj.1 with hxs | hys
    · cases x with
      | sep c =>
        rcases infix_sep (x := []) hq (hsep _ List.mem_cons_self c rfl) h with h' | h'
        · exact hq0 (List.infix_nil.mp h')
        · exact ih h'
      | lit _ => cases hxs
      | arg _ _ => cases hxs
    · cases y with
      | sep c =>
        rw [render_cons] at h
        rcases infix_sep hq (hsep _ (List.mem_cons_of_mem _ List.mem_cons_self) c rfl) h with h' | h'
        · exact hc x List.mem_cons_self h'
        · exact ih (render_cons ▸ h'.trans (List.suffix_cons _ _).isInfix)
      | lit _ => cases hys
      | arg _ _ => cases hys

theorem text_infix_render {star pwd : List Char} {e : Env} {p : Piece} {ps : List Piece} (h : p ∈ ps) :
    p.text star pwd e <:+: render star pwd e ps := by
  obtain ⟨a, b, rfl⟩ := List.append_of_mem h
  exact ⟨a.flatMap (Piece.text star pwd e), b.flatMap (Piece.text star pwd e), by simp [render]⟩

def without (t : Tbl) (sink : String) : Tbl := { t with flows := t.flows.filter (·.sink != sink) }

theorem mem_without {t : Tbl} {pwd : List Char} {e : Env} {oc : Outcome} {thr : Nat} {sink : String}
    {m : String × List Char} (hm : m ∈ sinkMessages t pwd e oc thr) (hs : m.1 ≠ sink) :
    m ∈ sinkMessages (without t sink) pwd e oc thr := by
  unfold sinkMessages at *
  obtain ⟨f, hf, rfl⟩ := List.mem_map.mp hm
  refine List.mem_map.mpr ⟨f, ?_, rfl⟩
  obtain ⟨hf1, hf2⟩ := List.mem_filter.mp hf
  refine List.mem_filter.mpr ⟨?_, hf2⟩
  exact List.mem_filter.mpr ⟨hf1, by simpa [without] using hs⟩

end BertE.Mask
