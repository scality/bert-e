import BertE.Lemmas.Full2Direct
/-
C03 over every event: a pull-request evaluation moves a destination branch only by the queue merge (pull request found
already queued) or by the direct merge (every gate passed, queue skipped); every other plan pushes / deletes refs that
are not destination branches.
-/
namespace BertE.Full2
open BertE.Git BertE.Flow BertE.Close BertE.Eval

/-- an operation that cannot move or remove a destination branch -/
def full2_NoDest : Op → Prop
  | .push ups => ∀ rc ∈ ups, rc.1.isDest = false
  | .delete r => r.isDest = false
  | .pushAll _ _ => False

theorem full2_applyOp_nodest (g : Graph) (m : RefMap) (op : Op) (h : full2_NoDest op) (d : Dest) :
    (applyOp g noRej m op).get (.dest d) = m.get (.dest d) := by
  cases op with
  | push ups => exact push_fold_dest g noRej ups h m d
  | delete r =>
    simp only [applyOp, noRej, Bool.false_eq_true, if_false]
    rw [RefMap.get_del_ne]
    intro he
    subst he
    cases h
  | pushAll loc prune => cases h

theorem full2_applyOps_nodest (g : Graph) (ops : List Op) (m : RefMap) (h : ∀ op ∈ ops, full2_NoDest op) (d : Dest) :
    (applyOps g noRej m ops).get (.dest d) = m.get (.dest d) :=
  applyOps_preserves (I := fun m' => m'.get (.dest d) = m.get (.dest d))
    (fun m' op hI hop => (full2_applyOp_nodest g m' op hop d).trans hI) ops rfl h

theorem full2_onlyW_nodest {src : String} {op : Op} (h : Op.onlyW src op) : full2_NoDest op := by
  cases op with
  | push ups =>
    intro rc hrc
    obtain ⟨d, hd⟩ := h rc hrc
    rw [hd]; rfl
  | delete r => cases h
  | pushAll _ _ => cases h

theorem full2_enqueue_nodest (s : Sys) (l4 : Loc) (pr : PrInfo) (ts : List Dest) (pre : List Op)
    (hpre : ∀ op ∈ pre, full2_NoDest op) : ∀ op ∈ (enqueue s l4 pr ts pre).ops, full2_NoDest op := by
  have hq : ∀ op ∈ (createQ l4 ts).2, full2_NoDest op := fun op h => by
    obtain ⟨_, _, rfl⟩ := createQ_ops ts l4 op h
    exact fun rc hrc => by rw [List.mem_singleton.mp hrc]; rfl
  rcases enqueue_shape s l4 pr ts pre with ⟨g, o, he⟩ | ⟨l8, he⟩ <;> rw [he]
  · exact List.forall_mem_append.mpr ⟨hpre, hq⟩
  · refine List.forall_mem_append.mpr ⟨List.forall_mem_append.mpr ⟨hpre, hq⟩, List.forall_mem_singleton.mpr ?_⟩
    intro rc hrc
    rcases List.mem_append.mp (tipsOf_mem hrc) with h1 | h1 <;> obtain ⟨d, _, hd⟩ := List.mem_map.mp h1 <;>
      rw [← hd] <;> rfl

theorem full2_planPr_dest (s : Sys) (pr : PrInfo) (stage : Stage) (orc : List Bool) (sel : List Nat) (d : Dest)
    (hmoved : (applyOps (planPr s pr stage orc sel).g noRej s.remote (planPr s pr stage orc sel).ops).get (.dest d) ≠
      s.remote.get (.dest d)) :
    (alreadyQueued s pr = true ∧ planPr s pr stage orc sel = planQueues s sel) ∨
    (stage = .final ∧ alreadyQueued s pr = false ∧ ∃ sc dc l4 pushW, s.remote.get (.other pr.src) = some sc ∧
      s.remote.get (.dest pr.dst) = some dc ∧ prepare s pr sc dc orc = .inr (l4, pushW) ∧
      isNeeded s l4 pr (s.targets pr.dst) = false ∧
      planPr s pr stage orc sel = directMerge s l4 pr sc (s.targets pr.dst) pushW) := by
  revert hmoved
  refine planPr_elim (motive := fun p =>
      (applyOps p.g noRej s.remote p.ops).get (.dest d) ≠ s.remote.get (.dest d) →
      (alreadyQueued s pr = true ∧ p = planQueues s sel) ∨
      (stage = .final ∧ alreadyQueued s pr = false ∧ ∃ sc dc l4 pushW, s.remote.get (.other pr.src) = some sc ∧
        s.remote.get (.dest pr.dst) = some dc ∧ prepare s pr sc dc orc = .inr (l4, pushW) ∧
        isNeeded s l4 pr (s.targets pr.dst) = false ∧ p = directMerge s l4 pr sc (s.targets pr.dst) pushW))
    s pr stage orc sel (fun _ h => absurd rfl h) (fun hq _ => .inl ⟨hq, rfl⟩) ?_ ?_
  · intro sc dc p _ _ hp h
    exact absurd (full2_applyOps_nodest _ _ _ (fun op hop =>
      full2_onlyW_nodest ((evalG_prepare_onlyW s pr sc dc orc).1 p hp op hop)) d) h
  · intro sc dc l4 pushW hsc hdc hp hq
    have hpw : ∀ op ∈ pushW, full2_NoDest op := fun op hop =>
      full2_onlyW_nodest ((evalG_prepare_onlyW s pr sc dc orc).2 l4 pushW hp op hop)
    exact ⟨fun h => absurd (full2_applyOps_nodest _ _ _ hpw d) h,
      fun _ h => absurd (full2_applyOps_nodest _ _ _ (full2_enqueue_nodest s l4 pr _ pushW hpw) d) h,
      fun hfin hn _ => .inr ⟨hfin, hq, sc, dc, l4, pushW, hsc, hdc, hp, hn, rfl⟩⟩

/-- The direct merge with queues on moves a destination only to the commit the build gate read for it: the tip of its
    integration branch in the clone after the update (the source tip for the first target). Monotone commit numbering
    makes the fast-forwards land EXACTLY there; `chained` is derived (`full2_prepare_chained`), `hfirst` of
    `C03_direct_e2e_partial` is not needed. -/
theorem full2_directMerge_moves {s : Sys} (hs : s.WF) (hm : close_Mono s.g) (pr : PrInfo) {sc dc : Commit}
    {orc : List Bool} {l4 : Loc} {pushW : List Op}
    (hsc : s.remote.get (.other pr.src) = some sc) (hdc : s.remote.get (.dest pr.dst) = some dc)
    (hprep : prepare s pr sc dc orc = .inr (l4, pushW)) (huq : s.useQueue = true)
    (hdirect : isNeeded s l4 pr (s.targets pr.dst) = false) (d : Dest) (new : Commit)
    (hnew : (applyOps (directMerge s l4 pr sc (s.targets pr.dst) pushW).g noRej s.remote
      (directMerge s l4 pr sc (s.targets pr.dst) pushW).ops).get (.dest d) = some new)
    (hmoved : s.remote.get (.dest d) ≠ some new) :
    d ∈ s.targets pr.dst ∧ l4.refs.get (wRef pr pr.dst d) = some new := by
  have hscv : sc < s.g.size := hs.valid _ _ hsc
  obtain ⟨hwo, _⟩ := (prepare_spec hs pr hscv orc).2 l4 pushW hprep
  have hother : l4.refs.get (.other pr.src) = some sc := by
    rw [hwo.dests _ (fun _ _ hx => by cases hx)]; exact hsc
  have hdest : ∀ d, l4.refs.get (.dest d) = s.remote.get (.dest d) :=
    fun d => hwo.dests _ (fun _ _ hx => by cases hx)
  obtain ⟨_, _, sc', dc', hsc', hdc', hle, hall⟩ := evalG_isNeeded_false huq hdirect
  rw [hother] at hsc'; cases hsc'
  have hdc4 : l4.refs.get (.dest pr.dst) = some dc := by rw [hdest]; exact hdc
  rw [hdc4] at hdc'; cases hdc'
  have hnd : (s.targets pr.dst).Nodup := pairwise_before_nodup (targets_pairwise hs.sorted pr.dst)
  have hpw : ∀ op ∈ pushW, full2_NoDest op := fun op hop =>
    full2_onlyW_nodest ((evalG_prepare_onlyW s pr sc dc orc).2 l4 pushW hprep op hop)
  obtain ⟨rest, hts⟩ := evalG_targets_cons s pr.dst
  rw [hts] at hnd hnew hall
  -- beyond the first target the integration "branch" is `w/<target>/<source>`
  have hwref : ∀ d ∈ rest, wRef pr pr.dst d = .w d pr.src := fun d hd => by
    simp [wRef, show d ≠ pr.dst from fun he => (List.nodup_cons.mp hnd).1 (he ▸ hd)]
  have hall' : ∀ d ∈ rest, ∃ wc t, l4.refs.get (.w d pr.src) = some wc ∧ l4.refs.get (.dest d) = some t ∧
      l4.g.le t wc = true := fun d hd => hwref d hd ▸ hall d (List.mem_cons_of_mem _ hd)
  have hchain := full2_prepare_chained hs pr hsc hprep (by rw [hts]; exact hall')
  rw [hts] at hchain
  have hready : ffReady l4.g l4.refs pr.src sc rest := evalG_ffReady rest sc hall' hchain
  have ha : close_Antisym l4.g := close_mono_antisym (full2_prepare_mono hm hprep)
  obtain ⟨_, _, loc, hops, h1, hrest, hoth⟩ := full2_directMerge_exact (s := s) hwo.ok ha pr pr.dst rest hnd pushW hdc4
    (hwo.ext.lt hscv) hle hready
  rw [hops, applyOps_append] at hnew
  simp only [huq, if_true] at hnew
  have hpre : (applyOps (directMerge s l4 pr sc (pr.dst :: rest) pushW).g noRej s.remote
      (pushW ++ (qOnly l4.refs).map Op.delete)).get (.dest d) = s.remote.get (.dest d) := by
    apply full2_applyOps_nodest
    intro op hop
    rcases List.mem_append.mp hop with h | h
    · exact hpw op h
    · obtain ⟨r, hr, rfl⟩ := List.mem_map.mp h
      obtain ⟨d, rfl⟩ := eq_q_of_mem_qOnly hr
      rfl
  simp only [applyOps, List.foldl_cons, List.foldl_nil, applyOp] at hnew hpre
  split at hnew
  · simp only [if_true] at hnew
    by_cases hd : d ∈ pr.dst :: rest
    · refine ⟨by rw [hts]; exact hd, ?_⟩
      rcases List.mem_cons.mp hd with rfl | hd'
      · rw [h1] at hnew
        simp only [wRef, if_true]
        rw [hother]; exact hnew
      · rw [(hrest d hd').1] at hnew
        rw [hwref d hd']; exact hnew
    · rw [hoth d hd, hdest] at hnew
      exact absurd hnew hmoved
  · rw [hpre] at hnew
    exact absurd hnew hmoved

end BertE.Full2
