import BertE.Lemmas.CloseSort
import BertE.Lemmas.CloseDefs
/-
The collection that the model of `QueueCollection.build` + `finalize` computes from the refs of a
state satisfying the strengthened invariant `InvV`, without ties, is the one the queue bookkeeping describes
(`close_build_matches`).
-/
namespace BertE.Close
open BertE.Git BertE.Flow BertE.Select BertE.QV

theorem close_insertByName_perm (x : String × Ref × Commit) : ∀ (l : List (String × Ref × Commit)),
    (insertByName x l).Perm (x :: l)
  | [] => List.Perm.refl _
  | y :: ys => by
    unfold insertByName
    split
    · exact List.Perm.refl _
    · exact ((close_insertByName_perm x ys).cons y).trans (List.Perm.swap x y ys)

theorem close_foldl_insert_perm : ∀ (qs acc : List (String × Ref × Commit)),
    (qs.foldl (fun acc x => insertByName x acc) acc).Perm (qs ++ acc)
  | [], acc => List.Perm.refl _
  | x :: qs, acc => by
    simp only [List.foldl_cons]
    refine (close_foldl_insert_perm qs _).trans ?_
    exact ((close_insertByName_perm x acc).append_left qs).trans List.perm_middle

def close_qf (remote : RefMap) (r : Ref) : Option (String × Ref × Commit) :=
  match qName r, remote.get r with
  | some n, some c => some (n, r, c)
  | _, _ => none

theorem close_qRefs_eq (remote : RefMap) : qRefs remote =
    ((((remote.map (·.1)).eraseDups).filterMap (close_qf remote)).foldl
      (fun acc x => insertByName x acc) []).map (·.2) := rfl

theorem close_qf_some {remote : RefMap} {r : Ref} {y : String × Ref × Commit} :
    close_qf remote r = some y ↔ qName r = some y.1 ∧ y.2.1 = r ∧ remote.get r = some y.2.2 := by
  obtain ⟨n, r', c⟩ := y
  unfold close_qf
  cases h1 : qName r <;> cases h2 : remote.get r <;> simp
  intro _ _; exact eq_comm

theorem close_mem_qRefs {remote : RefMap} {r : Ref} {c : Commit} :
    (r, c) ∈ qRefs remote ↔ (qName r).isSome = true ∧ remote.get r = some c := by
  simp only [close_qRefs_eq, List.mem_map, (close_foldl_insert_perm _ []).mem_iff, List.append_nil, List.mem_filterMap,
    close_qf_some, List.mem_eraseDups]
  constructor
  · rintro ⟨⟨n, r', c'⟩, ⟨r'', _, hn, rfl, hg⟩, he⟩
    cases he
    exact ⟨by rw [hn]; rfl, hg⟩
  · rintro ⟨h1, h2⟩
    obtain ⟨n, hn⟩ := Option.isSome_iff_exists.mp h1
    exact ⟨(n, r, c), ⟨r, ⟨(r, c), RefMap.get_mem h2, rfl⟩, hn, rfl, h2⟩, rfl⟩

theorem close_qRefs_nodup (remote : RefMap) : ((qRefs remote).map (·.1)).Nodup := by
  rw [close_qRefs_eq, List.map_map, ((close_foldl_insert_perm _ []).map _).nodup_iff, List.append_nil]
  refine List.pairwise_map.mpr (List.pairwise_filterMap.mpr ((Queue.nodup_eraseDups _).imp ?_))
  intro a b hab y hy y' hy'
  simp only [Function.comp, (close_qf_some.mp hy).2.1, (close_qf_some.mp hy').2.1]
  exact hab

def close_refVer : Ref → Option Dest
  | .q d => some d
  | .qw _ d _ => some d
  | _ => none

/-- the last `q/<version>` seen -/
def close_masterOf (seen : List (Ref × Commit)) (d : Dest) : Option Commit :=
  (seen.filterMap (fun rc => if rc.1 = .q d then some rc.2 else none)).getLast?

def close_qwOn (seen : List (Ref × Commit)) (d : Dest) : List QInt :=
  seen.filterMap (fun rc => match rc.1 with
    | .qw pr d' src => if d' = d then some ⟨pr, src, rc.2⟩ else none
    | _ => none)

structure close_FoldInv (c : Coll) (seen : List (Ref × Commit)) : Prop where
  nodup : (keys c).Nodup
  mem : ∀ d, d ∈ keys c ↔ ∃ rc ∈ seen, close_refVer rc.1 = some d
  master : ∀ v ∈ c, v.master = close_masterOf seen v.d
  ints : ∀ v ∈ c, v.ints = close_qwOn seen v.d

def close_qwAt (d : Dest) (rc : Ref × Commit) : Option QInt :=
  match rc.1 with
  | .qw pr d' src => if d' = d then some ⟨pr, src, rc.2⟩ else none
  | _ => none

theorem close_qwOn_eq (seen : List (Ref × Commit)) (d : Dest) : close_qwOn seen d = seen.filterMap (close_qwAt d) := rfl

theorem close_qwAt_eq_some {d : Dest} {rc : Ref × Commit} {x : QInt} :
    close_qwAt d rc = some x ↔ rc = (.qw x.pr d x.src, x.tip) := by
  obtain ⟨r, t⟩ := rc
  obtain ⟨p, sr, c⟩ := x
  cases r with
  | qw pr d' src =>
    by_cases he : d' = d
    · simp [close_qwAt, he, and_assoc]
    · simp [close_qwAt, he]
  | _ => simp [close_qwAt]

theorem close_qwAt_eq_none {d : Dest} {rc : Ref × Commit} (h : close_refVer rc.1 ≠ some d) : close_qwAt d rc = none := by
  obtain ⟨r, t⟩ := rc
  cases r with
  | qw pr d' src => exact if_neg fun he => h (congrArg some he)
  | _ => rfl

theorem close_masterOf_snoc (seen : List (Ref × Commit)) (rc : Ref × Commit) (d : Dest) :
    close_masterOf (seen ++ [rc]) d = if rc.1 = .q d then some rc.2 else close_masterOf seen d := by
  unfold close_masterOf
  rw [List.filterMap_append]
  by_cases h : rc.1 = .q d
  · simp [h]
  · simp [h]

theorem close_qwOn_snoc (seen : List (Ref × Commit)) (rc : Ref × Commit) (d : Dest) :
    close_qwOn (seen ++ [rc]) d = close_qwOn seen d ++ (close_qwAt d rc).toList := by
  rw [close_qwOn_eq, List.filterMap_append, close_qwOn_eq]
  cases h : close_qwAt d rc <;> simp [h]

theorem close_snoc_other (seen : List (Ref × Commit)) {rc : Ref × Commit} {d : Dest} (h : close_refVer rc.1 ≠ some d) :
    close_masterOf (seen ++ [rc]) d = close_masterOf seen d ∧ close_qwOn (seen ++ [rc]) d = close_qwOn seen d := by
  rw [close_masterOf_snoc, close_qwOn_snoc, close_qwAt_eq_none h, if_neg]
  · exact ⟨rfl, List.append_nil _⟩
  · intro he
    exact h (by rw [he]; rfl)

/-- what `_add_branch` does to the entry of the ref's version -/
def close_upd (rc : Ref × Commit) (v : VQ) : VQ :=
  match rc.1 with
  | .q _ => { v with master := some rc.2 }
  | .qw pr _ src => { v with ints := v.ints ++ [⟨pr, src, rc.2⟩] }
  | _ => v

theorem close_upd_d (rc : Ref × Commit) (v : VQ) : (close_upd rc v).d = v.d := by
  obtain ⟨r, t⟩ := rc
  cases r <;> rfl

theorem close_addBranch_eq (c : Coll) (rc : Ref × Commit) : addBranch c rc =
    match close_refVer rc.1 with
    | some d => updateV (addVersion c d) d (close_upd rc)
    | none => c := by
  obtain ⟨r, t⟩ := rc
  cases r <;> rfl

theorem close_snoc_same {seen : List (Ref × Commit)} {rc : Ref × Commit} {v : VQ} (h : close_refVer rc.1 = some v.d)
    (hm : v.master = close_masterOf seen v.d) (hi : v.ints = close_qwOn seen v.d) :
    (close_upd rc v).master = close_masterOf (seen ++ [rc]) v.d ∧
      (close_upd rc v).ints = close_qwOn (seen ++ [rc]) v.d := by
  obtain ⟨r, t⟩ := rc
  rw [close_masterOf_snoc, close_qwOn_snoc]
  cases r with
  | q d =>
    injection h with h
    subst h
    exact ⟨by simp [close_upd], by simpa [close_upd, close_qwAt] using hi⟩
  | qw pr d src =>
    injection h with h
    subst h
    exact ⟨by simpa [close_upd] using hm, by simp [close_upd, close_qwAt, hi]⟩
  | _ => cases h

theorem close_any_keys {c : Coll} {d : Dest} : c.any (fun v => v.d == d) = true ↔ d ∈ keys c := by
  simp [keys]

theorem close_mem_addVersion {c : Coll} {d : Dest} {v : VQ} :
    v ∈ addVersion c d ↔ v ∈ c ∨ (d ∉ keys c ∧ v = ⟨d, none, []⟩) := by
  unfold addVersion
  split
  · rename_i h
    rw [close_any_keys] at h
    exact ⟨Or.inl, fun h' => h'.elim id fun h' => (h'.1 h).elim⟩
  · rename_i h
    rw [close_any_keys] at h
    rw [(qv_pySort_perm _ _).mem_iff, List.mem_append, List.mem_singleton, and_iff_right h]

theorem close_keys_addVersion {c : Coll} {d d' : Dest} :
    d' ∈ keys (addVersion c d) ↔ d' ∈ keys c ∨ d' = d := by
  unfold addVersion
  split
  · rename_i h
    rw [close_any_keys] at h
    exact ⟨Or.inl, fun h' => h'.elim id fun he => he ▸ h⟩
  · simp [keys, (qv_pySort_perm _ _).mem_iff, or_and_right, exists_or, eq_comm]

/-- a version that is not in the collection has not been seen -/
theorem close_addVersion_inv {c : Coll} {seen : List (Ref × Commit)} (h : close_FoldInv c seen) (d : Dest) :
    ∀ v ∈ addVersion c d, v.master = close_masterOf seen v.d ∧ v.ints = close_qwOn seen v.d := by
  intro v hv
  rcases close_mem_addVersion.mp hv with hv | ⟨hd, rfl⟩
  · exact ⟨h.master v hv, h.ints v hv⟩
  · have hno : ∀ rc ∈ seen, close_refVer rc.1 ≠ some d := fun rc hrc he => hd ((h.mem d).mpr ⟨rc, hrc, he⟩)
    constructor
    · symm
      unfold close_masterOf
      rw [List.getLast?_eq_none_iff, List.filterMap_eq_nil_iff]
      intro rc hrc
      exact if_neg fun he => hno rc hrc (by rw [he]; rfl)
    · symm
      rw [close_qwOn_eq, List.filterMap_eq_nil_iff]
      exact fun rc hrc => close_qwAt_eq_none (hno rc hrc)

theorem close_mem_updateV {c : Coll} {d : Dest} {f : VQ → VQ} {v : VQ} :
    v ∈ updateV c d f ↔ ∃ v0 ∈ c, v = if v0.d = d then f v0 else v0 := by
  simp only [updateV, List.mem_map, eq_comm]

theorem close_foldInv_step {c : Coll} {seen : List (Ref × Commit)} (h : close_FoldInv c seen) (rc : Ref × Commit) :
    close_FoldInv (addBranch c rc) (seen ++ [rc]) := by
  have hmem : ∀ d', (∃ x ∈ seen ++ [rc], close_refVer x.1 = some d') ↔ d' ∈ keys c ∨ close_refVer rc.1 = some d' := by
    intro d'
    simp only [List.mem_append, List.mem_singleton, or_and_right, exists_or, exists_eq_left, h.mem d']
  have hnd := qv_keys_addBranch c rc h.nodup
  rw [close_addBranch_eq] at hnd ⊢
  cases hv : close_refVer rc.1 with
  | none =>
    have hoth : ∀ d, close_refVer rc.1 ≠ some d := fun d he => by rw [hv] at he; cases he
    refine ⟨h.nodup, fun d' => ?_, fun v hvc => ?_, fun v hvc => ?_⟩
    · rw [hmem, hv]; simp
    · rw [(close_snoc_other seen (hoth v.d)).1]; exact h.master v hvc
    · rw [(close_snoc_other seen (hoth v.d)).2]; exact h.ints v hvc
  | some d =>
    rw [hv] at hnd
    have hall : ∀ v ∈ updateV (addVersion c d) d (close_upd rc),
        v.master = close_masterOf (seen ++ [rc]) v.d ∧ v.ints = close_qwOn (seen ++ [rc]) v.d := by
      intro v hvm
      obtain ⟨v0, hv0, rfl⟩ := close_mem_updateV.mp hvm
      obtain ⟨hm, hi⟩ := close_addVersion_inv h d v0 hv0
      split
      · rename_i he
        rw [close_upd_d]
        exact close_snoc_same (by rw [hv, he]) hm hi
      · rename_i he
        obtain ⟨h1, h2⟩ := close_snoc_other seen (rc := rc) (d := v0.d)
          (by rw [hv]; exact fun h' => he (Option.some.inj h').symm)
        rw [h1, h2]
        exact ⟨hm, hi⟩
    refine ⟨hnd, fun d' => ?_, fun v hvm => (hall v hvm).1, fun v hvm => (hall v hvm).2⟩
    rw [hmem, hv, qv_keys_updateV _ _ _ (close_upd_d rc), close_keys_addVersion, Option.some.injEq,
      eq_comm (a := d)]

theorem close_foldInv_foldl : ∀ (rs : List (Ref × Commit)) (c : Coll) (seen : List (Ref × Commit)),
    close_FoldInv c seen → close_FoldInv (rs.foldl addBranch c) (seen ++ rs)
  | [], c, seen, h => by simpa using h
  | rc :: rs, c, seen, h => by
    have := close_foldInv_foldl rs _ _ (close_foldInv_step h rc)
    rw [List.append_assoc] at this
    exact this

theorem close_foldInv_qRefs (rs : List (Ref × Commit)) : close_FoldInv (rs.foldl addBranch []) rs := by
  have := close_foldInv_foldl rs [] [] ⟨List.nodup_nil, by simp [keys], by simp, by simp⟩
  simpa using this

theorem close_keyLe_refl (a : Key) : keyLe a a = true := by simp [keyLe]

theorem close_keyLe_trans {a b c : Key} (h1 : keyLe a b = true) (h2 : keyLe b c = true) : keyLe a c = true := by
  unfold keyLe at h2
  rw [Bool.or_eq_true, beq_iff_eq] at h2
  rcases h2 with rfl | h2
  · exact h1
  · exact keyLe_trans_lt h1 h2

/-- `compare_queues`: versions of one (major, minor) compare by length only (stabilization before development, "equal"
    otherwise), the others like their keys -/
theorem close_cmp_eq (a b : Dest) : cmpQueuesLt a b =
    if keyOf a = keyOf b then (verLen a == 3 && verLen b == 2) else keyLt (keyOf a) (keyOf b) := by
  unfold cmpQueuesLt keyLt
  generalize keyOf a = ka
  generalize keyOf b = kb
  obtain ⟨A, oa⟩ := ka
  obtain ⟨B, ob⟩ := kb
  by_cases hAB : A = B
  · subst hAB
    cases oa <;> cases ob <;> simp
  · simp [hAB]

theorem close_cmp_true_le {a b : Dest} (h : cmpQueuesLt a b = true) : keyLe (keyOf a) (keyOf b) = true := by
  rw [close_cmp_eq] at h
  unfold keyLe
  split at h
  · rename_i he
    rw [he, beq_self_eq_true, Bool.true_or]
  · rw [h, Bool.or_true]

theorem close_cmp_false_le {a b : Dest} (h : cmpQueuesLt a b = false) : keyLe (keyOf b) (keyOf a) = true := by
  rw [close_cmp_eq] at h
  unfold keyLe
  split at h
  · rename_i he
    rw [he, beq_self_eq_true, Bool.true_or]
  · rename_i he
    rw [keyLt_total h he, Bool.or_true]

theorem close_cmp_asymm {a b : Dest} (h : cmpQueuesLt a b = true) : cmpQueuesLt b a = false := by
  rw [close_cmp_eq] at h ⊢
  split at h
  · rename_i he
    rw [if_pos he.symm]
    rw [Bool.and_eq_true, beq_iff_eq, beq_iff_eq] at h
    rw [h.1, h.2]
    rfl
  · rename_i he
    rw [if_neg (Ne.symm he)]
    exact keyLt_asymm h

/-- what `_add_branch` maintains of the order of `_queues` (`compare_queues` is not a total order): the keys
    `(major, minor)` never decrease, and no two adjacent versions are in descending order -/
def close_KOrd (K : List Dest) : Prop :=
  K.Pairwise (fun a b => keyLe (keyOf a) (keyOf b) = true) ∧ close_Adj (fun a b => cmpQueuesLt b a = false) K

theorem close_adj_map {α β : Type} {R : β → β → Prop} (f : α → β) : ∀ (l : List α),
    close_Adj R (l.map f) ↔ close_Adj (fun a b => R (f a) (f b)) l
  | [] => Iff.rfl
  | [_] => Iff.rfl
  | a :: b :: r => by
    have ih := close_adj_map (R := R) f (b :: r)
    simp only [List.map_cons] at ih ⊢
    simp only [close_Adj, ih]

theorem close_kord_insert {K1 K2 : List Dest} {d : Dest} (h : close_KOrd (K1 ++ K2))
    (h1 : ∀ a ∈ K1.getLast?, cmpQueuesLt d a = false) (h2 : ∀ b ∈ K2.head?, cmpQueuesLt d b = true) :
    close_KOrd (K1 ++ d :: K2) := by
  obtain ⟨hp, ha⟩ := h
  rw [close_adj_append] at ha
  constructor
  · exact close_pairwise_insert (R := fun a b => keyLe (keyOf a) (keyOf b) = true) (fun _ _ _ => close_keyLe_trans) hp
      (fun a ha => close_cmp_false_le (h1 a ha)) (fun b hb => close_cmp_true_le (h2 b hb))
  · rw [close_adj_append, close_adj_cons]
    refine ⟨ha.1, ⟨fun b hb => close_cmp_asymm (h2 b hb), ha.2.1⟩, fun a ha b hb => ?_⟩
    cases hb
    exact h1 a ha

theorem close_kord_addVersion {c : Coll} (d : Dest) (h : close_KOrd (keys c)) : close_KOrd (keys (addVersion c d)) := by
  unfold addVersion
  split
  · exact h
  · have hadj : close_Adj (fun a b : VQ => cmpQueuesLt b.d a.d = false) c := (close_adj_map VQ.d c).mp h.2
    obtain ⟨l1, l2, rfl, hs, h1, h2⟩ := close_pySort_snoc (fun a b : VQ => cmpQueuesLt a.d b.d) c ⟨d, none, []⟩ hadj
    rw [hs]
    simp only [keys, List.map_append, List.map_cons] at h ⊢
    apply close_kord_insert h
    · simpa [List.getLast?_map] using h1
    · simpa [List.head?_map] using h2

theorem close_kord_addBranch (c : Coll) (rc : Ref × Commit) (h : close_KOrd (keys c)) :
    close_KOrd (keys (addBranch c rc)) := by
  rw [close_addBranch_eq]
  split
  · rw [qv_keys_updateV _ _ _ (close_upd_d rc)]
    exact close_kord_addVersion _ h
  · exact h

theorem close_kord_foldl : ∀ (rs : List (Ref × Commit)) (c : Coll), close_KOrd (keys c) →
    close_KOrd (keys (rs.foldl addBranch c))
  | [], _, h => h
  | rc :: rs, c, h => close_kord_foldl rs _ (close_kord_addBranch c rc h)

theorem close_keys_finalize (g : Graph) (c : Coll) : keys (finalize g c) = keys c := by
  unfold keys finalize
  rw [List.map_map]; rfl

theorem close_build_devOrder (g : Graph) (remote : RefMap) :
    ((keys (build g remote)).filter fun d => verLen d == 2).Pairwise fun a b => a.before b = true := by
  have hk : close_KOrd (keys ((qRefs remote).foldl addBranch [])) :=
    close_kord_foldl _ [] ⟨List.Pairwise.nil, trivial⟩
  have hn := qv_build_nodup g remote
  unfold build at hn ⊢
  rw [close_keys_finalize] at hn ⊢
  have hp := (hk.1.and hn).filter (fun d => verLen d == 2)
  refine hp.imp_of_mem ?_
  intro a b ha hb hab
  have hva := (List.mem_filter.mp ha).2
  have hvb := (List.mem_filter.mp hb).2
  obtain ⟨hle, hne⟩ := hab
  cases a <;> simp [verLen] at hva
  cases b <;> simp [verLen] at hvb
  rename_i M m M' m'
  simp only [keyOf, keyLe, Bool.or_eq_true, beq_iff_eq, Prod.mk.injEq] at hle
  simp only [Dest.before]
  rcases hle with ⟨rfl, rfl⟩ | hlt
  · exact (hne rfl).elim
  · exact hlt

theorem close_mem_qwOn {rs : List (Ref × Commit)} {d : Dest} {x : QInt} :
    x ∈ close_qwOn rs d ↔ (Ref.qw x.pr d x.src, x.tip) ∈ rs := by
  simp only [close_qwOn_eq, List.mem_filterMap, close_qwAt_eq_some, exists_eq_right]

theorem close_qwOn_nodup {rs : List (Ref × Commit)} (d : Dest) (h : (rs.map (·.1)).Nodup) :
    (close_qwOn rs d).Nodup := by
  rw [close_qwOn_eq]
  refine List.Pairwise.filterMap _ (fun a a' hne x hx x' hx' he => ?_) (List.pairwise_map.mp h)
  rw [close_qwAt_eq_some.mp hx, close_qwAt_eq_some.mp hx', he] at hne
  exact hne rfl

def close_rk (s : Sys) (x : QInt) : Nat := (s.queue.map (·.pr)).idxOf x.pr

section
variable {s : Sys} (h : InvV s) (hnt : NoTies s)
include h

theorem close_qw_entry {d : Dest} {x : QInt} (hx : s.remote.get (.qw x.pr d x.src) = some x.tip) :
    ∃ e ∈ s.queue, e.pr = x.pr ∧ e.src = x.src ∧ d ∈ e.targets :=
  h.vx.qwE x.pr d x.src (by rw [hx]; rfl)

def close_Older (s : Sys) (e e' : QEntry) : Prop :=
  (s.queue.map (·.pr)).idxOf e.pr < (s.queue.map (·.pr)).idxOf e'.pr ∧
    ∀ d, d ∈ e.targets → d ∈ e'.targets → ∀ c c', qwOf s.remote e d = some c → qwOf s.remote e' d = some c' →
      s.g.le c c' = true

theorem close_queue_pairwise : s.queue.Pairwise (close_Older s) := by
  have h1 := close_idxOf_pairwise h.inv.q.ids
  rw [List.pairwise_map] at h1
  exact h1.and h.inv.q.base.horiz

include hnt in
/-- on the queue-integration refs of one version commit inclusion is the order of their pull requests in the queue -/
theorem close_ranked {L : List QInt} {d : Dest}
    (hL : ∀ x ∈ L, s.remote.get (.qw x.pr d x.src) = some x.tip) :
    close_Ranked (fun a b : QInt => s.g.le a.tip b.tip) (close_rk s) L := by
  refine ⟨fun a ha b hb => ?_⟩
  have ha := hL a ha
  have hb := hL b hb
  obtain ⟨pa, sa, ta⟩ := a
  obtain ⟨pb, sb, tb⟩ := b
  obtain ⟨ea, hea, rfl, rfl, hda⟩ := h.vx.qwE pa d sa (by rw [ha]; rfl)
  obtain ⟨eb, heb, rfl, rfl, hdb⟩ := h.vx.qwE pb d sb (by rw [hb]; rfl)
  -- the older of two queued pull requests is below the newer one, strictly so without ties
  have strict : ∀ {e e' : QEntry} {c c' : Commit}, close_Older s e e' → d ∈ e.targets → d ∈ e'.targets →
      qwOf s.remote e d = some c → qwOf s.remote e' d = some c' →
      (s.queue.map (·.pr)).idxOf e.pr < (s.queue.map (·.pr)).idxOf e'.pr ∧ s.g.le c c' = true ∧ s.g.le c' c = false := by
    intro e e' c c' hP hd hd' hc hc'
    have hle := hP.2 d hd hd' c c' hc hc'
    refine ⟨hP.1, hle, Bool.eq_false_iff.mpr fun hba => ?_⟩
    have hlt := hP.1
    rw [((close_noTies_iff s).mp hnt e.pr d e.src e'.pr e'.src c c' hc hc' hle hba).1] at hlt
    exact Nat.lt_irrefl _ hlt
  rcases close_pairwise_mem (close_queue_pairwise h) hea heb with rfl | hP | hP
  · rw [ha] at hb
    cases hb
    exact Or.inl rfl
  · exact Or.inr (Or.inl (strict hP hda hdb ha hb))
  · exact Or.inr (Or.inr (strict hP hdb hda hb ha))

theorem close_mem_intsFor {d : Dest} {x : QInt} :
    x ∈ intsFor s d ↔ s.remote.get (.qw x.pr d x.src) = some x.tip := by
  simp only [intsFor, List.mem_filterMap, List.mem_reverse, mem_entriesOn, Option.map_eq_some_iff]
  constructor
  · rintro ⟨e, _, c, hc, rfl⟩
    exact hc
  · intro hx
    obtain ⟨e, he, h1, h2, h3⟩ := close_qw_entry h hx
    exact ⟨e, ⟨he, h3⟩, x.tip, by rw [h1, h2, hx], by rw [h1, h2]⟩

omit h in
theorem close_intsFor_desc (hids : (s.queue.map (·.pr)).Nodup) (d : Dest) :
    (intsFor s d).Pairwise (fun a b => close_rk s b < close_rk s a) := by
  refine List.Pairwise.filterMap _ ?_ (List.pairwise_reverse.mpr
    ((List.pairwise_map.mp (close_idxOf_pairwise hids)).sublist List.filter_sublist))
  intro e e' hee x hx x' hx'
  simp only [Option.map_eq_some_iff] at hx hx'
  obtain ⟨c, _, rfl⟩ := hx
  obtain ⟨c', _, rfl⟩ := hx'
  exact hee

include hnt in
/-- `finalize`: the queue-integration branches of a version, sorted with `__lt__` = commit inclusion, `reverse=True`, are
    the queued pull requests of the version, newest first -/
theorem close_ints_sorted (d : Dest) :
    pySortRev (fun a b : QInt => s.g.le a.tip b.tip) (close_qwOn (qRefs s.remote) d) = intsFor s d := by
  have hmemL : ∀ x, x ∈ close_qwOn (qRefs s.remote) d ↔ s.remote.get (.qw x.pr d x.src) = some x.tip :=
    fun x => (close_mem_qwOn.trans close_mem_qRefs).trans (and_iff_right rfl)
  have hndL := close_qwOn_nodup d (close_qRefs_nodup s.remote)
  have hdesc := close_pySortRev_desc (close_ranked h hnt (fun x hx => (hmemL x).mp hx)) hndL
  have hperm := qv_pySortRev_perm (fun a b : QInt => s.g.le a.tip b.tip) (close_qwOn (qRefs s.remote) d)
  have hdesc' := close_intsFor_desc h.inv.q.ids d
  have hnd' : (intsFor s d).Nodup := hdesc'.imp (fun hab he => by subst he; omega)
  -- both lists are descending in rank and have the same members
  apply close_sorted_perm_eq (R := fun a b => close_rk s b < close_rk s a) (fun a b h1 h2 => by omega) _ hdesc hdesc'
  rw [List.perm_ext_iff_of_nodup (hperm.nodup_iff.mpr hndL) hnd']
  intro x
  rw [hperm.mem_iff, hmemL, close_mem_intsFor h]

end

theorem close_mem_finalize {g : Graph} {c : Coll} {v : VQ} : v ∈ finalize g c ↔
    ∃ v0 ∈ c, v = { v0 with ints := pySortRev (fun a b => g.le a.tip b.tip) v0.ints } := by
  simp only [finalize, List.mem_map, eq_comm]

theorem close_masterOf_qRefs (remote : RefMap) (d : Dest) :
    close_masterOf (qRefs remote) d = remote.get (.q d) := by
  unfold close_masterOf
  generalize hl : (qRefs remote).filterMap (fun rc => if rc.1 = .q d then some rc.2 else none) = l
  -- the list holds the tip of `q/<d>`, if there is one, and nothing else
  have hmem : ∀ t, t ∈ l ↔ remote.get (.q d) = some t := by
    intro t
    rw [← hl, List.mem_filterMap]
    constructor
    · rintro ⟨⟨r, t'⟩, hrc, he⟩
      split at he
      · rename_i hr
        cases he
        cases hr
        exact (close_mem_qRefs.mp hrc).2
      · cases he
    · exact fun ht => ⟨(.q d, t), close_mem_qRefs.mpr ⟨rfl, ht⟩, if_pos rfl⟩
  cases hg : l.getLast? with
  | none =>
    rw [List.getLast?_eq_none_iff.mp hg] at hmem
    cases hq : remote.get (.q d) with
    | none => rfl
    | some t => cases (hmem t).mpr hq
  | some t => exact ((hmem t).mp (List.mem_of_getLast? hg)).symm

theorem close_build_matches {s : Sys} (h : InvV s) (hnt : NoTies s) :
    CollMatches s (BertE.QV.build s.g s.remote) := by
  have hF := close_foldInv_qRefs (qRefs s.remote)
  refine ⟨qv_build_nodup _ _, fun d => ?_, fun v hv => ?_, fun v hv => ?_, close_build_devOrder _ _⟩
  · unfold build
    rw [close_keys_finalize, hF.mem d]
    constructor
    · -- a `q/w/` ref belongs to a queued pull request, whose targets have their queue branches
      rintro ⟨⟨r, t⟩, hrc, he⟩
      have hget := (close_mem_qRefs.mp hrc).2
      cases r <;> cases he
      · rw [hget]
        rfl
      · obtain ⟨e, hee, _, _, hd⟩ := h.vx.qwE _ _ _ (by rw [hget]; rfl)
        exact h.inv.q.qhas e hee _ hd
    · intro hd
      obtain ⟨t, hg⟩ := Option.isSome_iff_exists.mp hd
      exact ⟨(.q d, t), close_mem_qRefs.mpr ⟨rfl, hg⟩, rfl⟩
  · obtain ⟨v0, hv0, rfl⟩ := close_mem_finalize.mp hv
    exact (hF.master v0 hv0).trans (close_masterOf_qRefs _ _)
  · obtain ⟨v0, hv0, rfl⟩ := close_mem_finalize.mp hv
    show pySortRev _ v0.ints = _
    rw [hF.ints v0 hv0]
    exact close_ints_sorted h hnt v0.d

/-- `compare_queues` is not a total order: a stabilization queue added after a hotfix queue of the same (major, minor)
    stays behind the development queue; `_add_branch` maintains no more than `close_KOrd` -/
example : keys ([(Ref.q (.dev 5 (some 1)), 0), (Ref.q (.hotfix 5 1 0), 0), (Ref.q (.stab 5 1 1), 0)].foldl addBranch [])
    = [.dev 5 (some 1), .hotfix 5 1 0, .stab 5 1 1] := by decide +kernel

end BertE.Close
