import BertE.Model.Approvals
import BertE.Model.ApprovalsSpec
/- The list-coded sets of the model, the counting lemma, and the reduction of
   `checkApprovals` to a decision on a handful of booleans and cardinalities. -/
namespace BertE.Approvals

theorem mem_setAdd {s : List User} {a u : User} : u ∈ setAdd s a ↔ u = a ∨ u ∈ s := by
  unfold setAdd
  split
  · next h => exact ⟨Or.inr, fun hu => hu.elim (fun e => e ▸ h) id⟩
  · exact List.mem_cons

theorem nodup_setAdd {s : List User} {a : User} (hs : s.Nodup) : (setAdd s a).Nodup := by
  unfold setAdd
  split
  · exact hs
  · next h => exact List.nodup_cons.mpr ⟨h, hs⟩

theorem toSet_cons (a : User) (l : List User) : toSet (a :: l) = setAdd (toSet l) a := rfl

theorem mem_toSet {u : User} : ∀ {l : List User}, u ∈ toSet l ↔ u ∈ l
  | [] => Iff.rfl
  | a :: l => by rw [toSet_cons, mem_setAdd, mem_toSet, List.mem_cons]

theorem nodup_toSet : ∀ l : List User, (toSet l).Nodup
  | [] => List.nodup_nil
  | _ :: l => nodup_setAdd (nodup_toSet l)

theorem toSet_eq_nil {l : List User} : toSet l = [] ↔ ∀ u, u ∉ l := by
  simp only [List.eq_nil_iff_forall_not_mem, mem_toSet]

theorem mem_setRemove {s : List User} {a u : User} : u ∈ setRemove s a ↔ u ∈ s ∧ u ≠ a := by
  simp [setRemove]

theorem setSubset_iff {s t : List User} : setSubset s t = true ↔ ∀ u ∈ s, u ∈ t := by
  simp [setSubset]

theorem atLeast_iff {S : List User} (hS : S.Nodup) (p : User → Bool) (n : Int) (P : User → Prop)
    (hP : ∀ u, P u ↔ (u ∈ S ∧ p u = true)) :
    Spec.atLeast n P ↔ n ≤ ((S.filter p).length : Int) := by
  constructor
  · rintro ⟨l, hl, hall, hn⟩
    have hsub : l ⊆ S.filter p := fun u hu => List.mem_filter.mpr ((hP u).mp (hall u hu))
    have := List.Nodup.length_le_of_subset hl hsub
    omega
  · intro hn
    exact ⟨S.filter p, hS.filter p, fun u hu => (hP u).mpr (List.mem_filter.mp hu), hn⟩

theorem atLeast_of_nonpos {n : Int} (P : User → Prop) (h : n ≤ 0) : Spec.atLeast n P :=
  ⟨[], List.nodup_nil, by simp, by simpa using h⟩

theorem length_filter_setAdd (s : List User) (a : User) (p : User → Bool) :
    (((setAdd s a).filter p).length : Int) =
      ((s.filter p).length : Int) + (if p a && !s.contains a then 1 else 0) := by
  unfold setAdd
  by_cases h : a ∈ s
  · simp [h]
  · cases hp : p a <;> simp [h, hp]

/-- `approvals` as `check_approvals` computes it: `set(get_approvals())`, plus the author under `approve` -/
def approvalSet (c : Cfg) (i : Input) : List User :=
  if c.approve then setAdd (toSet i.approvals) i.author else toSet i.approvals

theorem mem_approvalSet {c : Cfg} {i : Input} {u : User} :
    u ∈ approvalSet c i ↔ Spec.approves c i u := by
  unfold approvalSet Spec.approves
  split
  · next h => rw [mem_setAdd, mem_toSet, or_comm]; simp [h]
  · next h => rw [mem_toSet]; simp [h]

theorem nodup_approvalSet (c : Cfg) (i : Input) : (approvalSet c i).Nodup := by
  unfold approvalSet
  split
  · exact nodup_setAdd (nodup_toSet _)
  · exact nodup_toSet _

/-- The decision of `check_approvals` once the sets have been measured:
    `au` = author ∈ approvals, `un` = participants ⊆ approvals, `np` = |approvals ∖ {author}|,
    `nl` = |approvals ∩ leaders|, `la` = the author is a leader and has not approved, `cr` = |change requests|. -/
def core (need ba ap bp bl unan au un la : Bool) (rp rl np nl : Int) (cr : Nat) : Bool :=
  let cp₀ : Int := if bp then rp else 0
  let cl₀ : Int := if bl then rl else 0
  let a₀ := !need || ba || ap
  if a₀ && decide (cp₀ ≥ rp) && decide (cl₀ ≥ rl) && !unan then true
  else
    let cl := if la then cl₀ + nl + 1 else cl₀ + nl
    if !(a₀ || au) || decide (rl - cl > 0) || decide (rp - (cp₀ + np) > 0)
      || (unan && !un) || decide (cr > 0) then false
    else true

private theorem ite_ite_bool {α : Type} (b1 b2 : Bool) (x y : α) :
    (if b1 = true then x else if b2 = true then y else x) =
      if (if b1 = true then true else if b2 = true then false else true) = true then x else y := by
  cases b1 <;> cases b2 <;> rfl

theorem checkApprovals_eq_core (c : Cfg) (i : Input) :
    checkApprovals c i =
      if core c.needAuthor (bypassAuthor c) c.approve (bypassPeer c) (bypassLeader c) c.unanimity
        ((approvalSet c i).contains i.author)
        (setSubset (setRemove (toSet i.participants) c.robot) (setRemove (approvalSet c i) c.robot))
        ((toSet c.projectLeaders).contains i.author && !(approvalSet c i).contains i.author)
        c.requiredPeers c.requiredLeaders
        ((setRemove (approvalSet c i) i.author).length : Int)
        ((setInter (approvalSet c i) (toSet c.projectLeaders)).length : Int)
        (toSet i.changeRequests).length = true
      then .pass else .approvalRequired (toSet i.changeRequests) := by
  unfold checkApprovals core approvalSet
  exact ite_ite_bool _ _ _ _

private theorem ite_true_ite_false (c d : Bool) :
    (if c = true then true else if d = true then false else true) = true ↔ c = true ∨ d = false := by
  cases c <;> cases d <;> simp

/-- `if b then r else 0`: the counter pre-loaded with the requirement under a bypass -/
private theorem preload_ge (b : Bool) (r : Int) : (if b = true then r else 0) ≥ r ↔ b = true ∨ r ≤ 0 := by
  cases b <;> simp

private theorem preload_add_ge (b : Bool) (r : Int) {n : Int} (hn : 0 ≤ n) :
    ¬ r - ((if b = true then r else 0) + n) > 0 ↔ b = true ∨ r ≤ n := by
  cases b <;> simp <;> omega

/-- `hap`: under `approve` the author is in the approvals set. `core` accepts on the early test (every requirement waived) or when none of the five refusal tests fires;
    the early test implies the first four clauses, since the counts are not negative. -/
theorem core_iff (need ba ap bp bl unan au un la : Bool) (rp rl np nl : Int) (cr : Nat)
    (hap : ap = true → au = true) (hnp : 0 ≤ np) (hnl : 0 ≤ nl) :
    core need ba ap bp bl unan au un la rp rl np nl cr = true ↔
      ((au = true ∨ need = false ∨ ba = true) ∧
       (bp = true ∨ rp ≤ np) ∧
       (bl = true ∨ rl ≤ nl + (if la = true then 1 else 0)) ∧
       (unan = true → un = true) ∧
       (cr = 0 ∨ ((need = false ∨ ba = true ∨ ap = true) ∧ (bp = true ∨ rp ≤ 0) ∧
                  (bl = true ∨ rl ≤ 0) ∧ unan = false))) := by
  have hla : (if la = true then (if bl = true then rl else 0) + nl + 1 else (if bl = true then rl else 0) + nl)
      = (if bl = true then rl else 0) + (nl + if la = true then 1 else 0) := by
    cases la <;> simp <;> omega
  have hnl' : 0 ≤ nl + if la = true then 1 else 0 := by cases la <;> simp <;> omega
  have hA : need = false ∨ ba = true ∨ ap = true ∨ au = true ↔ au = true ∨ need = false ∨ ba = true := by
    rw [or_iff_right_of_imp hap]; exact or_rotate.symm
  unfold core
  rw [ite_true_ite_false, hla]
  simp only [Bool.and_eq_true, Bool.or_eq_true, Bool.or_eq_false_iff, Bool.not_eq_true', Bool.not_eq_false',
    Bool.and_eq_false_imp, decide_eq_true_eq, decide_eq_false_iff_not, preload_ge, preload_add_ge _ _ hnp,
    preload_add_ge _ _ hnl', gt_iff_lt, Nat.pos_iff_ne_zero, Decidable.not_not, and_assoc, or_assoc, hA]
  constructor
  · rintro (⟨a, p, l, u⟩ | ⟨a, l, p, u, c⟩)
    · exact ⟨hA.mp (a.imp_right (Or.imp_right Or.inl)), p.imp_right fun h => by omega,
        l.imp_right fun h => by omega, by simp [u], Or.inr ⟨a, p, l, u⟩⟩
    · exact ⟨a, p, l, u, Or.inl c⟩
  · rintro ⟨a, p, l, u, c | w⟩
    · exact Or.inr ⟨a, l, p, u, c⟩
    · exact Or.inl w

end BertE.Approvals
