import BertE.Model.Dispatcher
/- The dispatcher transition system: inversion of one step, the queue and the program counters along a trace,
   the worker's statement lists. -/
namespace BertE.Dispatcher

variable {cfg : Cfg}

theorem run_cons {s : State} {a : Act} {tr : List Act} {s' : State} (h : run cfg s (a :: tr) = some s') :
    ∃ s1, step cfg s a = some s1 ∧ run cfg s1 tr = some s' := by
  simp only [run] at h
  cases hs : step cfg s a with
  | none => rw [hs] at h; cases h
  | some s1 => rw [hs] at h; exact ⟨s1, rfl, h⟩

theorem run_append {s : State} {tr1 tr2 : List Act} {s' : State} (h : run cfg s (tr1 ++ tr2) = some s') :
    ∃ s1, run cfg s tr1 = some s1 ∧ run cfg s1 tr2 = some s' := by
  induction tr1 generalizing s with
  | nil => exact ⟨s, rfl, h⟩
  | cons a tr ih =>
    obtain ⟨s1, h1, h2⟩ := run_cons (tr := tr ++ tr2) h
    obtain ⟨s2, h3, h4⟩ := ih h2
    exact ⟨s2, by simp only [run, h1, h3], h4⟩

theorem run_inv {P : State → Prop} {tr : List Act}
    (hstep : ∀ a ∈ tr, ∀ s s', P s → step cfg s a = some s' → P s') :
    ∀ {s st : State}, P s → run cfg s tr = some st → P st := by
  induction tr with
  | nil => intro s st hp hr; cases hr; exact hp
  | cons a tr ih =>
    intro s st hp hr
    obtain ⟨s1, h1, h2⟩ := run_cons hr
    exact ih (fun a' ha' => hstep a' (List.mem_cons_of_mem _ ha')) (hstep a List.mem_cons_self s s1 hp h1) h2

theorem step_some {s s' : State} {a : Act} (h : step cfg s a = some s') :
    match (generalizing := false) a with
    | .accept t j => s.pc t = .idle ∧ j.id = s.next ∧ s' = { setPc s t (.accepted j) with next := s.next + 1 }
    | .check t b => ∃ j, s.pc t = .accepted j ∧ found cfg s j = b ∧ s' = setPc s t (.checked j b)
    | .checkFail t => (∃ j, s.pc t = .accepted j) ∧ s' = setPc s t .idle
    | .put t j => s.pc t = .checked j false ∧ s' = { setPc s t .idle with pending := s.pending ++ [j] }
    | .skip t j => s.pc t = .checked j true ∧ s' = setPc s t .idle
    | .get j => ∃ rest, s.pending = j :: rest ∧
        s' = { s with pending := rest, current := some j, worker := .running j }
    | .finish out => ∃ j, s.worker = .running j ∧
        s' = { s with current := (finishWS cfg j out ⟨s.current, s.done, "", none⟩).current,
                      done := (finishWS cfg j out ⟨s.current, s.done, "", none⟩).done,
                      worker := if (finishWS cfg j out ⟨s.current, s.done, "", none⟩).exc.isSome then .dead
                                else .idle } := by
  cases a <;> simp only [step] at h <;> split at h <;>
    simp only [Option.ite_none_right_eq_some, Option.some.injEq, reduceCtorEq] at h
  · rename_i hpc; exact ⟨hpc, h.1, h.2.symm⟩
  · rename_i j hpc; exact ⟨j, hpc, h.1, h.2.symm⟩
  · rename_i j hpc; exact ⟨⟨j, hpc⟩, h.symm⟩
  · rename_i j' hpc; obtain ⟨rfl, h⟩ := h; exact ⟨hpc, h.symm⟩
  · rename_i j' hpc; obtain ⟨rfl, h⟩ := h; exact ⟨hpc, h.symm⟩
  · rename_i j' rest _ hp; obtain ⟨rfl, h⟩ := h; exact ⟨rest, hp, h.symm⟩
  · rename_i j hw; exact ⟨j, hw, h.symm⟩

theorem step_thread {s s' : State} {a : Act} {t : Nat} (h : step cfg s a = some s') (ht : a.thread? = some t) :
    ∃ p q n, s' = { setPc s t p with pending := q, next := n } := by
  have hs := step_some h
  cases a <;> simp only [Act.thread?, Option.some.injEq, reduceCtorEq] at ht <;> subst ht
  · exact ⟨_, _, _, hs.2.2⟩
  · obtain ⟨_, _, _, hs⟩ := hs; exact ⟨_, _, _, hs⟩
  · exact ⟨_, _, _, hs.2⟩
  · exact ⟨_, _, _, hs.2⟩
  · exact ⟨_, _, _, hs.2⟩

theorem step_worker_pc {s s' : State} {a : Act} (h : step cfg s a = some s') (ht : a.thread? = none) :
    s'.pc = s.pc := by
  have hs := step_some h
  cases a <;> simp only [Act.thread?, reduceCtorEq] at ht
  · obtain ⟨_, _, rfl⟩ := hs; rfl
  · obtain ⟨_, _, rfl⟩ := hs; rfl

theorem putsOf_cons (a : Act) (tr : List Act) : putsOf (a :: tr) = putsOf [a] ++ putsOf tr := by
  cases a <;> rfl

theorem getsOf_cons (a : Act) (tr : List Act) : getsOf (a :: tr) = getsOf [a] ++ getsOf tr := by
  cases a <;> rfl

theorem step_pending {s s' : State} {a : Act} (h : step cfg s a = some s') :
    s.pending ++ putsOf [a] = getsOf [a] ++ s'.pending := by
  have hs := step_some h
  cases a <;> simp only [putsOf, getsOf, List.append_nil, List.nil_append]
  · rw [hs.2.2]; rfl
  · obtain ⟨_, _, _, rfl⟩ := hs; rfl
  · rw [hs.2]; rfl
  · rw [hs.2]
  · rw [hs.2]; rfl
  · obtain ⟨rest, hp, rfl⟩ := hs; exact hp
  · obtain ⟨_, _, rfl⟩ := hs; rfl

theorem pending_persist {s s' : State} {tr : List Act} (h : run cfg s tr = some s') {j : Job}
    (hj : j ∈ s.pending) : (∃ m : Nat, tr[m]? = some (Act.get j)) ∨ j ∈ s'.pending := by
  induction tr generalizing s with
  | nil => simp only [run] at h; cases h; exact Or.inr hj
  | cons a tr ih =>
    obtain ⟨s1, h1, h2⟩ := run_cons h
    have hnext : j ∈ getsOf [a] ++ s1.pending := step_pending h1 ▸ List.mem_append_left _ hj
    rcases List.mem_append.mp hnext with hg | hj1
    · have : a = .get j := by cases a <;> simp_all [getsOf]
      exact Or.inl ⟨0, by rw [this]; rfl⟩
    · rcases ih h2 hj1 with ⟨m, hm⟩ | hm
      · exact Or.inl ⟨m + 1, by simpa using hm⟩
      · exact Or.inr hm

theorem step_pc_other {s s' : State} {a : Act} (h : step cfg s a = some s') {t : Nat}
    (ht : a.thread? ≠ some t) : s'.pc t = s.pc t := by
  cases hta : a.thread? with
  | none => rw [step_worker_pc h hta]
  | some t' =>
    obtain ⟨p, q, n, rfl⟩ := step_thread h hta
    have : t ≠ t' := fun e => ht (by rw [hta, e])
    simp [setPc, this]

theorem step_thread_checked {s s' : State} {a : Act} (h : step cfg s a = some s') {t : Nat} {j : Job} {b : Bool}
    (ht : a.thread? = some t) (hc : s'.pc t = .checked j b) :
    a = .check t b ∧ s.pc t = .accepted j ∧ found cfg s j = b ∧ s'.pending = s.pending := by
  have hs := step_some h
  cases a <;> simp only [Act.thread?, Option.some.injEq, reduceCtorEq] at ht <;> subst ht
  · rw [hs.2.2] at hc; simp [setPc] at hc
  · obtain ⟨j', hpc, hf, rfl⟩ := hs
    simp only [setPc, if_true, PC.checked.injEq] at hc
    obtain ⟨rfl, rfl⟩ := hc
    exact ⟨rfl, hpc, hf, rfl⟩
  · rw [hs.2] at hc; simp [setPc] at hc
  · rw [hs.2] at hc; simp [setPc] at hc
  · rw [hs.2] at hc; simp [setPc] at hc

theorem fifo_law {s s' : State} {tr : List Act} (h : run cfg s tr = some s') :
    s.pending ++ putsOf tr = getsOf tr ++ s'.pending := by
  induction tr generalizing s with
  | nil => simp only [run] at h; cases h; simp [putsOf, getsOf]
  | cons a tr ih =>
    obtain ⟨s1, h1, h2⟩ := run_cons h
    rw [putsOf_cons, getsOf_cons, ← List.append_assoc, step_pending h1, List.append_assoc, ih h2,
      List.append_assoc]

/-- statements that touch what the worker's bookkeeping is about -/
def Op.eff : Op → Bool
  | .process | .appendDone | .popCurrent => true
  | _ => false

theorem execOp_not_eff (j : Job) (out : Out) (ws : WS) {op : Op} (h : op.eff = false) :
    execOp cfg j out ws op = ws := by
  cases op <;> simp_all [Op.eff, execOp]

theorem execOps_filter (j : Job) (out : Out) (ops : List Op) (ws : WS) (hws : ws.exc = none) :
    execOps cfg j out ws ops = execOps cfg j out ws (ops.filter Op.eff) := by
  induction ops generalizing ws with
  | nil => rfl
  | cons op rest ih =>
    cases he : op.eff with
    | false =>
      simp only [List.filter, he, execOps, execOp_not_eff j out ws he, hws, Option.isSome_none,
        Bool.false_eq_true, if_false]
      exact ih ws hws
    | true =>
      simp only [List.filter, he, execOps]
      cases hx : (execOp cfg j out ws op).exc with
      | some e => simp
      | none => simp only [Option.isSome_none, Bool.false_eq_true, if_false]; exact ih _ hx

/-- the same for a handler body, where `set_status` counts -/
def Op.effH : Op → Bool
  | .nop => false
  | _ => true

theorem execHandler_filter (j : Job) (out : Out) (cls : String) (ops : List Op) (ws : WS) (hws : ws.exc = none) :
    execHandler cfg j out cls ws ops = execHandler cfg j out cls ws (ops.filter Op.effH) := by
  induction ops generalizing ws with
  | nil => rfl
  | cons op rest ih =>
    cases he : op.effH with
    | false =>
      have hop : op = .nop := by cases op <;> simp_all [Op.effH]
      subst hop
      simp only [List.filter, he, execHandler, execOp, hws, Option.isSome_none,
        Bool.false_eq_true, if_false, reduceCtorEq]
      exact ih ws hws
    | true =>
      simp only [List.filter, he, execHandler]
      generalize (if op = Op.setStatus then { ws with status := cls } else execOp cfg j out ws op) = ws'
      cases hx : ws'.exc with
      | some e => simp
      | none => simp only [Option.isSome_none, Bool.false_eq_true, if_false]; exact ih _ hx

end BertE.Dispatcher
