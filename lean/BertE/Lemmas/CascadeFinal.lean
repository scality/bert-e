import BertE.Lemmas.CascadeTags
/- Phase 4: the loop of `finalize`, `_set_target_versions` and `validate` on a sorted cascade. -/
namespace BertE.Cascade
open Spec

/-- `if stb_branch: dev_branch.has_stabilization = True` -/
def markB (s : BranchSet) (d : DevB) : DevB := if s.stb.isSome then d.markStab else d

def stbName (s : BranchSet) : List String := (s.stb.map (·.toBranch.name)).toList
def stbBranch (s : BranchSet) : List Branch := (s.stb.map (·.toBranch)).toList

theorem markB_toBranch (s : BranchSet) (d : DevB) : (markB s d).toBranch = d.toBranch := by
  unfold markB; split <;> rfl

theorem eqDev_iff {dst : Branch} {d : DevB} : eqDev dst (some d) = true ↔ dst = d.toBranch := by
  cases dst with
  | dev M m =>
    simp only [eqDev, decide_eq_true_eq, DevB.toBranch, Branch.dev.injEq]
    exact ⟨fun h => ⟨h.1.symm, h.2.symm⟩, fun h => ⟨h.1.symm, h.2.symm⟩⟩
  | stab M m u => simp [eqDev, DevB.toBranch]
  | hotfix M m u => simp [eqDev, DevB.toBranch]

theorem eqStb_iff {dst : Branch} {s : StabB} : eqStb dst (some s) = true ↔ dst = s.toBranch := by
  cases dst with
  | stab M m u =>
    simp only [eqStb, decide_eq_true_eq, StabB.toBranch, Branch.stab.injEq]
    exact ⟨fun h => ⟨h.1.symm, h.2.1.symm, h.2.2.symm⟩, fun h => ⟨h.1.symm, h.2.1.symm, h.2.2.symm⟩⟩
  | dev M m => simp [eqStb, StabB.toBranch]
  | hotfix M m u => simp [eqStb, StabB.toBranch]

/-- one iteration when the destination is not a hotfix branch (then no hotfix branch is in the cascade) -/
theorem finStep_N {dst : Branch} (hN : dst.isHotfix = false) (st : FinSt) (p : Key × BranchSet) (d : DevB)
    (hd : p.2.dev = some d) (hhf : p.2.hf = none) :
    finStep dst st p =
      (let d' := markB p.2 d
       let f1 := eqDev dst (some d')
       let f2 := eqStb dst p.2.stb
       let inc := st.includeDev || f1 || f2
       let ign := st.ignoreStb || f1
       let drop1 := p.2.stb.isSome && ign
       if !inc then
         .ok ⟨st.kept, ign || f2, inc, some d',
              st.ignored ++ (if drop1 then stbName p.2 else []) ++ [d.toBranch.name]
                ++ (if drop1 then [] else stbName p.2), st.dsts⟩
       else
         .ok ⟨st.kept ++ [(p.1, ⟨some d', if drop1 then none else p.2.stb, none⟩)], ign || f2, inc, some d',
              st.ignored ++ (if drop1 then stbName p.2 else []),
              st.dsts ++ (if drop1 then [] else stbBranch p.2) ++ [d.toBranch]⟩) := by
  obtain ⟨k, dev, stb, hf⟩ := p
  simp only at hd hhf
  subst hd hhf
  cases stb with
  | none =>
    simp only [finStep, hN, markB, stbName, stbBranch, Option.isSome_none, Option.isSome_some, Option.map_some,
      Option.map_none, Bool.false_eq_true, if_false, if_true, Bool.false_and, Option.toList_none]
    cases st.includeDev <;> cases eqDev dst (some d) <;> cases eqStb dst none <;> simp
  | some s =>
    simp only [finStep, hN, markB, stbName, stbBranch, Option.isSome_some, Option.map_some,
      Option.map_none, if_true, Bool.true_and, Option.toList_some]
    have hb : d.markStab.toBranch = d.toBranch := rfl
    cases st.includeDev <;> cases st.ignoreStb <;> cases eqDev dst (some d.markStab) <;>
      cases eqStb dst (some s) <;> simp [hb]

/-- what an untargeted earlier line contributes to the ignored list -/
def namesAll (p : Key × BranchSet) : List String :=
  (p.2.dev.map (·.toBranch.name)).toList ++ stbName p.2

def devBranch (p : Key × BranchSet) : List Branch := (p.2.dev.map (·.toBranch)).toList

/-- a targeted later line: its stabilization branch is dropped -/
def strip (p : Key × BranchSet) : Key × BranchSet := (p.1, ⟨p.2.dev.map (markB p.2), none, none⟩)

structure PreOK (dst : Branch) (p : Key × BranchSet) : Prop where
  dev : p.2.dev.isSome
  hf : p.2.hf = none
  nd : ∀ d, p.2.dev = some d → eqDev dst (some (markB p.2 d)) = false
  ns : eqStb dst p.2.stb = false

theorem finLoop_pre {dst : Branch} (hN : dst.isHotfix = false) (rest : Cascade) :
    ∀ (pre : Cascade) (st : FinSt), st.includeDev = false → st.ignoreStb = false →
      (∀ p ∈ pre, PreOK dst p) →
      ∃ ld, finLoop dst st (pre ++ rest) =
        finLoop dst ⟨st.kept, false, false, ld, st.ignored ++ pre.flatMap namesAll, st.dsts⟩ rest := by
  intro pre
  induction pre with
  | nil =>
    intro st h1 h2 _
    refine ⟨st.lastDev, ?_⟩
    obtain ⟨a, b, c, d, e, f⟩ := st
    simp only at h1 h2
    subst h1 h2
    simp
  | cons p pre ih =>
    intro st h1 h2 hp
    have hp0 := hp p List.mem_cons_self
    obtain ⟨d, hd⟩ := Option.isSome_iff_exists.mp hp0.dev
    simp only [List.cons_append, finLoop]
    rw [finStep_N hN st p d hd hp0.hf]
    simp only [h1, h2, hp0.nd d hd, hp0.ns, Bool.or_false, Bool.and_false, Bool.not_false, if_true,
      Bool.false_eq_true, if_false, List.append_nil]
    obtain ⟨ld, hld⟩ := ih ⟨st.kept, false, false, some (markB p.2 d), st.ignored ++ [d.toBranch.name] ++ stbName p.2,
      st.dsts⟩ rfl rfl (fun q hq => hp q (List.mem_cons_of_mem _ hq))
    refine ⟨ld, ?_⟩
    rw [hld]
    simp [namesAll, hd, List.append_assoc]

theorem finLoop_post {dst : Branch} (hN : dst.isHotfix = false) :
    ∀ (post : Cascade) (st : FinSt), st.includeDev = true → st.ignoreStb = true → st.lastDev.isSome →
      (∀ p ∈ post, p.2.dev.isSome ∧ p.2.hf = none) →
      ∃ ld, ld.isSome ∧ finLoop dst st post =
        .ok ⟨st.kept ++ post.map strip, true, true, ld, st.ignored ++ post.flatMap (fun p => stbName p.2),
             st.dsts ++ post.flatMap devBranch⟩ := by
  intro post
  induction post with
  | nil =>
    intro st h1 h2 h3 _
    refine ⟨st.lastDev, h3, ?_⟩
    obtain ⟨a, b, c, d, e, f⟩ := st
    simp only at h1 h2
    subst h1 h2
    simp [finLoop]
  | cons p post ih =>
    intro st h1 h2 h3 hp
    obtain ⟨hdv, hhf⟩ := hp p List.mem_cons_self
    obtain ⟨d, hd⟩ := Option.isSome_iff_exists.mp hdv
    simp only [finLoop]
    rw [finStep_N hN st p d hd hhf]
    simp only [h1, h2, Bool.true_or, Bool.not_true, Bool.false_eq_true, if_false, Bool.and_true]
    obtain ⟨ld, hld1, hld⟩ := ih ⟨st.kept ++ [(p.1, ⟨some (markB p.2 d), if p.2.stb.isSome then none else p.2.stb, none⟩)],
      true, true, some (markB p.2 d), st.ignored ++ (if p.2.stb.isSome then stbName p.2 else []),
      st.dsts ++ (if p.2.stb.isSome then [] else stbBranch p.2) ++ [d.toBranch]⟩ rfl rfl rfl
      (fun q hq => hp q (List.mem_cons_of_mem _ hq))
    refine ⟨ld, hld1, ?_⟩
    rw [hld]
    cases hs : p.2.stb <;>
      simp [strip, hd, hs, stbName, stbBranch, devBranch, List.append_assoc]

theorem finLoop_err_N {dst : Branch} (hN : dst.isHotfix = false) :
    ∀ (c : Cascade) (st : FinSt), (∀ p ∈ c, p.2.hf = none) → (∃ p ∈ c, p.2.dev = none) →
      finLoop dst st c = .error .devBranchDoesNotExist := by
  intro c
  induction c with
  | nil => intro st _ ⟨p, hp, _⟩; cases hp
  | cons p c ih =>
    intro st hhf hex
    simp only [finLoop]
    cases hd : p.2.dev with
    | none =>
      have : finStep dst st p = .error .devBranchDoesNotExist := by
        simp [finStep, hd, hhf p List.mem_cons_self]
      rw [this]
    | some d =>
      obtain ⟨st', hst'⟩ : ∃ st', finStep dst st p = .ok st' := by
        rw [finStep_N hN st p d hd (hhf p List.mem_cons_self)]
        simp only []
        split <;> exact ⟨_, rfl⟩
      rw [hst']
      have hex' : ∃ q ∈ c, q.2.dev = none := by
        obtain ⟨q, hq, hqd⟩ := hex
        rcases List.mem_cons.mp hq with rfl | hq
        · rw [hd] at hqd; cases hqd
        · exact ⟨q, hq, hqd⟩
      have hhf' : ∀ q ∈ c, q.2.hf = none := fun q hq => hhf q (List.mem_cons_of_mem _ hq)
      exact ih _ hhf' hex'

def st0 : FinSt := ⟨[], false, false, none, [], []⟩

/-- the two failures of one iteration -/
def hErr (p : Key × BranchSet) : Option Err :=
  if p.2.dev.isNone && p.2.hf.isNone then some .devBranchDoesNotExist
  else if p.2.stb.isSome && p.2.dev.isNone then some .attributeError
  else none

def keptH (p : Key × BranchSet) : List (Key × BranchSet) :=
  (p.2.hf.map fun h => (p.1, (⟨none, none, some h⟩ : BranchSet))).toList

def hfBranch (p : Key × BranchSet) : List Branch := (p.2.hf.map (·.toBranch)).toList

def namesH (p : Key × BranchSet) : List String :=
  stbName p.2 ++ (p.2.dev.map (·.toBranch.name)).toList

theorem finStep_H {dst : Branch} (hH : dst.isHotfix = true) (st : FinSt) (p : Key × BranchSet)
    (hdst : ∀ h, p.2.hf = some h → h.toBranch = dst) :
    finStep dst st p =
      match hErr p with
      | some e => .error e
      | none => .ok ⟨st.kept ++ keptH p, st.ignoreStb, st.includeDev,
                     if p.2.stb.isSome then p.2.dev.map DevB.markStab else p.2.dev,
                     st.ignored ++ namesH p, st.dsts ++ hfBranch p⟩ := by
  obtain ⟨k, dev, stb, hf⟩ := p
  have e1 : ∀ x, eqDev dst x = false := by
    intro x; cases dst <;> simp_all [Branch.isHotfix, eqDev]
  have e2 : ∀ x, eqStb dst x = false := by
    intro x; cases dst <;> simp_all [Branch.isHotfix, eqStb]
  have hb : ∀ d : DevB, d.markStab.toBranch = d.toBranch := fun _ => rfl
  cases dev <;> cases stb <;> cases hf <;>
    simp [finStep, hErr, hH, e1, e2, keptH, hfBranch, namesH, stbName, hb] <;>
    simp_all

theorem finLoop_H_ok {dst : Branch} (hH : dst.isHotfix = true) :
    ∀ (c : Cascade) (st : FinSt), (∀ p ∈ c, hErr p = none) → (∀ p ∈ c, ∀ h, p.2.hf = some h → h.toBranch = dst) →
      ∃ ld, finLoop dst st c =
        .ok ⟨st.kept ++ c.flatMap keptH, st.ignoreStb, st.includeDev, ld, st.ignored ++ c.flatMap namesH,
             st.dsts ++ c.flatMap hfBranch⟩ := by
  intro c
  induction c with
  | nil => intro st _ _; exact ⟨st.lastDev, by simp [finLoop]⟩
  | cons p c ih =>
    intro st he hd
    simp only [finLoop]
    rw [finStep_H hH st p (hd p List.mem_cons_self), he p List.mem_cons_self]
    simp only []
    obtain ⟨ld, hld⟩ := ih ⟨st.kept ++ keptH p, st.ignoreStb, st.includeDev,
      if p.2.stb.isSome then p.2.dev.map DevB.markStab else p.2.dev, st.ignored ++ namesH p, st.dsts ++ hfBranch p⟩
      (fun q hq => he q (List.mem_cons_of_mem _ hq)) (fun q hq => hd q (List.mem_cons_of_mem _ hq))
    refine ⟨ld, ?_⟩
    rw [hld]
    simp [List.append_assoc]

theorem finLoop_H_err {dst : Branch} (hH : dst.isHotfix = true) (bad : Key × BranchSet) (rest : Cascade) (e : Err)
    (hbad : hErr bad = some e) :
    ∀ (good : Cascade) (st : FinSt), (∀ p ∈ good, hErr p = none) →
      (∀ p ∈ good ++ bad :: rest, ∀ h, p.2.hf = some h → h.toBranch = dst) →
      finLoop dst st (good ++ bad :: rest) = .error e := by
  intro good
  induction good with
  | nil =>
    intro st _ hd
    simp only [List.nil_append, finLoop]
    rw [finStep_H hH st bad (hd bad (by simp)), hbad]
  | cons p good ih =>
    intro st he hd
    simp only [List.cons_append, finLoop]
    rw [finStep_H hH st p (hd p (by simp)), he p List.mem_cons_self]
    simp only []
    exact ih _ (fun q hq => he q (List.mem_cons_of_mem _ hq))
      (fun q hq => hd q (by simp only [List.cons_append]; exact List.mem_cons_of_mem _ hq))

theorem finalize_H {dst : Branch} (hH : dst.isHotfix = true) (c : Cascade) (he : ∀ p ∈ c, hErr p = none)
    (hd : ∀ p ∈ c, ∀ h, p.2.hf = some h → h.toBranch = dst) :
    finalize Cfg.std dst c =
      .ok (c.flatMap keptH, ⟨c.flatMap hfBranch, sortNames (c.flatMap namesH),
            setTargetVersions Cfg.std dst (c.flatMap keptH), mergePaths c⟩) := by
  unfold finalize
  obtain ⟨ld, hld⟩ := finLoop_H_ok hH c st0 he hd
  show (match finLoop dst st0 c with | .error e => _ | .ok st => _) = _
  rw [hld]
  simp [hH, st0]

theorem finalize_H_err {dst : Branch} (hH : dst.isHotfix = true) (good rest : Cascade) (bad : Key × BranchSet)
    (e : Err) (hbad : hErr bad = some e) (he : ∀ p ∈ good, hErr p = none)
    (hd : ∀ p ∈ good ++ bad :: rest, ∀ h, p.2.hf = some h → h.toBranch = dst) :
    finalize Cfg.std dst (good ++ bad :: rest) = .error e := by
  unfold finalize
  show (match finLoop dst st0 _ with | .error e => _ | .ok st => _) = _
  rw [finLoop_H_err hH bad rest e hbad good st0 he hd]

theorem finalize_N_err {dst : Branch} (hN : dst.isHotfix = false) (c : Cascade) (hhf : ∀ p ∈ c, p.2.hf = none)
    (hex : ∃ p ∈ c, p.2.dev = none) : finalize Cfg.std dst c = .error .devBranchDoesNotExist := by
  unfold finalize
  show (match finLoop dst st0 _ with | .error e => _ | .ok st => _) = _
  rw [finLoop_err_N hN c st0 hhf hex]

/-- `f1`: the destination is the development branch of the line `(k, e0)`; otherwise it is its stabilization branch -/
theorem finalize_N {dst : Branch} (hN : dst.isHotfix = false) (pre post : Cascade) (k : Key) (e0 : BranchSet)
    (d : DevB) (f1 : Bool) (hpre : ∀ p ∈ pre, PreOK dst p) (hd : e0.dev = some d) (hhf : e0.hf = none)
    (h1 : eqDev dst (some (markB e0 d)) = f1) (hit : (f1 || eqStb dst e0.stb) = true)
    (hpost : ∀ p ∈ post, p.2.dev.isSome ∧ p.2.hf = none) :
    finalize Cfg.std dst (pre ++ (k, e0) :: post) =
      .ok ((k, ⟨some (markB e0 d), if f1 then none else e0.stb, none⟩) :: post.map strip,
        ⟨(if f1 then [] else stbBranch e0) ++ d.toBranch :: post.flatMap devBranch,
         sortNames (pre.flatMap namesAll ++ (if f1 then stbName e0 else []) ++ post.flatMap (fun p => stbName p.2)),
         setTargetVersions Cfg.std dst
           ((k, ⟨some (markB e0 d), if f1 then none else e0.stb, none⟩) :: post.map strip),
         mergePaths (pre ++ (k, e0) :: post)⟩) := by
  obtain ⟨ld0, h0⟩ := finLoop_pre hN ((k, e0) :: post) pre st0 rfl rfl hpre
  obtain ⟨ld, hld1, hld⟩ := finLoop_post hN post
    ⟨st0.kept ++ [(k, ⟨some (markB e0 d), if e0.stb.isSome && f1 then none else e0.stb, none⟩)], true, true,
      some (markB e0 d), st0.ignored ++ pre.flatMap namesAll ++ (if e0.stb.isSome && f1 then stbName e0 else []),
      st0.dsts ++ (if e0.stb.isSome && f1 then [] else stbBranch e0) ++ [d.toBranch]⟩ rfl rfl rfl hpost
  obtain ⟨x, rfl⟩ := Option.isSome_iff_exists.mp hld1
  unfold finalize
  show (match finLoop _ st0 _ with | .error e => _ | .ok st => _) = _
  rw [h0]
  simp only [finLoop]
  rw [finStep_N hN _ (k, e0) d hd hhf]
  simp only [h1, Bool.false_or, hit, Bool.not_true, Bool.false_eq_true, if_false]
  rw [hld]
  cases hs : e0.stb <;> cases f1 <;> simp [hs, hN, st0, stbName, stbBranch]

theorem validate_strip (post : Cascade) (hpost : ∀ p ∈ post, p.2.dev.isSome) :
    ∀ prev, validateLoop (fun _ _ => true) prev (post.map strip) = .ok () := by
  induction post with
  | nil => intro _; rfl
  | cons p post ih =>
    intro prev
    obtain ⟨d, hd⟩ := Option.isSome_iff_exists.mp (hpost p List.mem_cons_self)
    have ih' := ih (fun q hq => hpost q (List.mem_cons_of_mem _ hq))
    simp only [List.map_cons, strip, hd, Option.map_some, validateLoop]
    cases prev <;> simp [ih']

theorem validate_H (c : Cascade) : ∀ prev, validateLoop (fun _ _ => true) prev (c.flatMap keptH) = .ok () := by
  induction c with
  | nil => intro _; rfl
  | cons p c ih =>
    intro prev
    simp only [List.flatMap_cons, keptH]
    cases p.2.hf with
    | none => simpa using ih prev
    | some h => simpa [validateLoop] using ih prev

end BertE.Cascade
