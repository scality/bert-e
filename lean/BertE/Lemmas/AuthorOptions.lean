import BertE.Model.AuthorOptions
namespace BertE.AuthorOptions

theorem lookup_filter_ne {β : Type} (m : List (String × β)) {k x : String} (hx : x ≠ k) :
    (m.filter (fun p => p.1 != k)).lookup x = m.lookup x := by
  induction m with
  | nil => rfl
  | cons p m ih =>
    obtain ⟨a, b⟩ := p
    by_cases ha : a = k
    · subst ha
      have : (x == a) = false := by simpa using hx
      simp [List.lookup_cons, this, ih]
    · simp [List.lookup_cons, ha, ih]

theorem lookup_dictSet {β : Type} (m : List (String × β)) (k : String) (v : β) (x : String) :
    (dictSet m k v).lookup x = if x = k then some v else m.lookup x := by
  unfold dictSet
  by_cases hx : x = k
  · simp [hx]
  · have : (x == k) = false := by simp [hx]
    rw [List.lookup_cons, this, if_neg hx, lookup_filter_ne m hx]

/-- the user's own names, as the mapping resolves them: the LAST entry for that user wins -/
def ownNames : Raw → String → Option (List String)
  | [], _ => none
  | (u, names) :: rest, user =>
    match ownNames rest user with
    | some l => some l
    | none => if u = user then some names else none

theorem lookup_map_mem (bl : List String) (names : List String) (key : String) :
    ((bl.map (fun k => (k, names.contains k))).lookup key).getD false = (bl.contains key && names.contains key) := by
  induction bl with
  | nil => simp
  | cons b bl ih =>
    by_cases h : key = b
    · subst h; simp
    · have : (key == b) = false := by simpa using h
      simp only [List.map_cons, List.lookup_cons, List.contains_cons, this, Bool.false_or]
      exact ih

theorem deserialize_spec (bl : List String) : ∀ (raw : Raw) (acc res : Opts), deserialize bl raw acc = some res →
    ∀ user key, authorBypass res user key =
      match ownNames raw user with
      | some names => bl.contains key && names.contains key
      | none => authorBypass acc user key
  | [], acc, res, h, user, key => by
    cases h; rfl
  | (u, names) :: rest, acc, res, h, user, key => by
    simp only [deserialize] at h
    split at h
    · rw [deserialize_spec bl rest _ res h user key, ownNames]
      cases ownNames rest user with
      | some l => rfl
      | none =>
        simp only [authorBypass, lookup_dictSet]
        by_cases hu : user = u
        · subst hu
          simpa using lookup_map_mem bl names key
        · simp [hu, Ne.symm hu]
    · cases h

end BertE.AuthorOptions
