import BertE.Model.Reset
import BertE.Lemmas.PlanPr
/-
For C15: the ancestry derived from a `CGraph` is consistent with its parents; the `feature` closure (`FC`) and the
invariant of the walk of `_reset`; what `git log dst..src` lists (`commitDiffOldest`); the remote after the command and
the rebuild of the integration branches by the next evaluation.
-/
namespace BertE.Reset
open BertE.Git BertE.Flow
open Graph

theorem build_size (cs : List CInfo) : ∀ n, (build cs n).size = n
  | 0 => rfl
  | n + 1 => by simp only [build]; rw [addCommit_size, build_size cs n]

theorem build_ancsOf_succ_old {cs : List CInfo} {n c : Nat} (h : c < n) :
    (build cs (n + 1)).ancsOf c = (build cs n).ancsOf c := by
  simp only [build]
  exact addCommit_ancsOf_old (by rw [build_size]; exact h)

theorem build_ancsOf_le (cs : List CInfo) {c n m : Nat} (h : c < n) (hnm : n ≤ m) :
    (build cs m).ancsOf c = (build cs n).ancsOf c := by
  induction hnm with
  | refl => rfl
  | step hle ih => rw [build_ancsOf_succ_old (Nat.lt_of_lt_of_le h hle), ih]

theorem build_ancsOf_new (cs : List CInfo) (n : Nat) :
    (build cs (n + 1)).ancsOf n = n :: (build cs n).parentsAncs (cs.getD n default).parents := by
  simp only [build]
  have := @addCommit_ancsOf_new (build cs n) (cs.getD n default).parents
  rw [build_size] at this
  exact this

theorem build_WF (cs : List CInfo) : ∀ n, (∀ c, c < n → ∀ p ∈ (cs.getD c default).parents, p < c) →
    (build cs n).WF
  | 0, _ => empty_WF
  | n + 1, h => by
    simp only [build]
    apply addCommit_WF (build_WF cs n (fun c hc => h c (by omega)))
    intro p hp
    rw [build_size]
    exact h n (by omega) p hp

namespace CGraph

theorem toGraph_size (g : CGraph) : g.toGraph.size = g.size := build_size _ _

theorem toGraph_WF {g : CGraph} (hg : g.WF) : g.toGraph.WF :=
  build_WF g.commits g.size hg

theorem mem_ancsOf_iff {g : CGraph} (hg : g.WF) {a b : Commit} (hb : b < g.size) :
    a ∈ g.toGraph.ancsOf b ↔ a = b ∨ ∃ p ∈ g.parents b, a ∈ g.toGraph.ancsOf p := by
  have hold : ∀ p ∈ g.parents b, g.toGraph.ancsOf p = (build g.commits b).ancsOf p := fun p hp =>
    build_ancsOf_le g.commits (hg b hb p hp) (Nat.le_of_lt hb)
  have hnew : g.toGraph.ancsOf b = (build g.commits (b + 1)).ancsOf b :=
    build_ancsOf_le g.commits (Nat.lt_succ_self b) hb
  rw [hnew, build_ancsOf_new, List.mem_cons, mem_parentsAncs]
  exact or_congr_right (exists_congr fun p => and_congr_right fun hp => by rw [hold p hp])

theorem le_iff_parents {g : CGraph} (hg : g.WF) {a b : Commit} (hb : b < g.size) :
    g.le a b = true ↔ a = b ∨ ∃ p ∈ g.parents b, g.le a p = true := by
  unfold le
  simp only [Git.le_iff]
  exact mem_ancsOf_iff hg hb

theorem le_refl {g : CGraph} (hg : g.WF) {c : Commit} (hc : c < g.size) : g.le c c = true :=
  (le_iff_parents hg hc).mpr (Or.inl rfl)

theorem le_trans {g : CGraph} (hg : g.WF) {a b c : Commit} (hab : g.le a b = true) (hbc : g.le b c = true) :
    g.le a c = true :=
  Git.le_trans (toGraph_WF hg) hab hbc

theorem le_size {g : CGraph} (hg : g.WF) {a b : Commit} (h : g.le a b = true) : a < g.size ∧ b < g.size := by
  have := Git.le_size (toGraph_WF hg) h
  rw [toGraph_size] at this
  exact this

theorem le_parent {g : CGraph} (hg : g.WF) {p c : Commit} (hc : c < g.size) (hp : p ∈ g.parents c) :
    g.le p c = true :=
  (le_iff_parents hg hc).mpr (Or.inr ⟨p, hp, le_refl hg (Nat.lt_trans (hg c hc p hp) hc)⟩)

theorem le_le {g : CGraph} (hg : g.WF) : ∀ (b : Commit) {a : Commit}, g.le a b = true → a ≤ b := by
  intro b
  induction b using Nat.strongRecOn with
  | _ b ih =>
    intro a h
    have hb := (le_size hg h).2
    rcases (le_iff_parents hg hb).mp h with rfl | ⟨p, hp, hap⟩
    · exact Nat.le_refl _
    · have hpb := hg b hb p hp
      exact Nat.le_of_lt (Nat.lt_of_le_of_lt (ih p hpb hap) hpb)

theorem wfb_iff (g : CGraph) : g.wfb = true ↔ g.WF := by
  unfold wfb WF
  simp only [List.all_eq_true, List.mem_range, decide_eq_true_eq]

instance (g : CGraph) : Decidable g.WF := decidable_of_iff _ (wfb_iff g)

end CGraph

/-- Specification of the `feature` set: the least set that contains `feature0` (the commits of the
    current source branch that are not on the destination) and every commit that is not the robot's, has
    exactly one parent, and whose parent is in the set or on the destination — i.e. the commits whose
    single-parent chain of non-robot commits reaches the destination or the source. -/
inductive FC (g : CGraph) (feature0 : List Commit) (dstInc : Commit → Bool) : Commit → Prop
  | base {c : Commit} : c ∈ feature0 → FC g feature0 dstInc c
  | onFeature {c p : Commit} : g.isRobot c = false → g.parents c = [p] → FC g feature0 dstInc p →
      FC g feature0 dstInc c
  | onDst {c p : Commit} : g.isRobot c = false → g.parents c = [p] → dstInc p = true →
      FC g feature0 dstInc c

theorem foldl_prefix_inv {α σ : Type} (f : σ → α → σ) (I : List α → σ → Prop) (l : List α)
    (step : ∀ pre c post s, l = pre ++ c :: post → I pre s → I (pre ++ [c]) (f s c))
    {s : σ} (h0 : I [] s) : I l (l.foldl f s) := by
  suffices ∀ post pre s, l = pre ++ post → I pre s → I l (post.foldl f s) from this l [] s rfl h0
  intro post
  induction post with
  | nil => intro pre s hl h; rw [hl, List.append_nil]; exact h
  | cons c post ih =>
    intro pre s hl h
    exact ih (pre ++ [c]) (f s c) (by rw [hl, List.append_assoc]; rfl) (step pre c post s hl h)

section walk
variable {g : CGraph} {feature0 : List Commit} {dstInc : Commit → Bool} {c : Commit}

/-- the test `_reset` makes on a commit that is neither in `feature` nor the robot's: exactly one parent,
    which is in `feature` or on the destination -/
def Accept (g : CGraph) (dstInc : Commit → Bool) (feat : List Commit) (c : Commit) : Prop :=
  ∃ p, g.parents c = [p] ∧ (p ∈ feat ∨ dstInc p = true)

theorem walkStep_spec (st : List Commit × Bool) (c : Commit) :
    (∀ x, x ∈ (walkStep g dstInc st c).1 ↔
      x ∈ st.1 ∨ (x = c ∧ g.isRobot c = false ∧ Accept g dstInc st.1 c)) ∧
    ((walkStep g dstInc st c).2 = true ↔
      st.2 = true ∨ (c ∉ st.1 ∧ g.isRobot c = false ∧ ¬ Accept g dstInc st.1 c)) := by
  unfold walkStep
  by_cases hc : c ∈ st.1
  · rw [if_pos (List.contains_iff_mem.mpr hc)]
    exact ⟨fun x => ⟨Or.inl, fun h => h.elim id fun e => e.1 ▸ hc⟩, Or.inl, fun h => h.elim id fun e => absurd hc e.1⟩
  rw [if_neg (fun h => hc (List.contains_iff_mem.mp h))]
  by_cases hr : g.isRobot c = true
  · rw [if_pos hr]
    simp [hr]
  rw [if_neg hr]
  have hr' : g.isRobot c = false := Bool.eq_false_iff.mpr hr
  split
  · rename_i p hp
    have hacc : Accept g dstInc st.1 c ↔ (st.1.contains p || dstInc p) = true := by
      simp [Accept, hp]
    by_cases hb : (st.1.contains p || dstInc p) = true
    · rw [if_pos hb]
      simp [hc, hr', hacc.mpr hb, or_comm]
    · rw [if_neg hb]
      simp [hc, hr', mt hacc.mp hb]
  · rename_i hnp
    have : ¬ Accept g dstInc st.1 c := fun ⟨p, hp, _⟩ => hnp p hp
    simp [hc, hr', this]

theorem FC.of_accept {feat : List Commit} (hsub : ∀ x ∈ feat, FC g feature0 dstInc x)
    (hr : g.isRobot c = false) (ha : Accept g dstInc feat c) : FC g feature0 dstInc c := by
  obtain ⟨p, hp, h | h⟩ := ha
  · exact FC.onFeature hr hp (hsub p h)
  · exact FC.onDst hr hp h

theorem FC.shape (h : FC g feature0 dstInc c) :
    c ∈ feature0 ∨ (g.isRobot c = false ∧ (g.parents c).length = 1) := by
  cases h with
  | base hb => exact Or.inl hb
  | onFeature hr hp _ => exact Or.inr ⟨hr, by rw [hp]; rfl⟩
  | onDst hr hp _ => exact Or.inr ⟨hr, by rw [hp]; rfl⟩

theorem FC.accept {feat : List Commit} (hf : FC g feature0 dstInc c) (hc : c ∉ feature0)
    (hpar : ∀ p, g.parents c = [p] → dstInc p = false → FC g feature0 dstInc p → p ∈ feat) :
    Accept g dstInc feat c := by
  cases hf with
  | base hb => exact absurd hb hc
  | onDst _ hp hd => exact ⟨_, hp, Or.inr hd⟩
  | @onFeature _ p _ hp hfp =>
    cases hd : dstInc p with
    | true => exact ⟨p, hp, Or.inr hd⟩
    | false => exact ⟨p, hp, Or.inl (hpar p hp hd hfp)⟩

/-- what holds after the walk has gone through `pre`, whatever the order -/
structure InvSound (g : CGraph) (feature0 : List Commit) (dstInc : Commit → Bool)
    (pre : List Commit) (st : List Commit × Bool) : Prop where
  base : ∀ x ∈ feature0, x ∈ st.1
  sub : ∀ x ∈ st.1, FC g feature0 dstInc x
  lossy : (∃ c ∈ pre, g.isRobot c = false ∧ ¬ FC g feature0 dstInc c) → st.2 = true

theorem walkStep_sound {pre : List Commit} {st : List Commit × Bool} (c : Commit)
    (h : InvSound g feature0 dstInc pre st) :
    InvSound g feature0 dstInc (pre ++ [c]) (walkStep g dstInc st c) := by
  obtain ⟨hmem, hflag⟩ := walkStep_spec (g := g) (dstInc := dstInc) st c
  refine ⟨fun x hx => (hmem x).mpr (Or.inl (h.base x hx)), ?_, ?_⟩
  · intro x hx
    rcases (hmem x).mp hx with hx | ⟨rfl, hr, ha⟩
    · exact h.sub x hx
    · exact FC.of_accept h.sub hr ha
  · rintro ⟨x, hx, hr, hn⟩
    rw [hflag]
    rcases List.mem_append.mp hx with hx | hx
    · exact Or.inl (h.lossy ⟨x, hx, hr, hn⟩)
    · obtain rfl := List.mem_singleton.mp hx
      exact Or.inr ⟨fun hc => hn (h.sub x hc), hr, fun ha => hn (FC.of_accept h.sub hr ha)⟩

theorem resetCheck_of_not_FC (g : CGraph) (feature0 wcommits : List Commit) (dstInc : Commit → Bool)
    (h : ∃ c ∈ wcommits, g.isRobot c = false ∧ ¬ FC g feature0 dstInc c) :
    resetCheck g feature0 wcommits dstInc = true :=
  (foldl_prefix_inv _ (InvSound g feature0 dstInc) wcommits (fun _ c _ _ _ hi => walkStep_sound c hi)
    ⟨fun _ hx => hx, fun _ hx => FC.base hx, fun ⟨_, hc, _⟩ => nomatch hc⟩).lossy h

/-- the exact invariant, when every single parent is met before its child -/
structure Inv (g : CGraph) (feature0 : List Commit) (dstInc : Commit → Bool)
    (pre : List Commit) (st : List Commit × Bool) : Prop where
  feat : ∀ x, x ∈ st.1 ↔ x ∈ feature0 ∨ (x ∈ pre ∧ g.isRobot x = false ∧ FC g feature0 dstInc x)
  lossy : st.2 = true ↔ ∃ c ∈ pre, g.isRobot c = false ∧ ¬ FC g feature0 dstInc c

theorem Inv.sub {pre : List Commit} {st : List Commit × Bool} (h : Inv g feature0 dstInc pre st) :
    ∀ x ∈ st.1, FC g feature0 dstInc x :=
  fun x hx => ((h.feat x).mp hx).elim FC.base fun h1 => h1.2.2

theorem walkStep_inv {pre : List Commit} {st : List Commit × Bool} (c : Commit)
    (h : Inv g feature0 dstInc pre st)
    (hpar : ∀ p, g.parents c = [p] → dstInc p = false → g.isRobot p = false → (g.parents p).length = 1 →
      p ∈ feature0 ∨ p ∈ pre) :
    Inv g feature0 dstInc (pre ++ [c]) (walkStep g dstInc st c) := by
  obtain ⟨hmem, hflag⟩ := walkStep_spec (g := g) (dstInc := dstInc) st c
  -- on a commit that is new and not the robot's the test of the loop decides membership in the closure:
  -- a parent in the closure was met before, hence is in `feature`
  have hacc : c ∉ st.1 → g.isRobot c = false → (Accept g dstInc st.1 c ↔ FC g feature0 dstInc c) := by
    intro hc hr
    refine ⟨FC.of_accept h.sub hr, fun hf => hf.accept (fun hb => hc ((h.feat c).mpr (Or.inl hb))) ?_⟩
    intro p hp hd hfp
    rw [h.feat]
    rcases hfp.shape with hb | ⟨hrp, hlp⟩
    · exact Or.inl hb
    · exact (hpar p hp hd hrp hlp).imp id fun hb => ⟨hb, hrp, hfp⟩
  constructor
  · intro x
    rw [hmem]
    constructor
    · rintro (hx | ⟨rfl, hr, ha⟩)
      · exact ((h.feat x).mp hx).imp id fun ⟨hp, hr, hf⟩ => ⟨List.mem_append_left _ hp, hr, hf⟩
      · exact Or.inr ⟨by simp, hr, FC.of_accept h.sub hr ha⟩
    · rintro (hb | ⟨hx, hr, hf⟩)
      · exact Or.inl ((h.feat x).mpr (Or.inl hb))
      · rcases List.mem_append.mp hx with hx | hx
        · exact Or.inl ((h.feat x).mpr (Or.inr ⟨hx, hr, hf⟩))
        · obtain rfl := List.mem_singleton.mp hx
          by_cases hc : x ∈ st.1
          · exact Or.inl hc
          · exact Or.inr ⟨rfl, hr, (hacc hc hr).mpr hf⟩
  · rw [hflag, h.lossy]
    constructor
    · rintro (⟨x, hx, hr, hn⟩ | ⟨hc, hr, ha⟩)
      · exact ⟨x, List.mem_append_left _ hx, hr, hn⟩
      · exact ⟨c, by simp, hr, fun hf => ha ((hacc hc hr).mpr hf)⟩
    · rintro ⟨x, hx, hr, hn⟩
      rcases List.mem_append.mp hx with hx | hx
      · exact Or.inl ⟨x, hx, hr, hn⟩
      · obtain rfl := List.mem_singleton.mp hx
        have hc : x ∉ st.1 := fun hc => hn (h.sub x hc)
        exact Or.inr ⟨hc, hr, fun ha => hn ((hacc hc hr).mp ha)⟩

end walk

theorem walk_exact (g : CGraph) (feature0 wcommits : List Commit) (dstInc : Commit → Bool)
    (hord : ∀ pre c post, wcommits = pre ++ c :: post → ∀ p, g.parents c = [p] → dstInc p = false →
      g.isRobot p = false → (g.parents p).length = 1 → p ∈ feature0 ∨ p ∈ pre) :
    Inv g feature0 dstInc wcommits (walk g dstInc feature0 wcommits) :=
  foldl_prefix_inv _ (Inv g feature0 dstInc) wcommits
    (fun pre c post _ hl hi => walkStep_inv c hi (hord pre c post hl)) ⟨fun x => by simp, by simp⟩

theorem mem_commitDiffOldest {g : CGraph} {src dst : Commit} {nm : Bool} {c : Commit} :
    c ∈ commitDiffOldest g src dst nm ↔ c < g.size ∧ listed g src dst nm c = true := by
  unfold commitDiffOldest
  rw [List.mem_filter, List.mem_range]

theorem commitDiff_reverse (g : CGraph) (src dst : Commit) (nm : Bool) :
    (commitDiff g src dst nm).reverse = commitDiffOldest g src dst nm := by
  unfold commitDiff; exact List.reverse_reverse _

theorem mem_commitDiff {g : CGraph} {src dst : Commit} {nm : Bool} {c : Commit} :
    c ∈ commitDiff g src dst nm ↔ c ∈ commitDiffOldest g src dst nm := by
  unfold commitDiff; exact List.mem_reverse

theorem listed_iff {g : CGraph} {src dst : Commit} {nm : Bool} {c : Commit} :
    listed g src dst nm c = true ↔
      g.le c src = true ∧ g.le c dst = false ∧ (nm = true → (g.parents c).length ≤ 1) := by
  unfold listed
  cases g.le c src <;> cases g.le c dst <;> cases nm <;> simp

theorem mem_commitDiffOldest_iff {g : CGraph} (hg : g.WF) {src dst : Commit} {nm : Bool} {c : Commit} :
    c ∈ commitDiffOldest g src dst nm ↔
      g.le c src = true ∧ g.le c dst = false ∧ (nm = true → (g.parents c).length ≤ 1) := by
  rw [mem_commitDiffOldest, listed_iff]
  constructor
  · exact fun h => h.2
  · exact fun h => ⟨(CGraph.le_size hg h.1).1, h⟩

theorem commitDiffOldest_sorted (g : CGraph) (src dst : Commit) (nm : Bool) :
    (commitDiffOldest g src dst nm).Pairwise (· < ·) :=
  List.Pairwise.filter _ List.pairwise_lt_range

theorem commitDiffOldest_order {g : CGraph} (hg : g.WF) {src dst : Commit} {nm : Bool}
    {pre post : List Commit} {c : Commit} (h : commitDiffOldest g src dst nm = pre ++ c :: post)
    {p : Commit} (hp : p ∈ g.parents c) : p ∉ c :: post := by
  have hc : c ∈ commitDiffOldest g src dst nm := by rw [h]; simp
  have hpc : p < c := hg c (mem_commitDiffOldest.mp hc).1 p hp
  have hs := commitDiffOldest_sorted g src dst nm
  rw [h, List.pairwise_append, List.pairwise_cons] at hs
  intro hmem
  rcases List.mem_cons.mp hmem with rfl | h2
  · exact Nat.lt_irrefl _ hpc
  · exact Nat.lt_irrefl _ (Nat.lt_trans (hs.2.1.1 p h2) hpc)

theorem commitDiffOldest_closed {g : CGraph} (hg : g.WF) {src dst : Commit} {nm : Bool} {c p : Commit}
    (hc : c ∈ commitDiffOldest g src dst nm) (hp : p ∈ g.parents c) (hd : g.le p dst = false)
    (hm : nm = true → (g.parents p).length ≤ 1) : p ∈ commitDiffOldest g src dst nm := by
  have h := (mem_commitDiffOldest_iff hg).mp hc
  have hcs := (CGraph.le_size hg h.1).1
  exact (mem_commitDiffOldest_iff hg).mpr ⟨CGraph.le_trans hg (CGraph.le_parent hg hcs hp) h.1, hd, hm⟩

/-- the `feature` closure of the integration branch `wt` over destination `dt` for source `st` -/
def BranchFC (g : CGraph) (fl : Flags) (st dt : Commit) : Commit → Prop :=
  FC g (commitDiff g st dt fl.featureNoMerges) (fun p => g.le p dt)

theorem branchWalk_inv {g : CGraph} (hg : g.WF) (fl : Flags) (st dt wt : Commit) :
    Inv g (commitDiff g st dt fl.featureNoMerges) (fun p => g.le p dt)
      (commitDiffOldest g wt dt fl.wNoMerges) (branchWalk g fl st dt wt) := by
  unfold branchWalk
  rw [commitDiff_reverse]
  apply walk_exact
  intro pre c post h p hp hd _ hl
  right
  have hc : c ∈ commitDiffOldest g wt dt fl.wNoMerges := by rw [h]; simp
  have hpm : p ∈ g.parents c := by rw [hp]; simp
  have hin := commitDiffOldest_closed hg hc hpm hd (fun _ => Nat.le_of_eq hl)
  rw [h] at hin
  exact (List.mem_append.mp hin).resolve_right (commitDiffOldest_order hg h hpm)

theorem branchLossy_iff {g : CGraph} (hg : g.WF) (fl : Flags) (st dt wt : Commit) :
    branchLossy g fl st dt wt = true ↔
      ∃ c, g.le c wt = true ∧ g.le c dt = false ∧ (fl.wNoMerges = true → (g.parents c).length ≤ 1) ∧
        g.isRobot c = false ∧ ¬ BranchFC g fl st dt c := by
  unfold branchLossy
  rw [(branchWalk_inv hg fl st dt wt).lossy]
  constructor
  · rintro ⟨c, hc, hr, hn⟩
    have := (mem_commitDiffOldest_iff hg).mp hc
    exact ⟨c, this.1, this.2.1, this.2.2, hr, hn⟩
  · rintro ⟨c, h1, h2, h3, hr, hn⟩
    exact ⟨c, (mem_commitDiffOldest_iff hg).mpr ⟨h1, h2, h3⟩, hr, hn⟩

/-- the `feature` set at the end of the walk: the source commits plus the closure commits of the branch -/
theorem branchWalk_feature {g : CGraph} (hg : g.WF) (fl : Flags) (st dt wt : Commit) (x : Commit) :
    x ∈ (branchWalk g fl st dt wt).1 ↔
      x ∈ commitDiff g st dt fl.featureNoMerges ∨
      (x ∈ commitDiffOldest g wt dt fl.wNoMerges ∧ g.isRobot x = false ∧ BranchFC g fl st dt x) :=
  (branchWalk_inv hg fl st dt wt).feat x

/-- A commit of the integration branch itself (relative to the destination tip `dt`; `ever` = the commits that
    are or were on the source branch): not on the destination, never on the source branch, and the robot's, or a
    merge, or made on top of such a commit. Manual work = such a commit that is not the robot's. -/
inductive Own (g : CGraph) (ever : List Commit) (dt : Commit) : Commit → Prop
  | robot {c : Commit} : c ∉ ever → g.le c dt = false → g.isRobot c = true → Own g ever dt c
  | merge {c : Commit} : c ∉ ever → g.le c dt = false → (g.parents c).length ≠ 1 → Own g ever dt c
  | onTop {c p : Commit} : c ∉ ever → g.le c dt = false → g.parents c = [p] → Own g ever dt p → Own g ever dt c

theorem Own.notDst {g : CGraph} {ever : List Commit} {dt c : Commit} (h : Own g ever dt c) :
    g.le c dt = false := by
  cases h <;> assumption

theorem Own.notEver {g : CGraph} {ever : List Commit} {dt c : Commit} (h : Own g ever dt c) : c ∉ ever := by
  cases h <;> assumption

theorem Own.parent {g : CGraph} {ever : List Commit} {dt c p : Commit} (h : Own g ever dt c)
    (hr : g.isRobot c = false) (hp : g.parents c = [p]) : Own g ever dt p := by
  cases h with
  | robot _ _ hr' => rw [hr] at hr'; cases hr'
  | merge _ _ hl => rw [hp] at hl; exact absurd rfl hl
  | onTop _ _ hp' hown => rw [hp] at hp'; cases hp'; exact hown

theorem own_not_feature {g : CGraph} (hg : g.WF) (fl : Flags) (st dt : Commit) (ever : List Commit)
    (hever : ∀ x, g.le x st = true → x ∈ ever) {c : Commit} (h : Own g ever dt c) :
    ¬ BranchFC g fl st dt c := by
  intro hf
  unfold BranchFC at hf
  induction hf with
  | base hb => exact h.notEver (hever _ ((mem_commitDiffOldest_iff hg).mp (mem_commitDiff.mp hb)).1)
  | onFeature hr hp _ ih => exact ih (h.parent hr hp)
  | onDst hr hp hd => exact Bool.false_ne_true ((h.parent hr hp).notDst.symm.trans hd)

theorem anyLossy_some_iff {s : Sys} {cg : CGraph} {fl : Flags} {pr : PrInfo} :
    ∀ {ds : List Dest} {b : Bool}, anyLossy s cg fl pr ds = some b →
      (b = true ↔ ∃ d ∈ ds, ∃ st dt wt, s.remote.get (.other pr.src) = some st ∧
        s.remote.get (.dest d) = some dt ∧ s.remote.get (.w d pr.src) = some wt ∧
        branchLossy cg fl st dt wt = true)
  | [], b, h => by
    simp only [anyLossy, Option.some.injEq] at h
    subst h; simp
  | d :: ds, b, h => by
    simp only [anyLossy] at h
    split at h
    · rename_i st dt wt h1 h2 h3
      split at h
      · rename_i b' hb'
        simp only [Option.some.injEq] at h
        subst h
        have ih := anyLossy_some_iff hb'
        rw [Bool.or_eq_true, ih]
        constructor
        · rintro (hl | ⟨d', hd', rest⟩)
          · exact ⟨d, List.mem_cons_self, st, dt, wt, h1, h2, h3, hl⟩
          · exact ⟨d', List.mem_cons_of_mem _ hd', rest⟩
        · rintro ⟨d', hd', st', dt', wt', e1, e2, e3, hl⟩
          rcases List.mem_cons.mp hd' with rfl | hd'
          · rw [h1] at e1; rw [h2] at e2; rw [h3] at e3
            cases e1; cases e2; cases e3
            exact Or.inl hl
          · exact Or.inr ⟨d', hd', st', dt', wt', e1, e2, e3, hl⟩
      · cases h
    · cases h

theorem anyLossy_isSome {s : Sys} {cg : CGraph} {fl : Flags} {pr : PrInfo} {st : Commit}
    (hs : s.remote.get (.other pr.src) = some st) :
    ∀ (ds : List Dest), (∀ d ∈ ds, s.remote.has (.dest d) = true ∧ s.remote.has (.w d pr.src) = true) →
      ∃ b, anyLossy s cg fl pr ds = some b
  | [], _ => ⟨false, rfl⟩
  | d :: ds, h => by
    obtain ⟨b, hb⟩ := anyLossy_isSome (cg := cg) (fl := fl) hs ds (fun d' hd' => h d' (List.mem_cons_of_mem _ hd'))
    obtain ⟨h1, h2⟩ := h d List.mem_cons_self
    obtain ⟨dt, hdt⟩ := (RefMap.has_iff _ _).mp h1
    obtain ⟨wt, hwt⟩ := (RefMap.has_iff _ _).mp h2
    exact ⟨branchLossy cg fl st dt wt || b, by simp only [anyLossy, hs, hdt, hwt, hb]⟩

theorem wBranches_map (s : Sys) (pr : PrInfo) :
    (wBranches s pr).map (fun d => Ref.w d pr.src) =
      ((s.targets pr.dst).map (fun d => Ref.w d pr.src)).filter (fun r => s.remote.has r) := by
  unfold wBranches
  rw [List.filter_map]
  rfl

theorem mem_wBranches {s : Sys} {pr : PrInfo} {d : Dest} :
    d ∈ wBranches s pr ↔ d ∈ s.targets pr.dst ∧ s.remote.has (.w d pr.src) = true := by
  unfold wBranches; exact List.mem_filter

theorem planReset_eq (s : Sys) (pr : PrInfo) :
    planReset s pr =
      if wBranches s pr = [] then ⟨s.g, [], "ResetComplete", s.queue⟩
      else ⟨s.g, [.pushAll (delRefs s.remote ((wBranches s pr).map (fun d => Ref.w d pr.src))) true],
        "ResetComplete", s.queue⟩ := by
  unfold planReset
  simp only [← wBranches_map, List.isEmpty_iff, List.map_eq_nil_iff]

theorem get_delRefs_wBranches (s : Sys) (pr : PrInfo) {d : Dest} (hd : d ∈ s.targets pr.dst) :
    (delRefs s.remote ((wBranches s pr).map (fun d => Ref.w d pr.src))).get (.w d pr.src) = none := by
  rw [get_delRefs]
  split
  · rfl
  · rename_i hn
    cases hg : s.remote.get (.w d pr.src) with
    | none => rfl
    | some c =>
      exact absurd (List.mem_map.mpr ⟨d, mem_wBranches.mpr ⟨hd, (RefMap.has_iff _ _).mpr ⟨c, hg⟩⟩, rfl⟩) hn

/-- the ways `_reset` ends: without planning anything (nothing to delete, a branch the loop needs is missing, the
    refusal), or with the one atomic pruning push that removes the integration branches -/
theorem reset_cases (s : Sys) (cg : CGraph) (fl : Flags) (prs : List HostPr) (pr : PrInfo) (force : Bool) :
    (∃ o, reset s cg fl prs pr force = ⟨⟨s.g, [], o, s.queue⟩, []⟩ ∧
      ((o = "ResetComplete" ∧ wBranches s pr = []) ∨ o = "crash" ∨ (o = "LossyResetWarning" ∧ force = false))) ∨
    (wBranches s pr ≠ [] ∧ reset s cg fl prs pr force =
      ⟨⟨s.g, [.pushAll (delRefs s.remote ((wBranches s pr).map (fun d => Ref.w d pr.src))) true],
          "ResetComplete", s.queue⟩,
        declines prs ((wBranches s pr).map (fun d => Ref.w d pr.src))⟩) := by
  unfold reset
  simp only
  split
  · rename_i he
    exact Or.inl ⟨_, rfl, Or.inl ⟨rfl, List.isEmpty_iff.mp he⟩⟩
  · rename_i he
    split
    · exact Or.inl ⟨_, rfl, Or.inr (Or.inl rfl)⟩
    · split
      · rename_i hc
        exact Or.inl ⟨_, rfl, Or.inr (Or.inr ⟨rfl, by simpa using (Bool.and_eq_true_iff.mp hc).2⟩)⟩
      · exact Or.inr ⟨fun h => he (List.isEmpty_iff.mpr h), rfl⟩

theorem reset_ops (s : Sys) (cg : CGraph) (fl : Flags) (prs : List HostPr) (pr : PrInfo) (force : Bool) :
    ((reset s cg fl prs pr force).plan.ops = [] ∧ (reset s cg fl prs pr force).declined = []) ∨
    ((reset s cg fl prs pr force).plan.ops =
        [.pushAll (delRefs s.remote ((wBranches s pr).map (fun d => Ref.w d pr.src))) true] ∧
     (reset s cg fl prs pr force).declined = declines prs ((wBranches s pr).map (fun d => Ref.w d pr.src))) := by
  rcases reset_cases s cg fl prs pr force with ⟨o, h, _⟩ | ⟨_, h⟩ <;> rw [h]
  · exact Or.inl ⟨rfl, rfl⟩
  · exact Or.inr ⟨rfl, rfl⟩

theorem reset_g (s : Sys) (cg : CGraph) (fl : Flags) (prs : List HostPr) (pr : PrInfo) (force : Bool) :
    (reset s cg fl prs pr force).plan.g = s.g ∧ (reset s cg fl prs pr force).plan.queue = s.queue := by
  rcases reset_cases s cg fl prs pr force with ⟨o, h, _⟩ | ⟨_, h⟩ <;> rw [h] <;> exact ⟨rfl, rfl⟩

theorem reset_scope (s : Sys) (cg : CGraph) (fl : Flags) (prs : List HostPr) (pr : PrInfo) (force : Bool)
    (rej : Ref → Bool) (k : Nat) (x : Ref) :
    let r := reset s cg fl prs pr force
    (applyOps r.plan.g rej s.remote (r.plan.ops.take k)).get x = s.remote.get x ∨
    ((applyOps r.plan.g rej s.remote (r.plan.ops.take k)).get x = none ∧
      ∃ d ∈ s.targets pr.dst, x = .w d pr.src ∧ s.remote.has x = true) := by
  intro r
  -- the only operation is the atomic pruning push, applied as a whole or not at all
  have hops : ∀ op ∈ r.plan.ops.take k,
      op = .pushAll (delRefs s.remote ((wBranches s pr).map (fun d => Ref.w d pr.src))) true := by
    intro op hop
    have hop := List.mem_of_mem_take hop
    rcases reset_ops s cg fl prs pr force with ⟨h, _⟩ | ⟨h, _⟩
    · rw [show r.plan.ops = [] from h] at hop
      cases hop
    · rw [show r.plan.ops = _ from h] at hop
      exact List.mem_singleton.mp hop
  rcases applyOps_preserves (g := r.plan.g) (rej := rej)
      (I := fun m => m = s.remote ∨ m = delRefs s.remote ((wBranches s pr).map (fun d => Ref.w d pr.src)))
      (fun m op hm hop => by
        rw [hop]
        rcases applyOp_pushAll_cases r.plan.g rej m (delRefs s.remote ((wBranches s pr).map (fun d => Ref.w d pr.src)))
          true with e | e
        · exact Or.inr e
        · rw [e]; exact hm)
      _ (Or.inl rfl) hops with h | h
  · rw [h]
    exact Or.inl rfl
  · rw [h, get_delRefs]
    split
    · rename_i hx
      obtain ⟨d, hd, rfl⟩ := List.mem_map.mp hx
      exact Or.inr ⟨rfl, d, (mem_wBranches.mp hd).1, rfl, (mem_wBranches.mp hd).2⟩
    · exact Or.inl rfl

theorem has_set_of_has {m : RefMap} {x : Ref} (r : Ref) (c : Commit) (h : m.has x = true) :
    (m.set r c).has x = true := by
  rw [RefMap.has_iff] at h ⊢
  rw [RefMap.get_set]
  split
  · exact ⟨c, rfl⟩
  · exact h

theorem Loc.merge_refs {l l' : Loc} {r : Ref} {srcs : List Commit} (h : l.merge r srcs = some l') :
    l'.refs.has r = true ∧ ∀ x, x ≠ r → l'.refs.get x = l.refs.get x :=
  Loc.merge_kept h

theorem updateW_has (pr : PrInfo) : ∀ (ds : List Dest) (l : Loc) (prev : Commit) (done : List Ref),
    (∀ x, l.refs.has x = true → (updateW l pr prev ds done).1.refs.has x = true) ∧
    ((updateW l pr prev ds done).2.2 = true →
      ∀ d ∈ ds, (updateW l pr prev ds done).1.refs.has (.w d pr.src) = true)
  | [], _, _, _ => ⟨fun _ h => h, fun _ _ hd => nomatch hd⟩
  | d :: ds, l, prev, done => by
    simp only [updateW]
    cases l.refs.get (.dest d) with
    | none => exact ⟨fun _ h => h, fun hok => absurd hok Bool.false_ne_true⟩
    | some t =>
      simp only
      cases hm : l.mergeN pr.noOct (.w d pr.src) t prev with
      | none => exact ⟨fun _ h => h, fun hok => absurd hok Bool.false_ne_true⟩
      | some l' =>
        simp only
        obtain ⟨h1, h2⟩ := Loc.mergeN_refs hm
        have hx : ∀ x, l.refs.has x = true → l'.refs.has x = true := fun x h => by
          by_cases e : x = .w d pr.src
          · rw [e]; exact h1
          · rw [RefMap.has, h2 x e]; exact h
        cases l'.refs.get (.w d pr.src) with
        | none => exact ⟨hx, fun hok => absurd hok Bool.false_ne_true⟩
        | some c =>
          obtain ⟨ih1, ih2⟩ := updateW_has pr ds l' c (done ++ [.w d pr.src])
          refine ⟨fun x h => ih1 x (hx x h), fun hok d' hd' => ?_⟩
          rcases List.mem_cons.mp hd' with rfl | hd'
          · exact ih1 _ h1
          · exact ih2 hok d' hd'

theorem settle_has (s : Sys) (pr : PrInfo) (rest : List Dest) (sync : Bool) (l : Loc) (x : Ref)
    (h : l.refs.has x = true) : (settle s pr rest sync l).refs.has x = true := by
  unfold settle
  split
  · refine List.foldlRecOn (motive := fun m : RefMap => m.has x = true) rest _ h fun m hm d _ => ?_
    split
    · exact has_set_of_has _ _ hm
    · exact hm
  · exact h

theorem push_has (g : Graph) : ∀ (ups : List (Ref × Commit)) (m : RefMap) (r : Ref),
    (m.has r = true ∨ ∃ c, (r, c) ∈ ups) → (applyOp g noRej m (.push ups)).has r = true
  | [], _, _, h => h.elim id fun ⟨_, h⟩ => nomatch h
  | rc :: ups, m, r, h => by
    rw [applyOp_push_cons]
    refine push_has g ups _ r ?_
    by_cases hm : m.has r = true
    · left
      split
      · exact has_set_of_has _ _ hm
      · exact hm
    · rcases h with h | ⟨c, h⟩
      · exact absurd h hm
      · rcases List.mem_cons.mp h with rfl | h
        · -- a ref that is not there is created
          have hacc := accepts_none (g := g) (RefMap.has_eq_false.mp (Bool.eq_false_iff.mpr hm)) c
          simp only [hacc, noRej, Bool.not_false, Bool.and_self, if_true]
          exact .inl (RefMap.has_of_get (RefMap.get_set_eq _ _ _))
        · exact .inr ⟨c, h⟩

theorem prepare_has (s : Sys) (pr : PrInfo) (sc dc : Commit) (orc : List Bool) :
    (∃ p, prepare s pr sc dc orc = .inl p ∧ p.outcome = "Conflict") ∨
    ∃ l4, prepare s pr sc dc orc = .inr (l4, pushWOps l4 pr ((s.targets pr.dst).drop 1)) ∧
      ∀ d ∈ (s.targets pr.dst).drop 1, l4.refs.has (.w d pr.src) = true := by
  refine prepare_elim (motive := fun r => (∃ p, r = .inl p ∧ p.outcome = "Conflict") ∨
    ∃ l4, r = .inr (l4, pushWOps l4 pr ((s.targets pr.dst).drop 1)) ∧
      ∀ d ∈ (s.targets pr.dst).drop 1, l4.refs.has (.w d pr.src) = true) s pr sc dc orc ?_
  intro l1 l2 u _ _ hu
  refine ⟨.inl ⟨_, rfl, rfl⟩, .inl ⟨_, rfl, rfl⟩, fun hok l4 hl4 => .inr ⟨l4, rfl, fun d hd => ?_⟩⟩
  rw [hl4]
  rw [hu] at hok ⊢
  exact settle_has s pr _ _ _ _ ((updateW_has pr _ _ _ _).2 hok d hd)

theorem evalPr_integration_has (s : Sys) (pr : PrInfo) (orc : List Bool) (sel : List Nat) {sc dc : Commit}
    (hsrc : s.remote.get (.other pr.src) = some sc) (hdst : s.remote.get (.dest pr.dst) = some dc)
    (hnm : s.g.le sc dc = false) (hnq : alreadyQueued s pr = false) :
    (step s (.evalPr pr .integration orc sel)).2 = "Conflict" ∨
    ((step s (.evalPr pr .integration orc sel)).2 = "gate" ∧
      ∀ d ∈ (s.targets pr.dst).drop 1, (step s (.evalPr pr .integration orc sel)).1.remote.has (.w d pr.src) = true) := by
  simp only [step, plan, planPr, hsrc, hdst, hnm, hnq]
  simp only [show (Stage.integration = Stage.early) = False from by simp, if_false, Bool.false_eq_true]
  rcases prepare_has s pr sc dc orc with ⟨p, hp, ho⟩ | ⟨l4, hp, hhas⟩
  · rw [hp]
    exact .inl ho
  · rw [hp]
    refine .inr ⟨rfl, fun d hd => ?_⟩
    have hne : ((s.targets pr.dst).drop 1).isEmpty = false := List.isEmpty_eq_false_iff_exists_mem.mpr ⟨d, hd⟩
    simp only [pushWOps, hne, Bool.false_eq_true, if_false]
    obtain ⟨c, hc⟩ := (RefMap.has_iff _ _).mp (hhas d hd)
    exact push_has _ _ _ _ (.inr ⟨c, mem_tipsOf.mpr ⟨List.mem_map.mpr ⟨d, hd, rfl⟩, hc⟩⟩)

end BertE.Reset
