import BertE.Lemmas.CloseEvalBase
/-
On a robot-made, tie-free state the ref-based queue evaluation `QV.evalQueues` (which reads only refs) IS the
bookkeeping-based `Flow.planQueues` (which reads the ghost bookkeeping), and the two plans have the same observable
effect.
-/
namespace BertE.Close
open BertE.Git BertE.Flow BertE.Select BertE.QV

/-- the integration branches `close_queued_pull_request` removes for the merged pull requests -/
def close_wgone (s : Sys) (sel : List Nat) : List (Dest × String) :=
  (s.queue.filter fun e => sel.contains e.pr).flatMap fun e => e.targets.map fun d => (d, e.src)

theorem close_evalQueues_unfold {s : Sys} {sel : List Nat} {wgone : List (Dest × String)} {paths : List (List Dest)}
    {r : Loc × List Ref} (h1 : cascadePaths s = some paths)
    (h2 : validate s.g s.remote (build s.g s.remote) paths = .ok []) (h3 : sel.isEmpty = false)
    (h4 : mergeQueues ⟨s.g, s.remote, []⟩ (removeUnmergeable sel (build s.g s.remote)) = some r) :
    evalQueues s sel wgone =
      ⟨r.1.g, [.pushAll (delRefs r.1.refs (r.2 ++ wgone.map (fun p => Ref.w p.1 p.2))) true], "Merged",
        s.queue.filter (fun e => !sel.contains e.pr)⟩ := by
  unfold evalQueues
  simp only [h1, h2, h3, h4, Bool.false_eq_true, if_false]

theorem close_mem_goneOf {c : Coll} (hn : (keys c).Nodup) {x : Ref} :
    x ∈ close_goneOf c ↔ ∃ d, ∃ i ∈ intsOf c d, x = Ref.qw i.pr d i.src := by
  unfold close_goneOf
  simp only [List.mem_flatMap, List.mem_map]
  constructor
  · rintro ⟨v, hv, i, hi, rfl⟩
    exact ⟨v.d, i, by rw [qv_intsOf_mem hn hv]; exact hi, rfl⟩
  · rintro ⟨d, i, hi, rfl⟩
    by_cases hd : d ∈ keys c
    · obtain ⟨v, hv, rfl⟩ := List.mem_map.mp hd
      rw [qv_intsOf_mem hn hv] at hi
      exact ⟨v, hv, i, hi, rfl⟩
    · rw [qv_intsOf_not_mem hd] at hi; cases hi

section
variable {s : Sys} (h : InvV s)
include h

theorem close_intsFor_nokey {d : Dest} (hd : ¬ (s.remote.get (.q d)).isSome = true) : intsFor s d = [] := by
  unfold intsFor
  rw [close_entriesOn_nil_of_noq h.inv.q (by simpa using hd)]
  rfl

theorem close_intsOf_build (hnt : NoTies s) (d : Dest) : intsOf (build s.g s.remote) d = intsFor s d := by
  have hc := close_build_matches h hnt
  by_cases hd : d ∈ keys (build s.g s.remote)
  · obtain ⟨v, hv, rfl⟩ := List.mem_map.mp hd
    rw [qv_intsOf_mem hc.nodup hv, hc.ints v hv]
  · rw [qv_intsOf_not_mem hd, close_intsFor_nokey h (fun hq => hd ((hc.mem d).mpr hq))]

theorem close_dropWhile_intsFor (sel : List Nat) (d : Dest) :
    (intsFor s d).dropWhile (fun i => !sel.contains i.pr) =
      ((entriesOn s d).reverse.dropWhile (fun e => !sel.contains e.pr)).map (close_mk (close_tip s) d) := by
  rw [close_intsFor_eq h.inv.q.base, List.dropWhile_map]
  rfl

omit h in
theorem close_remaining_selected {sel : List Nat} (hdc : DownClosed s sel) (d : Dest) :
    ∀ e ∈ (entriesOn s d).reverse.dropWhile (fun e => !sel.contains e.pr), sel.contains e.pr = true := by
  intro e he
  have hpw : (entriesOn s d).reverse.Pairwise (fun a b : QEntry =>
      (fun e : QEntry => !sel.contains e.pr) a = false → (fun e : QEntry => !sel.contains e.pr) b = false) := by
    rw [List.pairwise_reverse]
    have hsub : (entriesOn s d).Sublist s.queue := List.filter_sublist
    apply (hdc.sublist hsub).imp_of_mem
    intro a b ha hb hab hb'
    simp only [Bool.not_eq_false'] at hb' ⊢
    exact hab hb' ⟨d, (mem_entriesOn.mp ha).2, (mem_entriesOn.mp hb).2⟩
  have := close_dropWhile_closed _ _ hpw e he
  simpa using this

theorem close_first_remaining (sel : List Nat) (d : Dest) :
    ((intsFor s d).dropWhile (fun i => !sel.contains i.pr)).head? =
      (lastTargeting (s.queue.filter fun e => sel.contains e.pr) d).map (close_mk (close_tip s) d) := by
  rw [close_dropWhile_intsFor h, List.head?_map, close_head_dropWhile, close_eval_lastTargeting_eq]
  unfold entriesOn
  simp only [Bool.not_not]

/-- The ref-based queue evaluation is the bookkeeping-based one on a robot-made (`InvV`, `QSync`, `CascadeSide`),
    tie-free state whose commit graph is a git graph (`close_Antisym`), for a downward-closed selection that selects
    a queued pull request: one atomic pruning push each, with the same content as a map of refs; same graph, same
    bookkeeping afterwards, same outcome. -/
theorem close_evalQueues_eq_partial (ha : close_Antisym s.g) (hsync : QSync s) (hcs : CascadeSide s) (hnt : NoTies s)
    (sel : List Nat) (hdc : DownClosed s sel) (hne : (s.queue.filter fun e => sel.contains e.pr) ≠ []) :
    ∃ loc loc', (QV.evalQueues s sel (close_wgone s sel)).ops = [.pushAll loc true] ∧
      (planQueues s sel).ops = [.pushAll loc' true] ∧ (∀ x, loc.get x = loc'.get x) ∧
      (QV.evalQueues s sel (close_wgone s sel)).g = (planQueues s sel).g ∧
      (QV.evalQueues s sel (close_wgone s sel)).queue = (planQueues s sel).queue ∧
      (QV.evalQueues s sel (close_wgone s sel)).outcome = (planQueues s sel).outcome := by
  have hq := h.inv.q
  have hc := close_build_matches h hnt
  have hval := close_validate_of_matches h hsync hcs hc
  have hcp : cascadePaths s = some (mergePaths (devsPresent s) (stabsPresent s.remote)) := by
    unfold cascadePaths
    simp only [hcs.1, Bool.false_eq_true, if_false]
  generalize hes : s.queue.filter (fun e => sel.contains e.pr) = es at hne
  have hesq : ∀ e, e ∈ es ↔ e ∈ s.queue ∧ sel.contains e.pr = true := by
    intro e; rw [← hes]; exact List.mem_filter
  have hsel : sel.isEmpty = false := by
    cases sel with
    | nil => rw [← hes] at hne; simp at hne
    | cons _ _ => rfl
  let p : QInt → Bool := fun i => !sel.contains i.pr
  have hn' : (keys (removeUnmergeable sel (build s.g s.remote))).Nodup := by
    rw [qv_keys_removeUnmergeable]; exact hc.nodup
  have hmaster : ∀ v' ∈ removeUnmergeable sel (build s.g s.remote), v'.master.isSome = true := by
    unfold removeUnmergeable
    rw [List.forall_mem_map]
    intro v hvc
    rw [hc.master v hvc]
    exact (hc.mem v.d).mp (List.mem_map.mpr ⟨v, hvc, rfl⟩)
  have hpre : ∀ v' ∈ removeUnmergeable sel (build s.g s.remote), ∀ x ∈ v'.ints.head?,
      ∃ t, (Loc.mk s.g s.remote []).refs.get (.dest v'.d) = some t ∧ s.g.le t x.tip = true := by
    unfold removeUnmergeable
    rw [List.forall_mem_map]
    intro v hvc x hx
    have hx2 : x ∈ intsFor s v.d := by
      rw [← hc.ints v hvc]; exact (List.dropWhile_sublist p).subset (List.mem_of_mem_head? hx)
    have hx3 := (close_mem_intsFor h).mp hx2
    obtain ⟨e, he, h1, h2, h3⟩ := close_qw_entry h hx3
    obtain ⟨c, t, hcq, ht, hle⟩ := hq.base.entry e he v.d h3
    have hcq' : s.remote.get (.qw e.pr v.d e.src) = some c := hcq
    rw [h1, h2, hx3] at hcq'
    obtain rfl := Option.some.inj hcq'
    exact ⟨t, ht, hle⟩
  obtain ⟨r, hr, hrg, hr2, hrother, hrdest⟩ := close_mergeQueues_exact ha h.inv.wf.g
    (removeUnmergeable sel (build s.g s.remote)) ⟨s.g, s.remote, []⟩ rfl hn' hmaster hpre
  have hev := close_evalQueues_unfold (wgone := close_wgone s sel) hcp hval hsel hr
  rw [hev, close_planQueues_eq hes hne]
  refine ⟨_, _, rfl, rfl, ?_, hrg, rfl, rfl⟩
  have hget := Flow.mergeEntries_get hq.base es s.remote (fun e he => ((hesq e).mp he).1) (fun _ _ _ => rfl)
  have hother : ∀ x, (∀ d, x ≠ .dest d) → (es.foldl mergeEntry s.remote).get x = s.remote.get x :=
    fun x hx => mergeEntries_other es s.remote x hx
  have hints : ∀ d, intsOf (removeUnmergeable sel (build s.g s.remote)) d = (intsFor s d).dropWhile p := by
    intro d; rw [qv_intsOf_removeUnmergeable, close_intsOf_build h hnt]
  have hgoneA : ∀ x, x ∈ r.2 ↔ ∃ d, ∃ e ∈ (entriesOn s d).reverse.dropWhile (fun e => !sel.contains e.pr),
      x = Ref.qw e.pr d e.src := by
    intro x
    rw [hr2, close_mem_goneOf hn']
    constructor
    · rintro ⟨d, i, hi, rfl⟩
      rw [hints, close_dropWhile_intsFor h] at hi
      obtain ⟨e, he, rfl⟩ := List.mem_map.mp hi
      exact ⟨d, e, he, rfl⟩
    · rintro ⟨d, e, he, rfl⟩
      refine ⟨d, close_mk (close_tip s) d e, ?_, rfl⟩
      rw [hints, close_dropWhile_intsFor h]
      exact List.mem_map.mpr ⟨e, he, rfl⟩
  have hgoneW : ∀ x, x ∈ (close_wgone s sel).map (fun p => Ref.w p.1 p.2) ↔
      ∃ e ∈ es, ∃ d ∈ e.targets, x = .w d e.src := by
    intro x
    unfold close_wgone
    rw [hes]
    simp only [List.mem_map, List.mem_flatMap]
    constructor
    · rintro ⟨_, ⟨e, he, d, hd, rfl⟩, rfl⟩
      exact ⟨e, he, d, hd, rfl⟩
    · rintro ⟨e, he, d, hd, rfl⟩
      exact ⟨(d, e.src), ⟨e, he, d, hd, rfl⟩, rfl⟩
  have hsame : ∀ x, x ∈ r.2 ++ (close_wgone s sel).map (fun p => Ref.w p.1 p.2) ↔
      x ∈ es.flatMap (fun e => e.targets.flatMap (fun d => [Ref.qw e.pr d e.src, Ref.w d e.src])) := by
    intro x
    rw [List.mem_append, hgoneA, hgoneW]
    simp only [List.mem_flatMap, List.mem_cons, List.not_mem_nil, or_false]
    constructor
    · rintro (⟨d, e, he, rfl⟩ | ⟨e, he, d, hd, rfl⟩)
      · have hsel' := close_remaining_selected hdc d e he
        have he' := mem_entriesOn.mp (List.mem_reverse.mp ((List.dropWhile_sublist _).subset he))
        exact ⟨e, (hesq e).mpr ⟨he'.1, hsel'⟩, d, he'.2, Or.inl rfl⟩
      · exact ⟨e, he, d, hd, Or.inr rfl⟩
    · rintro ⟨e, he, d, hd, rfl | rfl⟩
      · left
        obtain ⟨heq, hse⟩ := (hesq e).mp he
        refine ⟨d, e, ?_, rfl⟩
        apply close_mem_dropWhile
        · exact List.mem_reverse.mpr (mem_entriesOn.mpr ⟨heq, hd⟩)
        · simp only [hse, Bool.not_true]
      · right
        exact ⟨e, he, d, hd, rfl⟩
  intro x
  rw [get_delRefs, get_delRefs]
  by_cases hx : x ∈ es.flatMap (fun e => e.targets.flatMap (fun d => [Ref.qw e.pr d e.src, Ref.w d e.src]))
  · rw [if_pos ((hsame x).mpr hx), if_pos hx]
  · rw [if_neg (fun hh => hx ((hsame x).mp hh)), if_neg hx]
    by_cases hxd : ∃ d, x = .dest d
    · obtain ⟨d, rfl⟩ := hxd
      rw [hrdest d, hget d, hints, close_first_remaining h, hes]
      cases hl : lastTargeting es d with
      | none => rfl
      | some e =>
        obtain ⟨hees, hed⟩ := lastTargeting_mem hl
        obtain ⟨c, _, hcq, _, _⟩ := hq.base.entry e ((hesq e).mp hees).1 d hed
        simp only [Option.map_some, close_mk, close_tip_eq hcq]
        exact hcq.symm
    · have hxd' : ∀ d, x ≠ .dest d := fun d he => hxd ⟨d, he⟩
      rw [hrother x hxd', hother x hxd']

end

theorem close_dropWhile_all {α : Type} (p : α → Bool) (l : List α) (h : ∀ x ∈ l, p x = true) : l.dropWhile p = [] := by
  simpa using List.dropWhile_append_of_pos (l₂ := []) h

theorem close_mergeQueues_empty : ∀ (c : Coll) (l : Loc), (∀ v ∈ c, v.ints = []) →
    mergeQueues l c = none ∨ mergeQueues l c = some (l, [])
  | [], _, _ => Or.inr rfl
  | v :: vs, l, h => by
    unfold mergeQueues
    cases v.master with
    | none => exact Or.inl rfl
    | some _ =>
      simp only [h v List.mem_cons_self]
      exact close_mergeQueues_empty vs l (fun w hw => h w (List.mem_cons_of_mem _ hw))

/-- no queued pull request selected: the bookkeeping-based evaluation has no operation; the ref-based one has
    none, or a single atomic pruning push whose content is the remote as it is (a no-op) -/
theorem close_evalQueues_none {s : Sys} (h : InvV s) (hnt : NoTies s) (sel : List Nat)
    (hnone : (s.queue.filter fun e => sel.contains e.pr) = []) :
    (planQueues s sel).ops = [] ∧ (planQueues s sel).g = s.g ∧ (planQueues s sel).queue = s.queue ∧
    (QV.evalQueues s sel (close_wgone s sel)).g = s.g ∧
    ((QV.evalQueues s sel (close_wgone s sel)).ops = [] ∨
      ∃ loc, (QV.evalQueues s sel (close_wgone s sel)).ops = [.pushAll loc true] ∧
        (∀ x, loc.get x = s.remote.get x) ∧
        (QV.evalQueues s sel (close_wgone s sel)).queue = s.queue) := by
  have hpq : planQueues s sel = ⟨s.g, [], "nothing-selected", s.queue⟩ := by
    unfold planQueues
    simp only [hnone, List.isEmpty_nil, if_true]
  have hw : close_wgone s sel = [] := by unfold close_wgone; rw [hnone]; rfl
  have hc := close_build_matches h hnt
  have hunsel : ∀ e ∈ s.queue, sel.contains e.pr = false :=
    fun e he => by simpa using List.filter_eq_nil_iff.mp hnone e he
  have hqueue : s.queue.filter (fun e => !sel.contains e.pr) = s.queue :=
    List.filter_eq_self.mpr (fun e he => by rw [hunsel e he]; rfl)
  have hall : ∀ v' ∈ removeUnmergeable sel (build s.g s.remote), v'.ints = [] := by
    unfold removeUnmergeable
    rw [List.forall_mem_map]
    intro v hvc
    apply close_dropWhile_all
    intro x hx
    rw [hc.ints v hvc] at hx
    obtain ⟨e, he, h1, _, _⟩ := close_qw_entry h ((close_mem_intsFor h).mp hx)
    rw [← h1, hunsel e he]
    rfl
  have key : (∃ o, evalQueues s sel (close_wgone s sel) = ⟨s.g, [], o, s.queue⟩) ∨
      evalQueues s sel (close_wgone s sel) = ⟨s.g, [.pushAll (delRefs s.remote ([] ++
        (close_wgone s sel).map (fun p => Ref.w p.1 p.2))) true], "Merged",
        s.queue.filter (fun e => !sel.contains e.pr)⟩ := by
    unfold evalQueues
    cases hcp : cascadePaths s with
    | none => exact Or.inl ⟨_, rfl⟩
    | some paths =>
      simp only
      cases hv : validate s.g s.remote (build s.g s.remote) paths with
      | error e => exact Or.inl ⟨_, rfl⟩
      | ok l =>
        cases l with
        | cons _ _ => exact Or.inl ⟨_, rfl⟩
        | nil =>
          simp only
          by_cases hse : sel.isEmpty = true
          · rw [if_pos hse]; exact Or.inl ⟨_, rfl⟩
          · rw [if_neg hse]
            rcases close_mergeQueues_empty _ ⟨s.g, s.remote, []⟩ hall with h0 | h0
            · rw [h0]; exact Or.inl ⟨_, rfl⟩
            · rw [h0]; exact Or.inr rfl
  refine ⟨by rw [hpq], by rw [hpq], by rw [hpq], ?_, ?_⟩
  · rcases key with ⟨o, hk⟩ | hk <;> rw [hk]
  · rcases key with ⟨o, hk⟩ | hk
    · rw [hk]; exact Or.inl rfl
    · rw [hk]
      refine Or.inr ⟨_, rfl, ?_, hqueue⟩
      intro x
      rw [hw]
      rfl

theorem close_updatesOk_iff (loc : RefMap) (f : Ref × Commit → Bool) :
    loc.all (fun rc => loc.get rc.1 != some rc.2 || f rc) = true ↔
      ∀ r c, loc.get r = some c → f (r, c) = true := by
  rw [List.all_eq_true]
  constructor
  · intro hall r c hg
    have := hall (r, c) (RefMap.get_mem hg)
    simpa [hg] using this
  · intro hf rc _
    by_cases hg : loc.get rc.1 = some rc.2
    · simp [hg, hf rc.1 rc.2 hg]
    · simp [hg]

theorem close_pushAll_congr {loc loc' : RefMap} (hget : ∀ x, loc.get x = loc'.get x) (g : Graph) (rej : Ref → Bool)
    (m : RefMap) :
    ∀ x, (applyOp g rej m (.pushAll loc true)).get x = (applyOp g rej m (.pushAll loc' true)).get x := by
  have h1 : ∀ f : Ref × Commit → Bool, loc.all (fun rc => loc.get rc.1 != some rc.2 || f rc) =
      loc'.all (fun rc => loc'.get rc.1 != some rc.2 || f rc) := by
    intro f
    rw [Bool.eq_iff_iff, close_updatesOk_iff, close_updatesOk_iff]
    simp only [hget]
  have h2 : m.all (fun rc => loc.has rc.1 || !rej rc.1) = m.all (fun rc => loc'.has rc.1 || !rej rc.1) := by
    simp only [RefMap.has, hget]
  intro x
  simp only [applyOp, Bool.or_assoc, h1, h2]
  split
  · exact hget x
  · rfl

/-- the same observable effect, whatever the server refuses (`rej`) and wherever the job is interrupted (`k`) -/
theorem close_evalQueues_observable {s : Sys} (h : InvV s) (ha : close_Antisym s.g) (hsync : QSync s)
    (hcs : CascadeSide s) (hnt : NoTies s) (sel : List Nat) (hdc : DownClosed s sel)
    (hne : (s.queue.filter fun e => sel.contains e.pr) ≠ []) (rej : Ref → Bool) (k : Nat) (x : Ref) :
    (applyOps (QV.evalQueues s sel (close_wgone s sel)).g rej s.remote
        ((QV.evalQueues s sel (close_wgone s sel)).ops.take k)).get x =
      (applyOps (planQueues s sel).g rej s.remote ((planQueues s sel).ops.take k)).get x := by
  obtain ⟨loc, loc', h1, h2, h3, h4, _, _⟩ := close_evalQueues_eq_partial h ha hsync hcs hnt sel hdc hne
  rw [h1, h2, h4]
  cases k with
  | zero => rfl
  | succ k =>
    simp only [List.take_succ_cons, List.take_nil, applyOps, List.foldl_cons, List.foldl_nil]
    exact close_pushAll_congr h3 _ rej s.remote x

theorem close_evalQueues_none_observable {s : Sys} (h : InvV s) (hnt : NoTies s) (sel : List Nat)
    (hnone : (s.queue.filter fun e => sel.contains e.pr) = []) (rej : Ref → Bool) (k : Nat) (x : Ref) :
    (applyOps (QV.evalQueues s sel (close_wgone s sel)).g rej s.remote
        ((QV.evalQueues s sel (close_wgone s sel)).ops.take k)).get x =
      (applyOps (planQueues s sel).g rej s.remote ((planQueues s sel).ops.take k)).get x := by
  obtain ⟨h1, _, _, _, h5⟩ := close_evalQueues_none h hnt sel hnone
  rw [h1]
  simp only [List.take_nil, applyOps, List.foldl_nil]
  rcases h5 with h5 | ⟨loc, h5, h6, _⟩
  · rw [h5]; simp only [List.take_nil, List.foldl_nil]
  · rw [h5]
    cases k with
    | zero => rfl
    | succ k =>
      simp only [List.take_succ_cons, List.take_nil, List.foldl_cons, List.foldl_nil, applyOp]
      split
      · exact h6 x
      · rfl

theorem close_exSys_mono : close_Mono exSys.g := by
  intro c a ha
  have H : ∀ c' < exSys.g.size, ∀ a' ∈ exSys.g.ancsOf c', a' ≤ c' := by decide +kernel
  by_cases hc : c < exSys.g.size
  · exact H c hc a ha
  · rw [ancsOf_ge (Nat.le_of_not_lt hc)] at ha; cases ha

theorem close_exSys_qsync : QSync exSys := close_qsync_of_b (by decide +kernel)

/-- a decidable sufficient condition for `DownClosed` -/
theorem close_downClosed_of_older {s : Sys} {sel : List Nat}
    (h : s.queue.Pairwise fun e e' => sel.contains e'.pr = true → sel.contains e.pr = true) : DownClosed s sel :=
  h.imp fun hab hb _ => hab hb

/-- the hypotheses of `close_evalQueues_eq_partial` hold on the example state for the selection `[1]` (the older of the
    two queued pull requests) -/
example : ∃ loc loc', (QV.evalQueues exSys [1] (close_wgone exSys [1])).ops = [.pushAll loc true] ∧
    (planQueues exSys [1]).ops = [.pushAll loc' true] ∧ (∀ x, loc.get x = loc'.get x) ∧
    (QV.evalQueues exSys [1] (close_wgone exSys [1])).g = (planQueues exSys [1]).g ∧
    (QV.evalQueues exSys [1] (close_wgone exSys [1])).queue = (planQueues exSys [1]).queue ∧
    (QV.evalQueues exSys [1] (close_wgone exSys [1])).outcome = (planQueues exSys [1]).outcome := by
  -- one evaluation of the example state for the four decidable hypotheses
  have h : CascadeSide exSys ∧ NoTies exSys ∧
      (exSys.queue.Pairwise fun e e' => [1].contains e'.pr = true → [1].contains e.pr = true) ∧
      (exSys.queue.filter fun e => [1].contains e.pr) ≠ [] := by decide +kernel
  -- `@`: elaborated as a plain application, `QSync exSys` is unfolded down to the queue of the example state
  exact close_evalQueues_eq_partial close_exSys_invV (close_mono_antisym close_exSys_mono) @close_exSys_qsync
    h.1 h.2.1 [1] (close_downClosed_of_older h.2.2.1) h.2.2.2

/-- and the two plans are not trivial there: one push each; `development/4.3` and `development/5.1` move to the queue
    commit of pull request 1 (commit 1), its queue-integration branches go, those of pull request 2 stay -/
example :
    (match (QV.evalQueues exSys [1] (close_wgone exSys [1])).ops, (planQueues exSys [1]).ops with
     | [.pushAll loc true], [.pushAll loc' true] =>
       ([Ref.dest (.dev 4 (some 3)), .dest (.dev 5 (some 1)), .q (.dev 5 (some 1)),
         .qw 1 (.dev 4 (some 3)) "feature/a", .qw 1 (.dev 5 (some 1)) "feature/a",
         .qw 2 (.dev 5 (some 1)) "feature/b"].map loc.get,
        [Ref.dest (.dev 4 (some 3)), .dest (.dev 5 (some 1)), .q (.dev 5 (some 1)),
         .qw 1 (.dev 4 (some 3)) "feature/a", .qw 1 (.dev 5 (some 1)) "feature/a",
         .qw 2 (.dev 5 (some 1)) "feature/b"].map loc'.get)
     | _, _ => ([], [])) =
    ([some 1, some 1, some 3, none, none, some 3], [some 1, some 1, some 3, none, none, some 3]) := by decide +kernel

end BertE.Close
