import BertE.Lemmas.CloseC20
/-
The queue collection computed from the heads of a reachable state satisfies `Admin.QueuesWF` — provided the last
non-hotfix key of the sorted keys is the greatest development branch that has a queue (`hlast`; `compare_queues` is
not transitive when a hotfix, a stabilization and a development queue share major.minor, and the sort can then leave
a stabilization queue last: `Lemmas/CloseC20Ex.lean`).
-/
namespace BertE.Close
open BertE.Git BertE.Flow BertE.Select

theorem close_isHotfix_eq (d : Dest) : Admin.Dest.isHotfix d = isHf d := by cases d <;> rfl

theorem close_qDest_eq (r : Ref) : Admin.qDest r = Select.qDest r := by cases r <;> rfl

theorem close_mem_queueKeys {heads : RefMap} {d : Dest} : d ∈ Admin.queueKeys heads ↔ d ∈ queueDests heads := by
  rw [Admin.mem_queueKeys]
  unfold queueDests
  rw [mem_dedup, List.mem_filterMap]
  constructor
  · rintro ⟨r, c, hm, hq⟩
    exact ⟨(r, c), hm, by rw [← close_qDest_eq]; exact hq⟩
  · rintro ⟨⟨r, c⟩, hm, hq⟩
    exact ⟨r, c, hm, by rw [close_qDest_eq]; exact hq⟩

theorem close_filter_sublist {α : Type} {p q : α → Bool} {l : List α}
    (h : ∀ a ∈ l, p a = true → q a = true) : (l.filter p).Sublist (l.filter q) := by
  have : l.filter p = (l.filter q).filter p := by
    rw [List.filter_filter]
    refine List.filter_congr fun a ha => ?_
    cases hp : p a
    · rfl
    · rw [h a ha hp]; rfl
  rw [this]
  exact List.filter_sublist

theorem close_mem_idsOn {s : Sys} {d : Dest} {p : Nat} :
    p ∈ idsOn s d ↔ ∃ e ∈ s.queue, d ∈ e.targets ∧ e.pr = p := by
  rw [idsOn_eq, List.mem_reverse, List.mem_map]
  constructor
  · rintro ⟨e, he, hp⟩
    obtain ⟨h1, h2⟩ := mem_entriesOn.mp he
    exact ⟨e, h1, h2, hp⟩
  · rintro ⟨e, h1, h2, hp⟩
    exact ⟨e, mem_entriesOn.mpr ⟨h1, h2⟩, hp⟩

theorem close_idsOn_sublist {s : Sys} {d d' : Dest} (hsub : ∀ e ∈ s.queue, d ∈ e.targets → d' ∈ e.targets) :
    (idsOn s d).Sublist (idsOn s d') := by
  rw [idsOn_eq, idsOn_eq]
  apply List.Sublist.reverse
  apply List.Sublist.map
  unfold entriesOn
  apply close_filter_sublist
  intro e he hd
  rw [List.contains_iff_mem] at hd ⊢
  exact hsub e he hd

section
variable {s : Sys} (h : InvV s)
include h

theorem close_idsOn_nodup (d : Dest) : (idsOn s d).Nodup := by
  rw [idsOn_eq]
  refine (List.reverse_perm _).nodup_iff.mpr ?_
  have hsub : (entriesOn s d).Sublist s.queue := List.filter_sublist
  exact List.Nodup.sublist (hsub.map _) h.inv.q.ids

theorem close_same_entry {d d' : Dest} {p : Nat} (hp : p ∈ idsOn s d) (hp' : p ∈ idsOn s d') :
    ∃ e ∈ s.queue, d ∈ e.targets ∧ d' ∈ e.targets := by
  obtain ⟨e, he, hd, hpr⟩ := close_mem_idsOn.mp hp
  obtain ⟨e', he', hd', hpr'⟩ := close_mem_idsOn.mp hp'
  have : e = e' := close_eq_of_pr h.inv.q.ids he he' (hpr.trans hpr'.symm)
  subst this
  exact ⟨e, he, hd, hd'⟩

theorem close_queuesWF (hnt : NoTies s) (hk : Admin.KeysNodup s.remote)
    (hlast : ∀ l, Admin.lastDev (Admin.queuesOf s.g s.remote) = some l → ∀ g, gDev s = some g → l.1 = devDest g) :
    Admin.QueuesWF (Admin.queuesOf s.g s.remote) := by
  have hv := close_validated_of_invV h
  have heq := close_queuesOf_eq h hnt hk
  have hmem : ∀ e ∈ Admin.queuesOf s.g s.remote, e.1 ∈ queueDests s.remote ∧ e.2 = idsOn s e.1 := by
    intro e he
    rw [heq] at he
    obtain ⟨d, hd, rfl⟩ := List.mem_map.mp he
    exact ⟨close_mem_queueKeys.mp hd, rfl⟩
  refine ⟨?_, ?_, ?_, ?_⟩
  · intro e he _
    rw [(hmem e he).2]
    exact close_idsOn_nodup h _
  · rw [heq, List.pairwise_map]
    refine (close_queueKeys_nodup s.remote).imp ?_
    intro d d' hne hf _ p hp hp'
    obtain ⟨e, he, hd, hd'⟩ := close_same_entry h hp hp'
    rw [close_isHotfix_eq] at hf
    exact hne (hotfix_alone h.inv.q.base he hd hf hd').symm
  · intro e he e' he' hf hf' p hp hp'
    rw [(hmem e he).2] at hp
    rw [(hmem e' he').2] at hp'
    obtain ⟨x, hx, hd, hd'⟩ := close_same_entry h hp hp'
    rw [close_isHotfix_eq] at hf
    have := hotfix_alone h.inv.q.base hx hd hf hd'
    rw [close_isHotfix_eq, this, hf] at hf'
    cases hf'
  · intro e he hf l hl
    obtain ⟨hlm, _⟩ := Admin.lastDev_mem hl
    rw [close_isHotfix_eq] at hf
    obtain ⟨g, hg, hcase⟩ := below_gDev h.inv hv (hmem e he).1 hf
    have hl1 := hlast l hl g hg
    rw [(hmem e he).2, (hmem l hlm).2, hl1]
    rcases hcase with hd | hb
    · rw [hd]; exact List.Sublist.refl _
    · apply close_idsOn_sublist
      intro x hx hd
      exact h.inv.q.base.closed x hx _ hd _ hb (dest_present_of_queueDest h.inv hv (mem_devKeys.mp (gDev_mem hg)).2)

theorem close_lastDev_nodup (hnt : NoTies s) (hk : Admin.KeysNodup s.remote) :
    ∀ l, Admin.lastDev (Admin.queuesOf s.g s.remote) = some l → l.2.Nodup := by
  intro l hl
  obtain ⟨hlm, _⟩ := Admin.lastDev_mem hl
  rw [close_queuesOf_eq h hnt hk] at hlm
  obtain ⟨d, _, rfl⟩ := List.mem_map.mp hlm
  exact close_idsOn_nodup h d

end

end BertE.Close
