import BertE.Lemmas.CloseVert
/-
Completeness of the modelled `QueueCollection.validate()`: `_vertical_validation` along the merge paths, and the whole
(`close_validate_of_matches`), on a collection that matches the bookkeeping.
-/
namespace BertE.Close
open BertE.Git BertE.Flow BertE.Select BertE.QV

def close_hasQ (s : Sys) (d : Dest) : Bool := (s.remote.get (.q d)).isSome

/-- what `_vertical_validation` needs of a merge path: cascade order, its development branches are those of the
    bookkeeping, it ends with a development branch -/
structure close_GoodPath (s : Sys) (p : List Dest) : Prop where
  sorted : p.Pairwise (fun a b => a.before b = true)
  devs : ∀ M m, Dest.dev M m ∈ p → (M, m) ∈ s.devs
  lastDev : ∃ pre k, p = pre ++ [devDest k]

theorem close_mem_devmap {ks : List Key} {M : Nat} {m : Option Nat}
    (h : Dest.dev M m ∈ ks.map (fun k => Dest.dev k.1 k.2)) : (M, m) ∈ ks := by
  obtain ⟨k, hk, he⟩ := List.mem_map.mp h
  cases he
  exact hk

theorem close_devmap_last {ks : List Key} (h : ks ≠ []) :
    ∃ pre k, ks.map (fun k => Dest.dev k.1 k.2) = pre ++ [devDest k] := by
  refine ⟨ks.dropLast.map (fun k => Dest.dev k.1 k.2), ks.getLast h, ?_⟩
  conv => lhs; rw [← List.dropLast_concat_getLast h]
  rw [List.map_append]
  rfl

theorem close_stabPaths_good {s : Sys} (stabs : List (Nat × Nat × Nat)) : ∀ (ks : List Key), SortedKeys ks →
    (∀ k ∈ ks, k ∈ s.devs) → ∀ p ∈ stabPaths stabs ks, close_GoodPath s p := by
  intro ks
  induction ks with
  | nil => exact fun _ _ _ hp => nomatch hp
  | cons k ks ih =>
    intro hs hm p hp
    simp only [stabPaths] at hp
    have hs' := List.pairwise_cons.mp hs
    rcases List.mem_append.mp hp with h | h
    · cases hsf : stabsFor stabs k with
      | nil => rw [hsf] at h; cases h
      | cons st tl =>
        rw [hsf, List.mem_singleton] at h
        subst h
        -- the stabilization branch found is the one of the key `k`
        have hst := (List.mem_filter.mp (hsf ▸ List.mem_cons_self : st ∈ stabsFor stabs k)).2
        simp only [Bool.and_eq_true, beq_iff_eq] at hst
        have hk : k = (st.1, some st.2.1) := Prod.ext hst.1 hst.2
        refine ⟨List.Pairwise.cons ?_ (qv_devs_pairwise hs), ?_, ?_⟩
        · intro d hd
          obtain ⟨k', hk', rfl⟩ := List.mem_map.mp hd
          show keyLe (st.1, some st.2.1) k' = true
          rw [← hk]
          rcases List.mem_cons.mp hk' with rfl | h'
          · simp [keyLe]
          · simp [keyLe, hs'.1 k' h']
        · intro M m hmem
          rcases List.mem_cons.mp hmem with he | hmem'
          · cases he
          · exact hm _ (close_mem_devmap hmem')
        · obtain ⟨pre, kl, he⟩ := close_devmap_last (ks := k :: ks) (by simp)
          exact ⟨Dest.stab st.1 st.2.1 st.2.2 :: pre, kl, by rw [he]; rfl⟩
    · exact ih hs'.2 (fun k' hk' => hm k' (List.mem_cons_of_mem _ hk')) p h

theorem close_devsPresent_eq {s : Sys} (hv : VX s) : devsPresent s = s.devs :=
  List.filter_eq_self.mpr hv.devsHave

theorem close_paths_good {s : Sys} (h : InvV s) (hcs : CascadeSide s) :
    ∀ p ∈ mergePaths (devsPresent s) (stabsPresent s.remote), close_GoodPath s p := by
  rw [close_devsPresent_eq h.vx]
  intro p hp
  unfold mergePaths at hp
  rcases List.mem_cons.mp hp with rfl | hp'
  · exact ⟨qv_devs_pairwise h.inv.wf.sorted, fun M m hm => close_mem_devmap hm, close_devmap_last hcs.2⟩
  · exact close_stabPaths_good _ s.devs h.inv.wf.sorted (fun _ hk => hk) p hp'

theorem close_find_some {s : Sys} {c : Coll} (hc : CollMatches s c) {d : Dest} (h : close_hasQ s d = true) :
    ∃ v, c.find? (fun v => v.d == d) = some v ∧ v ∈ c ∧ v.d = d := by
  obtain ⟨v, hv, rfl⟩ := List.mem_map.mp ((hc.mem d).mpr h)
  cases hf : c.find? (fun w => w.d == v.d) with
  | none => exact absurd (beq_self_eq_true _) (List.find?_eq_none.mp hf v hv)
  | some w => exact ⟨w, rfl, List.mem_of_find?_eq_some hf, by simpa using List.find?_some hf⟩

theorem close_find_none {s : Sys} {c : Coll} (hc : CollMatches s c) {d : Dest} (h : close_hasQ s d = false) :
    c.find? (fun v => v.d == d) = none := by
  rw [List.find?_eq_none]
  intro v hv hvd
  have := (hc.mem d).mp (List.mem_map.mpr ⟨v, hv, by simpa using hvd⟩)
  exact Bool.false_ne_true (h.symm.trans this)

theorem close_find_ints {s : Sys} {c : Coll} (hc : CollMatches s c) (d : Dest) :
    (c.find? (fun v => v.d == d)).map (·.ints) = if close_hasQ s d = true then some (intsFor s d) else none := by
  cases hq : close_hasQ s d with
  | false => rw [close_find_none hc hq]; rfl
  | true =>
    obtain ⟨v, hv, hvc, rfl⟩ := close_find_some hc hq
    rw [hv, Option.map_some, hc.ints v hvc]
    rfl

theorem close_hfDetected_false : ∀ (stack : Coll), (∀ v ∈ stack, (verLen v.d == 4) = false) →
    hfDetected stack = false
  | [], _ => rfl
  | [v], h => h v List.mem_cons_self
  | _ :: _ :: _, _ => rfl

theorem close_entriesOn_last {s : Sys} (h : InvV s) {k : Key} (hk : k ∈ s.devs) {d : Dest}
    (hd : d = devDest k ∨ d.before (devDest k) = true) :
    entriesOn s d = (entriesOn s (devDest k)).filter (fun e => e.targets.contains d) := by
  unfold entriesOn
  rw [List.filter_filter]
  refine List.filter_congr fun e he => ?_
  cases hc : e.targets.contains d with
  | false => rfl
  | true =>
    -- an entry on `d` is on the last version too
    have hl : e.targets.contains (devDest k) = true := by
      rcases hd with rfl | hb
      · exact hc
      · rw [List.contains_iff_mem] at hc ⊢
        exact h.inv.q.base.closed e he d hc _ hb (h.vx.devsHave k hk)
    rw [hl]
    rfl

theorem close_intsFor_last {s : Sys} (h : InvV s) {k : Key} (hk : k ∈ s.devs) {d : Dest}
    (hd : d = devDest k ∨ d.before (devDest k) = true) :
    intsFor s d = close_ints (close_tip s) (entriesOn s (devDest k)) d := by
  rw [close_intsFor_eq h.inv.q.base, close_entriesOn_last h hk hd]
  rfl

theorem close_entry_vert {s : Sys} (h : Inv s) {e : QEntry} (he : e ∈ s.queue) :
    ∀ a ∈ e.targets, ∀ b ∈ e.targets, a.before b = true →
      s.g.le (close_tip s e a) (close_tip s e b) = true := by
  intro a ha b hb hab
  have hsub := qv_sublist_of_sorted (h.q.base.ordered e he) ha hb hab
  have hp := (h.q.base.vert e he).sublist hsub
  obtain ⟨ca, _, hca, _, _⟩ := h.q.base.entry e he a ha
  obtain ⟨cb, _, hcb, _, _⟩ := h.q.base.entry e he b hb
  rw [close_tip_eq hca, close_tip_eq hcb]
  exact (List.pairwise_cons.mp hp).1 b List.mem_cons_self ca cb hca hcb

theorem close_entry_closed {s : Sys} (h : Inv s) {e : QEntry} (he : e ∈ s.queue) :
    ∀ a ∈ e.targets, ∀ b, a.before b = true → close_hasQ s b = true → b ∈ e.targets :=
  fun a ha b hab hq => h.q.base.closed e he a ha b hab (h.q.qdest b hq)

/-- the last development key of the stack (what `_extract_pr_ids` calls `greatest_dev`) is the greatest version -/
theorem close_last_dev_key {stack : Coll} {lv : VQ}
    (hpw : ((keys stack).filter (fun d => verLen d == 2)).Pairwise (fun a b => a.before b = true))
    (hlv : lv ∈ stack) (h2 : (verLen lv.d == 2) = true)
    (hmax : ∀ v ∈ stack, v.d = lv.d ∨ v.d.before lv.d = true) :
    ∃ gd, stack.reverse.find? (fun v => verLen v.d == 2) = some gd ∧ gd ∈ stack ∧ gd.d = lv.d := by
  -- the development entries of the reversed stack are in descending cascade order: the first is the greatest
  have hpw' : (stack.reverse.filter (fun v => verLen v.d == 2)).Pairwise (fun a b => b.d.before a.d = true) := by
    rw [List.filter_reverse, List.pairwise_reverse]
    rw [keys, List.filter_map, List.pairwise_map] at hpw
    exact hpw
  have hlv' : lv ∈ stack.reverse.filter (fun v => verLen v.d == 2) :=
    List.mem_filter.mpr ⟨List.mem_reverse.mpr hlv, h2⟩
  rw [← List.head?_filter]
  cases hF : stack.reverse.filter (fun v => verLen v.d == 2) with
  | nil => rw [hF] at hlv'; cases hlv'
  | cons gd tl =>
    have hgm : gd ∈ stack :=
      List.mem_reverse.mp (List.mem_filter.mp (hF ▸ List.mem_cons_self : gd ∈ stack.reverse.filter _)).1
    refine ⟨gd, rfl, hgm, ?_⟩
    rw [hF] at hlv' hpw'
    rcases hmax gd hgm with h | hb
    · exact h
    · rcases List.mem_cons.mp hlv' with rfl | ht
      · rfl
      · have := (List.pairwise_cons.mp hpw').1 lv ht
        rw [Dest.before_asymm hb] at this
        cases this

theorem close_extract {stack : Coll} (hnh : ∀ v ∈ stack, (verLen v.d == 4) = false) {gd : VQ}
    (hf : stack.reverse.find? (fun v => verLen v.d == 2) = some gd) (hnd : (gd.ints.map (·.pr)).Nodup) :
    extractPrIds stack = (gd.ints.map (·.pr)).reverse := by
  unfold extractPrIds
  simp only [close_hfPart_nil stack hnh, hf, List.nil_append]
  rw [close_insertNew_nodup _ [] (by simpa using hnd)]
  simp

theorem close_vertical_tail (ls : List Level) (hnh : NoHf (ls.map (·.d)))
    (h : ∀ e ∈ ls, e.ints = none ∨ e.ints = some []) :
    (if !(skipHf ls []).2.isEmpty then [Err.QueueInconsistentPullRequestsOrder] else leftOver (skipHf ls []).1) = [] := by
  rw [qv_skipHf_noHf ls [] hnh]
  simp only [List.isEmpty_nil, Bool.not_true, Bool.false_eq_true, if_false]
  exact close_leftOver_nil ls h

theorem close_vertical_core {s : Sys} (h : InvV s) {c : Coll} (hc : CollMatches s c) {pre : List Dest} {k : Key}
    (hp : close_GoodPath s (pre ++ [devDest k])) (stack : Coll)
    (hfind : ∀ d ∈ pre ++ [devDest k], stack.find? (fun v => v.d == d) = c.find? (fun v => v.d == d))
    (hsub : ∀ v ∈ stack, v ∈ c ∧ v.d ∈ pre ++ [devDest k])
    (hdo : ((keys stack).filter fun d => verLen d == 2).Pairwise fun a b => a.before b = true) :
    vertical s.g stack (pre ++ [devDest k]) = .ok [] := by
  have hI := h.inv
  have hk : k ∈ s.devs := hp.devs k.1 k.2 (by simp [devDest])
  have hsorted := List.pairwise_append.mp hp.sorted
  have hbef : ∀ d ∈ pre, d.before (devDest k) = true :=
    fun d hd => hsorted.2.2 d hd _ (List.mem_singleton.mpr rfl)
  have hnh : NoHf (pre ++ [devDest k]) := by
    intro d hd
    rcases List.mem_append.mp hd with h1 | h1
    · have := hbef d h1
      cases d with
      | hotfix _ _ _ => cases this
      | dev _ _ => simp [verLen]
      | stab _ _ _ => simp [verLen]
    · rw [List.mem_singleton.mp h1]
      simp [verLen, devDest]
  have hup : ∀ a ∈ pre ++ [devDest k], ∀ b ∈ pre ++ [devDest k], a.before b = true →
      close_hasQ s a = true → close_hasQ s b = true := by
    intro a _ b hb hab hqa
    obtain ⟨M, m, rfl⟩ := Dest.before_right_dev hab
    exact h.vx.qUpper a hqa (M, m) (hp.devs M m hb) hab
  have hfs : ∀ d ∈ pre ++ [devDest k], (stack.find? (fun v => v.d == d)).isSome = close_hasQ s d := by
    intro d hd
    rw [hfind d hd, ← Option.isSome_map (f := (·.ints)), close_find_ints hc]
    cases close_hasQ s d <;> rfl
  have hstk_nh : ∀ v ∈ stack, (verLen v.d == 4) = false := fun v hv => by
    simpa using hnh v.d (hsub v hv).2
  have hhf : hfDetected stack = false := close_hfDetected_false stack hstk_nh
  have hfl : firstLoop stack false (pre ++ [devDest k]) false = [] := by
    apply close_firstLoop_nil stack
    · intro d v hf
      have hvc := (hsub v (List.mem_of_find?_eq_some hf)).1
      obtain ⟨q, hq⟩ := Option.isSome_iff_exists.mp ((hc.mem v.d).mp (List.mem_map.mpr ⟨v, hvc, rfl⟩))
      rw [hc.master v hvc, hq]
      rfl
    · apply hp.sorted.imp_of_mem
      intro a b ha hb hab
      rw [hfs a ha, hfs b hb]
      exact hup a ha b hb hab
    · intro h'; cases h'
  have hlastmem : devDest k ∈ pre ++ [devDest k] := by simp
  unfold vertical
  rw [List.getLast?_concat]
  simp only [hhf, hfl, List.any_nil, Bool.false_eq_true, if_false, List.map_nil, List.nil_append]
  cases hq : close_hasQ s (devDest k) with
  | false => rw [hfind _ hlastmem, close_find_none hc hq]
  | true =>
    obtain ⟨lv, hlv, hlvc, hlvd⟩ := close_find_some hc hq
    have hlvs : lv ∈ stack := List.mem_of_find?_eq_some ((hfind _ hlastmem).trans hlv)
    rw [hfind _ hlastmem, hlv]
    simp only
    -- `E`: the queued pull requests of the last version, oldest first; every level of the path is `E` filtered
    obtain ⟨E, hE⟩ : ∃ E, entriesOn s (devDest k) = E := ⟨_, rfl⟩
    have hEmem : ∀ e ∈ E.reverse, e ∈ s.queue ∧ devDest k ∈ e.targets :=
      fun e he => mem_entriesOn.mp (hE ▸ List.mem_reverse.mp he)
    have hints : lv.ints = E.reverse.map (close_mk (close_tip s) (devDest k)) := by
      rw [hc.ints lv hlvc, hlvd, close_intsFor_eq hI.q.base, hE]
    have hlower : (pre ++ [devDest k]).dropLast.reverse.map (levelOf stack) =
        pre.reverse.map (close_lev (close_hasQ s) (close_tip s) E.reverse.reverse) := by
      rw [List.dropLast_concat, List.reverse_reverse]
      refine List.map_congr_left fun d hd => ?_
      have hdp : d ∈ pre := List.mem_reverse.mp hd
      unfold levelOf close_lev
      rw [hfind d (List.mem_append_left _ hdp), close_find_ints hc, ← hE,
        close_intsFor_last h hk (Or.inr (hbef d hdp))]
    have hndR : (E.reverse.map (·.pr)).Nodup := by
      rw [List.map_reverse, (List.reverse_perm _).nodup_iff, ← hE]
      exact List.Nodup.sublist (List.filter_sublist.map _) hI.q.ids
    have hmp : lv.ints.map (·.pr) = E.reverse.map (·.pr) := by
      rw [hints, List.map_map]
      rfl
    have hprs : extractPrIds stack = (E.reverse.map (·.pr)).reverse := by
      have hmax : ∀ v ∈ stack, v.d = lv.d ∨ v.d.before lv.d = true := by
        intro v hv
        rw [hlvd]
        rcases List.mem_append.mp (hsub v hv).2 with h1 | h1
        · exact Or.inr (hbef _ h1)
        · exact Or.inl (List.mem_singleton.mp h1)
      obtain ⟨gd, hgf, hgm, hgd⟩ := close_last_dev_key hdo hlvs (by rw [hlvd]; rfl) hmax
      have hgi : gd.ints = lv.ints := by
        rw [hc.ints gd (hsub gd hgm).1, hc.ints lv hlvc, hgd]
      rw [close_extract hstk_nh hgf (by rw [hgi, hmp]; exact hndR), hgi, hmp]
    have hw := close_while s.g (close_hasQ s) (close_tip s) (devDest k) pre.reverse
      (fun d hd => hbef d (List.mem_reverse.mp hd))
      (List.pairwise_reverse.mpr hsorted.1)
      (fun a ha a' ha' hab hq' => hup a' (List.mem_append_left _ (List.mem_reverse.mp ha'))
        a (List.mem_append_left _ (List.mem_reverse.mp ha)) hab hq')
      E.reverse (E.reverse.map (·.pr)).reverse (List.reverse_perm _) hndR
      (fun e he => (hEmem e he).2)
      (fun e he => close_entry_vert hI (hEmem e he).1)
      (fun e he => close_entry_closed hI (hEmem e he).1)
    rw [hints, hlower, hprs, hw]
    simp only [List.nil_append]
    rw [close_vertical_tail]
    · -- no hotfix level
      intro d hd
      simp only [List.map_append, List.map_reverse, List.map_map, List.map_cons, List.map_nil, List.mem_append,
        List.mem_reverse, List.mem_singleton, List.mem_map] at hd
      rcases hd with ⟨d', hd', rfl⟩ | rfl
      · exact hnh d' (List.mem_append_left _ hd')
      · exact hnh _ hlastmem
    · -- every level is empty or absent
      intro e he
      simp only [List.mem_append, List.mem_reverse, List.mem_map, List.mem_singleton] at he
      rcases he with ⟨d', _, rfl⟩ | rfl
      · unfold close_lev
        cases close_hasQ s d' with
        | false => exact Or.inl rfl
        | true => exact Or.inr rfl
      · exact Or.inr rfl

theorem close_vertical_of_matches {s : Sys} (h : InvV s) {c : Coll} (hc : CollMatches s c) {p : List Dest}
    (hp : close_GoodPath s p) : vertical s.g (c.filter (fun v => p.contains v.d)) p = .ok [] := by
  obtain ⟨pre, k, hpk⟩ := hp.lastDev
  subst hpk
  apply close_vertical_core h hc hp
  · intro d hd
    exact qv_find_filter _ hd c
  · intro v hv
    have := List.mem_filter.mp hv
    exact ⟨this.1, by simpa using this.2⟩
  · have hsub : (keys (c.filter (fun v => (pre ++ [devDest k]).contains v.d))).Sublist (keys c) :=
      List.Sublist.map _ List.filter_sublist
    exact hc.devOrder.sublist (hsub.filter _)

theorem close_vertAll_of_matches {s : Sys} (h : InvV s) (hcs : CascadeSide s) {c : Coll} (hc : CollMatches s c) :
    vertAll s.g c (mergePaths (devsPresent s) (stabsPresent s.remote)) = .ok [] :=
  close_vertAll_nil _ (fun p hp => close_vertical_of_matches h hc (close_paths_good h hcs p hp))

/-- Completeness of `validate()`: on a collection that matches the robot's bookkeeping, in a state that satisfies the
    strengthened invariant and where every queue branch follows its newest queued pull request, the modelled
    `QueueCollection.validate()` reports no error. -/
theorem close_validate_of_matches {s : Sys} (h : InvV s) (hsync : QSync s) (hcs : CascadeSide s)
    {c : BertE.QV.Coll} (hc : CollMatches s c) :
    BertE.QV.validate s.g s.remote c
      (BertE.QV.mergePaths (BertE.QV.devsPresent s) (BertE.QV.stabsPresent s.remote)) = .ok [] := by
  unfold validate
  split
  · rfl
  · rw [close_horizAll_of_matches h hsync hc, close_vertAll_of_matches h hcs hc]
    rfl

end BertE.Close
