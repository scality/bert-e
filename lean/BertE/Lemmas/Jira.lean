import BertE.Model.Jira
/- The hand-written matchers of `Model/Jira.lean` (ticket key of a feature branch,
   the two version patterns) against declarative descriptions of the strings they accept; the
   set comparison of `check_fix_versions`. -/
namespace BertE.Jira

theorem ite_of {α : Sort _} {P : α → Prop} {c : Prop} [Decidable c] {a b : α} (ha : P a) (hb : P b) :
    P (if c then a else b) := by
  split <;> assumption

theorem ite_eq_iff {α : Sort _} {c : Prop} [Decidable c] {a b x : α} :
    (if c then a else b) = x ↔ c ∧ a = x ∨ ¬c ∧ b = x := by
  split <;> simp [*]

def IsNum (s : List Char) : Prop := s ≠ [] ∧ ∀ c ∈ s, c.isDigit = true

def NoDigitHead (r : List Char) : Prop := ∀ c, r.head? = some c → c.isDigit = false

theorem noDigitHead_nil : NoDigitHead [] := fun _ h => nomatch h

theorem noDigitHead_dot (r : List Char) : NoDigitHead ('.' :: r) := by
  rintro c ⟨⟩; decide

theorem dropWhile_append_stop {p : Char → Bool} {a r : List Char} (ha : ∀ c ∈ a, p c = true)
    (hr : ∀ c, r.head? = some c → p c = false) : (a ++ r).dropWhile p = r := by
  rw [List.dropWhile_append_of_pos ha]
  cases r with
  | nil => rfl
  | cons c r => rw [List.dropWhile_cons_of_neg (by simp [hr c rfl])]

theorem takeWhile_append_stop {p : Char → Bool} {a r : List Char} (ha : ∀ c ∈ a, p c = true)
    (hr : ∀ c, r.head? = some c → p c = false) : (a ++ r).takeWhile p = a := by
  rw [List.takeWhile_append_of_pos ha]
  cases r with
  | nil => simp
  | cons c r => rw [List.takeWhile_cons_of_neg (by simp [hr c rfl]), List.append_nil]

theorem head_dropWhile_stop {p : Char → Bool} (l : List Char) :
    ∀ c, (l.dropWhile p).head? = some c → p c = false := by
  intro c h
  have := List.head?_dropWhile_not p l
  rwa [h] at this

theorem mem_takeWhile_sat {p : Char → Bool} (l : List Char) : ∀ c ∈ l.takeWhile p, p c = true := by
  induction l with
  | nil => intro c h; cases h
  | cons x l ih =>
    intro c h
    rw [List.takeWhile_cons] at h
    split at h
    · rcases List.mem_cons.mp h with rfl | h
      · assumption
      · exact ih c h
    · cases h
theorem digits1_append {a r : List Char} (ha : IsNum a) (hr : NoDigitHead r) : digits1 (a ++ r) = some r := by
  obtain ⟨hne, hall⟩ := ha
  cases a with
  | nil => exact absurd rfl hne
  | cons x a =>
    have hx : x.isDigit = true := hall x (by simp)
    have := dropWhile_append_stop (p := Char.isDigit) (a := x :: a) (r := r) hall hr
    simp only [List.cons_append] at this
    simp only [digits1, List.cons_append, hx, if_true, this]

theorem digits1_some {s r : List Char} (h : digits1 s = some r) :
    ∃ a, IsNum a ∧ s = a ++ r ∧ NoDigitHead r := by
  cases s with
  | nil => simp [digits1] at h
  | cons x s =>
    by_cases hx : x.isDigit = true
    · simp only [digits1, hx, if_true, Option.some.injEq] at h
      refine ⟨(x :: s).takeWhile Char.isDigit, ⟨?_, mem_takeWhile_sat _⟩, ?_, ?_⟩
      · simp [hx]
      · rw [← h]; exact (List.takeWhile_append_dropWhile).symm
      · rw [← h]; exact head_dropWhile_stop _
    · simp [digits1, hx] at h

theorem digits1_iff {s r : List Char} : digits1 s = some r ↔ ∃ a, IsNum a ∧ s = a ++ r ∧ NoDigitHead r :=
  ⟨digits1_some, fun ⟨_, ha, hs, hr⟩ => hs ▸ digits1_append ha hr⟩

theorem dot_some {s r : List Char} : dot s = some r ↔ s = '.' :: r := by
  unfold dot
  split <;> simp_all

theorem threeNumbers_some {s r : List Char} :
    threeNumbers s = some r ↔
      ∃ a b c, IsNum a ∧ IsNum b ∧ IsNum c ∧ s = a ++ '.' :: (b ++ '.' :: (c ++ r)) ∧ NoDigitHead r := by
  unfold threeNumbers
  simp only [Option.bind_eq_bind, Option.bind_eq_some_iff, digits1_iff, dot_some]
  constructor
  · rintro ⟨_, ⟨_, ⟨_, ⟨_, ⟨a, ha, rfl, _⟩, rfl⟩, b, hb, rfl, _⟩, rfl⟩, c, hc, rfl, hr⟩
    exact ⟨a, b, c, ha, hb, hc, rfl, hr⟩
  · rintro ⟨a, b, c, ha, hb, hc, rfl, hr⟩
    exact ⟨_, ⟨_, ⟨_, ⟨_, ⟨a, ha, rfl, noDigitHead_dot _⟩, rfl⟩, b, hb, rfl, noDigitHead_dot _⟩, rfl⟩, c, hc, rfl, hr⟩

/-- x.y.z or x.y.z.0 : the versions kept by `vfilter` (all others — suffixed ones — are ignored) -/
def Plain (v : List Char) : Prop :=
  ∃ a b c, IsNum a ∧ IsNum b ∧ IsNum c ∧
    (v = a ++ '.' :: (b ++ '.' :: c) ∨ v = a ++ '.' :: (b ++ '.' :: (c ++ ['.', '0'])))

/-- x.y.z.n : the form of a hotfix target -/
def HotfixForm (v : List Char) : Prop :=
  ∃ a b c d, IsNum a ∧ IsNum b ∧ IsNum c ∧ IsNum d ∧ v = a ++ '.' :: (b ++ '.' :: (c ++ '.' :: d))

theorem isPlainVersion_iff (v : String) : isPlainVersion v = true ↔ Plain v.toList := by
  have : isPlainVersion v = true ↔ threeNumbers v.toList = some [] ∨ threeNumbers v.toList = some ['.', '0'] := by
    unfold isPlainVersion
    split <;> simp_all
  rw [this, threeNumbers_some, threeNumbers_some]
  constructor
  · rintro (⟨a, b, c, ha, hb, hc, hv, _⟩ | ⟨a, b, c, ha, hb, hc, hv, _⟩)
    · exact ⟨a, b, c, ha, hb, hc, Or.inl (by simpa using hv)⟩
    · exact ⟨a, b, c, ha, hb, hc, Or.inr hv⟩
  · rintro ⟨a, b, c, ha, hb, hc, hv | hv⟩
    · exact Or.inl ⟨a, b, c, ha, hb, hc, by simpa using hv, noDigitHead_nil⟩
    · exact Or.inr ⟨a, b, c, ha, hb, hc, hv, noDigitHead_dot _⟩

theorem isHotfixVersion_iff (v : String) : isHotfixVersion v = true ↔ HotfixForm v.toList := by
  have : isHotfixVersion v = true ↔ ((threeNumbers v.toList).bind dot).bind digits1 = some [] := by
    unfold isHotfixVersion
    simp only [Option.bind_eq_bind]
    split <;> rename_i h <;> simp [h]
  simp only [this, Option.bind_eq_some_iff, dot_some, threeNumbers_some]
  constructor
  · rintro ⟨r, ⟨_, ⟨a, b, c, ha, hb, hc, hv, _⟩, rfl⟩, h3⟩
    obtain ⟨d, hd, rfl, _⟩ := digits1_some h3
    exact ⟨a, b, c, d, ha, hb, hc, hd, by simpa using hv⟩
  · rintro ⟨a, b, c, d, ha, hb, hc, hd, hv⟩
    exact ⟨d, ⟨_, ⟨a, b, c, ha, hb, hc, hv, noDigitHead_dot _⟩, rfl⟩,
      by simpa using digits1_append hd noDigitHead_nil⟩

/-- The label starts with `<project>-<number>`: a non-empty run of `[a-zA-Z0-9_]`, a dash, a maximal
    non-empty run of digits; the ticket is that text upper-cased. -/
def NamesTicket (label : List Char) (t : Ticket) : Prop :=
  ∃ p d rest, label = p ++ '-' :: (d ++ rest) ∧ p ≠ [] ∧ (∀ c ∈ p, isWordChar c = true) ∧
    IsNum d ∧ NoDigitHead rest ∧ t = ⟨upper (p ++ '-' :: d), upper p⟩

theorem dash_stops (r : List Char) : ∀ c, ('-' :: r).head? = some c → isWordChar c = false := by
  rintro c ⟨⟩
  decide

theorem ticketOf_some_iff {l : List Char} {t : Ticket} : ticketOf l = some t ↔ NamesTicket l t := by
  constructor
  · intro h
    unfold ticketOf at h
    simp only at h
    split at h
    · next rest hd =>
      split at h
      · next hne =>
        simp only [Option.some.injEq] at h
        refine ⟨l.takeWhile isWordChar, rest.takeWhile Char.isDigit, rest.dropWhile Char.isDigit,
          ?_, hne.1, mem_takeWhile_sat _, ⟨hne.2, mem_takeWhile_sat _⟩, head_dropWhile_stop _, h.symm⟩
        rw [List.takeWhile_append_dropWhile, ← hd, List.takeWhile_append_dropWhile]
      · cases h
    · cases h
  · rintro ⟨p, d, rest, rfl, hp, hpw, hd, hrest, rfl⟩
    have h1 : (p ++ '-' :: (d ++ rest)).takeWhile isWordChar = p := takeWhile_append_stop hpw (dash_stops _)
    have h2 : (p ++ '-' :: (d ++ rest)).dropWhile isWordChar = '-' :: (d ++ rest) :=
      dropWhile_append_stop hpw (dash_stops _)
    have h3 : (d ++ rest).takeWhile Char.isDigit = d := takeWhile_append_stop hd.2 hrest
    unfold ticketOf
    simp only [h1, h2, h3]
    simp [hp, hd.1]

theorem ticketOf_none_iff {l : List Char} : ticketOf l = none ↔ ¬ ∃ t, NamesTicket l t := by
  simp only [Option.eq_none_iff_forall_ne_some, ne_eq, ticketOf_some_iff, not_exists]

theorem namesTicket_unique {l : List Char} {t t' : Ticket} (h : NamesTicket l t) (h' : NamesTicket l t') :
    t = t' :=
  Option.some.inj ((ticketOf_some_iff.mpr h).symm.trans (ticketOf_some_iff.mpr h'))

theorem sameSet_iff (a b : List String) : sameSet a b = true ↔ ∀ v, v ∈ a ↔ v ∈ b := by
  simp only [sameSet, Bool.and_eq_true, List.all_eq_true, List.contains_iff_mem]
  exact ⟨fun ⟨h1, h2⟩ v => ⟨h1 v, h2 v⟩, fun h => ⟨fun v => (h v).mp, fun v => (h v).mpr⟩⟩

/-- the set of expected versions is the single version `h`, of the form x.y.z.n -/
def SingleHotfixTarget (targets : List String) (h : String) : Prop :=
  targets ≠ [] ∧ (∀ t ∈ targets, t = h) ∧ HotfixForm h.toList

theorem hfTarget_some_iff {ts : List String} {h : String} : hfTarget ts = some h ↔ SingleHotfixTarget ts h := by
  cases ts with
  | nil => simp [hfTarget, SingleHotfixTarget]
  | cons t rest =>
    simp only [hfTarget, SingleHotfixTarget, ite_eq_iff, Bool.and_eq_true, List.all_eq_true, beq_iff_eq,
      isHotfixVersion_iff, Option.some.injEq, reduceCtorEq, and_false, or_false, ne_eq, not_false_eq_true,
      List.mem_cons, forall_eq_or_imp, true_and]
    constructor
    · rintro ⟨⟨hall, hf⟩, rfl⟩
      exact ⟨⟨rfl, hall⟩, hf⟩
    · rintro ⟨⟨rfl, hall⟩, hf⟩
      exact ⟨⟨hall, hf⟩, rfl⟩

theorem hfTarget_none_iff {ts : List String} : hfTarget ts = none ↔ ¬ ∃ h, SingleHotfixTarget ts h := by
  simp only [Option.eq_none_iff_forall_ne_some, ne_eq, hfTarget_some_iff, not_exists]

theorem singleHotfixTarget_unique {ts : List String} {h h' : String} (hs : SingleHotfixTarget ts h)
    (hs' : SingleHotfixTarget ts h') : h = h' :=
  Option.some.inj ((hfTarget_some_iff.mpr hs).symm.trans (hfTarget_some_iff.mpr hs'))

end BertE.Jira
