import BertE.Lemmas.CloseBuild
import BertE.Lemmas.CloseComplete
import BertE.Lemmas.CloseInvV
/-
Completeness of the modelled `QueueCollection.validate()` on robot-made queues, and the
known finding D18 (`incoherent-queues-when-two-queued-prs-share-a-queue-commit`) as the exact failure of
completeness without `NoTies`.
-/
namespace BertE.Close
open BertE.Git BertE.Flow BertE.Select BertE.QV

/-- Completeness of `validate()`: on a state that satisfies the strengthened invariant, whose queue branches follow the
    newest queued pull request (`QSync`), whose cascade gets as far as `validate()` (`CascadeSide`) and that has no
    ties, the collection the code builds from the refs passes `validate()` with an empty error list. -/
theorem close_validate_complete {s : Sys} (h : InvV s) (hsync : QSync s) (hcs : CascadeSide s) (hnt : NoTies s) :
    validate s.g s.remote (build s.g s.remote) (mergePaths (devsPresent s) (stabsPresent s.remote)) = .ok [] :=
  close_validate_of_matches h hsync hcs (close_build_matches h hnt)

theorem close_cascadePaths {s : Sys} (hcs : CascadeSide s) :
    cascadePaths s = some (mergePaths (devsPresent s) (stabsPresent s.remote)) := by
  unfold cascadePaths
  simp only [hcs.1, Bool.false_eq_true, if_false]

theorem close_validated {s : Sys} (h : InvV s) (hsync : QSync s) (hcs : CascadeSide s) (hnt : NoTies s) :
    validated s = true ∧ errorsOf s = some [] := by
  have hv := close_validate_complete h hsync hcs hnt
  refine ⟨(qv_validated_iff s).mpr ⟨_, close_cascadePaths hcs, hv⟩, ?_⟩
  unfold errorsOf
  rw [close_cascadePaths hcs]
  simp only [hv]

def inclB (g : Graph) (m : RefMap) : Bool :=
  m.all fun ra => m.all fun rb => match ra.1, rb.1 with
    | .dest a, .dest b =>
      !(a.before b) || (match m.get (.dest a), m.get (.dest b) with
        | some ca, some cb => g.le ca cb
        | _, _ => true)
    | _, _ => true

theorem close_incl_of_b {g : Graph} {m : RefMap} (h : inclB g m = true) : InclOn g m := by
  intro a b hab ca cb hca hcb
  unfold inclB at h
  rw [List.all_eq_true] at h
  have h1 := h _ (RefMap.get_mem hca)
  rw [List.all_eq_true] at h1
  have h2 := h1 _ (RefMap.get_mem hcb)
  simpa [hab, hca, hcb] using h2

/-- The witness of the known finding (`harness/selectsys.py witness_equal_queue_commits('ba')`): development/4.3
    (commit 0) and development/5.1 (commit 1); `feature/a` and `feature/b` on the SAME commit 2; the pull request of
    `feature/a` enters the queue first, the one of `feature/b` second. On 4.3 both queue commits are commit 2 (the
    second merge is "already up to date"); on 5.1 they differ (3, then 5). -/
def tieHistory (ida idb : Nat) : List EventB :=
  [.other (.extSet "seed" [] false),
   .other (.extSet "five" [0] false),
   .other (.createBranch (.dev 4 (some 3)) 0),
   .other (.createBranch (.dev 5 (some 1)) 1),
   .other (.extSet "feature/a" [0] false),
   .other (.extPoint "feature/b" 2),
   .pr noBuilds ⟨ida, "feature/a", .dev 4 (some 3), false⟩ .final [],
   .pr noBuilds ⟨idb, "feature/b", .dev 4 (some 3), false⟩ .final []]

/-- the pull request queued SECOND has the SMALLER id (the finding) -/
def tieSys : Sys := runB exEmpty (tieHistory 2 1)

/-- the same history with the ids in order of entry -/
def tieSysAB : Sys := runB exEmpty (tieHistory 1 2)

theorem close_tieHistory_admV (ida idb : Nat) (h : (ida, idb) = (2, 1) ∨ (ida, idb) = (1, 2)) :
    AdmAllV exEmpty (tieHistory ida idb) := by
  have hids : ida ≠ 0 ∧ idb ≠ 0 := by
    rcases h with h | h <;> cases h <;> decide
  -- the states before the two pull-request events do not depend on the ids
  refine ⟨⟨?_, trivial⟩, ⟨?_, trivial⟩, ⟨⟨?_, ?_, ?_⟩, trivial⟩, ⟨⟨?_, ?_, ?_⟩, trivial⟩, ⟨?_, trivial⟩, ⟨?_, trivial⟩,
    ⟨hids.1, ?_⟩, ⟨hids.2, ?_⟩, trivial⟩
  · intro p hp; cases hp
  · show ∀ p ∈ ([0] : List Nat), p < _
    decide +kernel
  · decide +kernel
  · decide +kernel
  · exact close_incl_of_b (by decide +kernel)
  · decide +kernel
  · decide +kernel
  · exact close_incl_of_b (by decide +kernel)
  · show ∀ p ∈ ([0] : List Nat), p < _
    decide +kernel
  · show (2 : Nat) < _
    decide +kernel
  · intro hq; cases hq
  · rcases h with h | h <;> cases h <;> decide +kernel

theorem close_tieSys_invV : InvV tieSys :=
  close_runV_inv _ (close_invV_init true false) (close_tieHistory_admV 2 1 (Or.inl rfl))

theorem close_tieSysAB_invV : InvV tieSysAB :=
  close_runV_inv _ (close_invV_init true false) (close_tieHistory_admV 1 2 (Or.inr rfl))

/-- The known finding D18 is exactly the failure of completeness without `NoTies`. The witness state is reachable from the
    empty repository by an admissible history and meets every hypothesis of `close_validate_complete` except `NoTies`
    (the queue commits of pull requests 2 and 1 on development/4.3 are the same commit), and the modelled `validate()`
    reports `QueueInconsistentPullRequestsOrder` (the real code, run on the witness by every C05 check, reports the same:
    IncoherentQueues with [Q008]); the collection orders 4.3 by ref name ([2, 1]) and 5.1 by inclusion ([1, 2]). -/
theorem close_validate_ties_counterexample :
    InvV tieSys ∧ QSync tieSys ∧ CascadeSide tieSys ∧ ¬ NoTies tieSys ∧
    tieSys.remote.get (.qw 2 (.dev 4 (some 3)) "feature/a") = tieSys.remote.get (.qw 1 (.dev 4 (some 3)) "feature/b") ∧
    errorsOf tieSys = some [.QueueInconsistentPullRequestsOrder] ∧ validated tieSys = false ∧
    (build tieSys.g tieSys.remote).map (fun v => (v.d, v.ints.map (·.pr))) =
      [(.dev 4 (some 3), [2, 1]), (.dev 5 (some 1), [1, 2])] :=
  ⟨close_tieSys_invV, And.imp_left close_qsync_of_b (by decide +kernel)⟩

/-- with the ids in order of entry the same history has the same tie, and validates: `NoTies` is sufficient for
    completeness, not necessary -/
example : InvV tieSysAB ∧ ¬ NoTies tieSysAB ∧ errorsOf tieSysAB = some [] :=
  ⟨close_tieSysAB_invV, by decide +kernel⟩

/-- `exSys` (`Lemmas/SelectEx.lean`): two pull requests queued, one on `development/4.3` and `development/5.1`, one on
    `development/5.1` -/
theorem close_build_exSys_vx : VX exSys := close_exSys_invV.vx

theorem close_exSys_noTies : NoTies exSys := by decide +kernel

/-- non-vacuity of `close_build_matches` -/
example : CollMatches exSys (build exSys.g exSys.remote) :=
  close_build_matches ⟨exSys_inv, close_build_exSys_vx⟩ close_exSys_noTies

/-- and the collection is not trivial there -/
example : (build exSys.g exSys.remote).map (fun v => (v.d, v.master, v.ints.map (·.pr))) =
    [(.dev 4 (some 3), some 1, [1]), (.dev 5 (some 1), some 3, [2, 1])] := by decide +kernel

/-- non-vacuity of `close_validate_complete`: `exSys` (distinct queue commits) meets every hypothesis -/
example : validated exSys = true ∧ errorsOf exSys = some [] :=
  have h : qsyncB exSys = true ∧ CascadeSide exSys := by decide +kernel
  close_validated close_exSys_invV (close_qsync_of_b h.1) h.2 close_exSys_noTies

end BertE.Close
