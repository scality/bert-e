import BertE.Model.Flow
/- The predicates the theorems about the system-level model are stated with: graph extension, validity of refs and clones,
   what the clone-side merges keep, forward-port inclusion and the operations that cannot break it, the queue invariant,
   the invariant `Inv` of `Flow.step`, the state after a job. (What an event needs of its state, `Adm`, and histories, `run`,
   are in `StepAll`.) Their lemmas are in the files named after what they are about (`Git`, `Flow`, `PlanPr`, `Queue`, `Valid`, `Inv`). -/
namespace BertE.Git
open Graph

/-- `g'` has every commit of `g`, with the same ancestors among them (kept by `addCommit`, hence by every plan) -/
def Extends (g g' : Graph) : Prop :=
  g.size ≤ g'.size ∧ ∀ a c, c < g.size → g'.le a c = g.le a c

end BertE.Git

namespace BertE.Flow
open BertE.Git

def SortedKeys (ks : List Key) : Prop := ks.Pairwise (fun a b => keyLt a b = true)

def RefsValid (g : Graph) (m : RefMap) : Prop := ∀ r c, m.get r = some c → c < g.size

/-- a clone with a well-formed graph whose refs point at existing commits -/
structure Loc.OK (l : Loc) : Prop where
  wf : l.g.WF
  valid : RefsValid l.g l.refs

/-- what a clone-side merge into `r` leaves alone: `r` still exists, every other ref is where it was -/
def Loc.Kept (l l' : Loc) (r : Ref) : Prop :=
  l'.refs.has r = true ∧ ∀ x, x ≠ r → l'.refs.get x = l.refs.get x

/-- what a sequence of 2-way merges into `r` does, successful or not -/
structure Loc.Step (l l' : Loc) (r : Ref) : Prop where
  ok : l'.OK
  ext : Extends l.g l'.g
  same : ∀ x, x ≠ r → l'.refs.get x = l.refs.get x
  grow : ∃ old new, l.refs.get r = some old ∧ l'.refs.get r = some new ∧ l'.g.le old new = true

def Loc.Has (l : Loc) (r : Ref) (c : Commit) : Prop := ∃ new, l.refs.get r = some new ∧ l.g.le c new = true

/-- forward-port inclusion on a ref map: everything on `a` is on every later `b` -/
def InclOn (g : Graph) (m : RefMap) : Prop :=
  ∀ a b : Dest, a.before b = true → ∀ ca cb, m.get (.dest a) = some ca → m.get (.dest b) = some cb →
    g.le ca cb = true

/-- what a merge of a pull request does to the destination refs `ts`, abstractly -/
structure DestUpdate (g g' : Graph) (m m' : RefMap) (ts : List Dest) : Prop where
  ext : Extends g g'
  same : ∀ d, d ∉ ts → m'.get (.dest d) = m.get (.dest d)
  grow : ∀ d ∈ ts, ∃ o n, m.get (.dest d) = some o ∧ m'.get (.dest d) = some n ∧ g'.le o n = true
  chain : ts.Pairwise (fun a b => ∀ na nb, m'.get (.dest a) = some na → m'.get (.dest b) = some nb →
            g'.le na nb = true)

/-- an operation that cannot break inclusion, whatever the remote does with it -/
def Op.Safe (g : Graph) : Op → Prop
  | .push ups => ∀ rc ∈ ups, rc.1.isDest = false
  | .pushAll loc prune => prune = true ∧ InclOn g loc
  | .delete _ => True

/-- what the preparation of integration branches may do: extend the graph, change only `w/` refs -/
structure WOnly (l l' : Loc) : Prop where
  ok : l'.OK
  ext : Extends l.g l'.g
  dests : ∀ x, (∀ d src, x ≠ .w d src) → l'.refs.get x = l.refs.get x

/-- well-formedness of a system state; `devs` is the ghost list of the development lines present, in cascade order -/
structure Sys.WF (s : Sys) : Prop where
  g : s.g.WF
  valid : RefsValid s.g s.remote
  sorted : SortedKeys s.devs
  devsOK : ∀ M m c, s.remote.get (.dest (.dev M m)) = some c → (M, m) ∈ s.devs

def Sys.Incl (s : Sys) : Prop := InclOn s.g s.remote

/-- `Extends` with a well-formed result: what `plan_gext` says of every plan -/
structure GExt (g g' : Graph) : Prop where
  wf : g'.WF
  ext : Extends g g'

/-- the queue commit of a queued pull request on one of its targets (its `q/w/` ref) -/
def qwOf (m : RefMap) (e : QEntry) (d : Dest) : Option Commit := m.get (.qw e.pr d e.src)

/-- What the robot's own queueing establishes (and `QueueCollection.validate` checks):
    every queued pull request has a queue commit on each of its targets, which contains the target's tip
    (`entry`); its targets are in cascade order (`ordered`) and closed upwards among the branches present
    (`closed`); its queue commits are included in each other along the cascade (`vert`); on a common target
    the queue commit of an older pull request is contained in the one of a newer pull request (`horiz`). -/
structure QueueInv (s : Sys) : Prop where
  entry : ∀ e ∈ s.queue, ∀ d ∈ e.targets, ∃ c t, qwOf s.remote e d = some c ∧
            s.remote.get (.dest d) = some t ∧ s.g.le t c = true
  ordered : ∀ e ∈ s.queue, e.targets.Pairwise (fun a b => a.before b = true)
  closed : ∀ e ∈ s.queue, ∀ a ∈ e.targets, ∀ b, a.before b = true →
            (s.remote.get (.dest b)).isSome = true → b ∈ e.targets
  vert : ∀ e ∈ s.queue, e.targets.Pairwise (fun a b => ∀ ca cb, qwOf s.remote e a = some ca →
            qwOf s.remote e b = some cb → s.g.le ca cb = true)
  horiz : s.queue.Pairwise (fun e e' => ∀ d, d ∈ e.targets → d ∈ e'.targets → ∀ c c',
            qwOf s.remote e d = some c → qwOf s.remote e' d = some c' → s.g.le c c' = true)

/-- no destination ref of `m'` is new with respect to `m` -/
def DestSub (m m' : RefMap) : Prop :=
  ∀ d c, m'.get (.dest d) = some c → (m.get (.dest d)).isSome = true

/-- an operation only carries existing commits and creates no destination ref: the remote stays valid (`applyOps_valid`) -/
def Op.Valid (g : Graph) (remote0 : RefMap) : Op → Prop
  | .push ups => ∀ rc ∈ ups, rc.1.isDest = false ∧ rc.2 < g.size
  | .pushAll loc _ => RefsValid g loc ∧ DestSub remote0 loc
  | .delete _ => True

/-- the queue invariant plus what is needed to re-establish it when a pull request enters the queue -/
structure QInv (s : Sys) : Prop where
  base : QueueInv s
  /-- a queue branch contains the tip of its destination -/
  qtip : ∀ d q t, s.remote.get (.q d) = some q → s.remote.get (.dest d) = some t → s.g.le t q = true
  /-- a queue branch contains every queue commit made on it -/
  qtop : ∀ e ∈ s.queue, ∀ d ∈ e.targets, ∀ c q, qwOf s.remote e d = some c → s.remote.get (.q d) = some q →
            s.g.le c q = true
  qhas : ∀ e ∈ s.queue, ∀ d ∈ e.targets, (s.remote.get (.q d)).isSome = true
  ids : (s.queue.map (·.pr)).Nodup
  /-- a queue branch only exists beside its destination branch -/
  qdest : ∀ d, (s.remote.get (.q d)).isSome = true → (s.remote.get (.dest d)).isSome = true
  noq : s.useQueue = false → s.queue = [] ∧ ∀ d, s.remote.get (.q d) = none

/-- THE invariant of `Flow.step` (`step_inv`, `run_inv` in `StepAll`): well-formedness, forward-port inclusion, the queue invariant -/
structure Inv (s : Sys) : Prop where
  wf : s.WF
  incl : s.Incl
  q : QInv s

/-- the state after a job whose pushes went through -/
def Sys.after (s : Sys) (p : Plan) : Sys :=
  { s with g := p.g, remote := applyOps p.g noRej s.remote p.ops, queue := p.queue }

/-- the selection never takes a pull request without the older ones that share a target with it
    (a prefix per independent queue has this property) -/
def DownClosed (s : Sys) (sel : List Nat) : Prop :=
  s.queue.Pairwise (fun e e' => sel.contains e'.pr = true → (∃ d, d ∈ e.targets ∧ d ∈ e'.targets) →
    sel.contains e.pr = true)

end BertE.Flow
