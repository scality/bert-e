import BertE.Lemmas.Eval
import BertE.Lemmas.PlanPr
import BertE.Lemmas.C03Direct
/- End-to-end consequences of the composition (`Model/Eval.lean`), on which the property files state the gate
   properties: what is known of an evaluation that ENTERS (queue or direct merge), what its plan can contain when it
   does not. -/
namespace BertE.Eval
open BertE.Flow BertE.Reactor BertE.Git

theorem evalG_proceed_comments {t : BertE.Early.Tbl} {i : BertE.Early.Input} {st : State}
    (h : (BertE.Early.handlePr t i).decision = .proceed st) : i.comments = .ok st :=
  (BertE.Early.handlePr_proceed_iff.mp h).2.2.1

theorem evalPr_stopped {c : Cfg} {h : Host} {s : Sys} {id : Nat} {p : Pr} (orc : List Bool) (sel : List Nat)
    (hp : h.pr id = some p)
    (hstop : (BertE.Early.handlePr c.early (earlyInput c h s p)).decision.isProceed = false) :
    (evalPr c h s id orc sel).stage = .early ∧ (evalPr c h s id orc sel).plan = gatePlan s ∧
    (evalPr c h s id orc sel).declined = false ∧
    (evalPr c h s id orc sel).notified = (BertE.Early.handlePr c.early (earlyInput c h s p)).notified := by
  unfold evalPr
  rw [hp]
  simp only
  split
  · next st hst => rw [hst] at hstop; cases hstop
  · refine ⟨rfl, rfl, rfl, ?_⟩
    -- both models post the greeting, then the class of a template exception
    simp only [evalL_stopEarly_notified, BertE.Early.Result.notified]
    cases (BertE.Early.handlePr c.early (earlyInput c h s p)).decision <;> rfl

/-- the evaluation of pull request `id` REACHES THE GATES (`check_approvals`, `check_build_status`): what was
    established on the way, and that the evaluation is `gates` on the clone after the update -/
structure Reaches (c : Cfg) (h : Host) (s : Sys) (id : Nat) (orc : List Bool) (sel : List Nat)
    (p : Pr) (st : State) (src : BertE.Names.Parsed) (pr : PrInfo) (sc dc : Commit) (l4 : Loc) (pushW : List Op) : Prop where
  found : h.pr id = some p
  options : handleComments c.reg (envFor c p) (seenComments c p) = .ok st
  srcName : BertE.Names.classify c.early.names p.src.toList = some src
  name : (evalPr c h s id orc sel).pr = pr ∧ pr.id = p.id ∧ pr.src = p.src
  past : PastJira c h s p pr src st sc dc
  notQueued : alreadyQueued s pr = false
  /-- `l4`: the clone after the update of the integration branches -/
  updated : prepare s pr sc dc orc = .inr (l4, pushW)
  eq : evalPr c h s id orc sel = gates c h s p pr st (greetingOf c h s p) sc l4 pushW

/-- the evaluation of pull request `id` ENTERS (the queue, or the direct merge) -/
structure Entered (c : Cfg) (h : Host) (s : Sys) (id : Nat) (orc : List Bool) (sel : List Nat)
    (p : Pr) (st : State) (src : BertE.Names.Parsed) (pr : PrInfo) (sc dc : Commit) (l4 : Loc) (pushW : List Op) : Prop
    extends Reaches c h s id orc sel p st src pr sc dc l4 pushW where
  noSkew : p.facts.skew = false
  approvals : BertE.Approvals.checkApprovals (approvalsCfg c (envFor c p) st) (approvalsInput p) = .pass
  /-- the build gate passed ON THE TIPS OF THE CLONE AFTER THE UPDATE -/
  build : checkBuildStatus c (envFor c p) st h l4 pr (s.targets pr.dst) = .pass
  plan : (evalPr c h s id orc sel).plan =
    (if isNeeded s l4 pr (s.targets pr.dst) then enqueue s l4 pr (s.targets pr.dst) pushW
     else directMerge s l4 pr sc (s.targets pr.dst) pushW)

/-- The gates are reached exactly along this path (so `Reaches` is not vacuous, and nothing else is hidden in it). -/
theorem evalPr_reaches {c : Cfg} {h : Host} {s : Sys} {id : Nat} {orc : List Bool} {sel : List Nat}
    {p : Pr} {st : State} {src : BertE.Names.Parsed} {dst : Dest} {sc dc : Commit} {l4 : Loc} {pushW : List Op}
    (hat : AtClone c h s id p st src dst) (hopen : (p.status == "DECLINED") = false)
    (hpj : PastJira c h s p ⟨p.id, p.src, dst, opt st "no_octopus"⟩ src st sc dc) (hnq : alreadyQueued s ⟨p.id, p.src, dst, opt st "no_octopus"⟩ = false)
    (hhm : p.facts.historyMismatch = false) (hprep : prepare s ⟨p.id, p.src, dst, opt st "no_octopus"⟩ sc dc orc = .inr (l4, pushW)) :
    Reaches c h s id orc sel p st src ⟨p.id, p.src, dst, opt st "no_octopus"⟩ sc dc l4 pushW := by
  have heq : evalPr c h s id orc sel = afterClone c h s p ⟨p.id, p.src, dst, opt st "no_octopus"⟩ src st (greetingOf c h s p) orc sel := by
    unfold evalPr
    rw [hat.found]
    simp only [hat.proceed, hat.srcName, hat.dstName, hopen, Bool.false_eq_true, if_false]
    rfl
  have hg : afterClone c h s p ⟨p.id, p.src, dst, opt st "no_octopus"⟩ src st (greetingOf c h s p) orc sel =
      gates c h s p ⟨p.id, p.src, dst, opt st "no_octopus"⟩ st (greetingOf c h s p) sc l4 pushW := by
    unfold afterClone
    simp only [hpj.srcTip, hpj.dstTip, hpj.notMerged, hpj.recent, hpj.cascade, hpj.compat, hpj.jira, hpj.branches,
      hnq, hhm, hprep, Bool.false_eq_true, if_false, Bool.not_true]
  exact { found := hat.found
          options := evalG_proceed_comments hat.proceed
          srcName := hat.srcName
          name := ⟨by rw [heq]; exact (afterClone_pr ..).1, rfl, rfl⟩
          past := hpj
          notQueued := hnq
          updated := hprep
          eq := heq.trans hg }

theorem evalPr_late {c : Cfg} {h : Host} {s : Sys} {id : Nat} {orc : List Bool} {sel : List Nat}
    (hd : (evalPr c h s id orc sel).declined = false) (hst : (evalPr c h s id orc sel).stage ≠ .early) :
    ∃ p st src dst sc dc, AtClone c h s id p st src dst ∧ (p.status == "DECLINED") = false ∧
      (evalPr c h s id orc sel).pr = ⟨p.id, p.src, dst, opt st "no_octopus"⟩ ∧
      evalPr c h s id orc sel = afterClone c h s p ⟨p.id, p.src, dst, opt st "no_octopus"⟩ src st (greetingOf c h s p) orc sel ∧
      PastJira c h s p ⟨p.id, p.src, dst, opt st "no_octopus"⟩ src st sc dc := by
  rcases evalPr_cases c h s id orc sel with ⟨_, he, _⟩ | ⟨p, st, src, dst, _, _, hdec, _⟩ |
    ⟨p, st, src, dst, hat, hopen, heq⟩
  · exact absurd he hst
  · rw [hdec] at hd; cases hd
  · rcases afterClone_inv c h s p ⟨p.id, p.src, dst, opt st "no_octopus"⟩ src st (greetingOf c h s p) orc sel with ⟨he, _⟩ |
      ⟨sc, dc, hpj, _⟩
    · rw [heq] at hst; exact absurd he hst
    · exact ⟨p, st, src, dst, sc, dc, hat, hopen, by rw [heq]; exact (afterClone_pr ..).1, heq, hpj⟩

/-- final stage and not already queued (then the stage is final because the queue is merged): every gate was
    evaluated in this evaluation and passed -/
theorem evalPr_entered {c : Cfg} {h : Host} {s : Sys} {id : Nat} {orc : List Bool} {sel : List Nat}
    (hd : (evalPr c h s id orc sel).declined = false) (hf : (evalPr c h s id orc sel).stage = .final)
    (hnq : alreadyQueued s (evalPr c h s id orc sel).pr = false) :
    ∃ p st src pr sc dc l4 pushW, Entered c h s id orc sel p st src pr sc dc l4 pushW := by
  rcases evalPr_cases c h s id orc sel with ⟨_, he, _⟩ | ⟨p, st, src, dst, _, _, hdec, _⟩ |
    ⟨p, st, src, dst, hat, hopen, heq⟩
  · rw [he] at hf; cases hf
  · rw [hdec] at hd; cases hd
  · rw [heq, (afterClone_pr ..).1] at hnq
    rcases afterClone_inv c h s p ⟨p.id, p.src, dst, opt st "no_octopus"⟩ src st (greetingOf c h s p) orc sel with
      ⟨he, _⟩ | ⟨sc, dc, hpj, ⟨haq, _⟩ | ⟨_, hhm, ⟨pl, _, hi, _⟩ | ⟨l4, pushW, hprep, _⟩⟩⟩
    · rw [heq, he] at hf; cases hf
    · rw [hnq] at haq; cases haq
    · rw [heq, hi] at hf; cases hf
    · have hr := evalPr_reaches (sel := sel) hat hopen hpj hnq hhm hprep
      rw [hr.eq] at hf
      rcases gates_cases c h s p ⟨p.id, p.src, dst, opt st "no_octopus"⟩ st (greetingOf c h s p) sc l4 pushW with
        ⟨hi, _⟩ | ⟨hsk, ha, hb, _, hplan⟩
      · rw [hi] at hf; cases hf
      · exact ⟨p, st, src, _, sc, dc, l4, pushW,
          { toReaches := hr, noSkew := hsk, approvals := ha, build := hb, plan := by rw [hr.eq]; exact hplan }⟩

def Op.onlyW (src : String) : Op → Prop
  | .push ups => ∀ rc ∈ ups, ∃ d, rc.1 = .w d src
  | _ => False

theorem evalG_tipsOf_w {refs : RefMap} {src : String} {ds : List Dest} :
    ∀ rc ∈ tipsOf refs (ds.map (fun d => Ref.w d src)), ∃ d, rc.1 = .w d src := by
  intro rc hrc
  have := tipsOf_mem hrc
  obtain ⟨d, _, hd⟩ := List.mem_map.mp this
  exact ⟨d, hd.symm⟩

theorem evalG_updateW_done (pr : PrInfo) (ds : List Dest) (l : Loc) (prev : Commit) (done : List Ref)
    (hd : ∀ r ∈ done, ∃ d, r = .w d pr.src) : ∀ r ∈ (updateW l pr prev ds done).2.1, ∃ d, r = .w d pr.src :=
  updateW_done_of pr (fun r => ∃ d, r = .w d pr.src) ds l prev done (fun d _ => ⟨d, rfl⟩) hd

theorem evalG_prepare_onlyW (s : Sys) (pr : PrInfo) (sc dc : Commit) (orc : List Bool) :
    (∀ pl, prepare s pr sc dc orc = .inl pl → ∀ op ∈ pl.ops, Op.onlyW pr.src op) ∧
    (∀ l4 ops, prepare s pr sc dc orc = .inr (l4, ops) → ∀ op ∈ ops, Op.onlyW pr.src op) := by
  fun_cases prepare s pr sc dc orc
  · -- the trial merge conflicts: nothing is pushed
    exact ⟨fun pl hp op hop => (by cases hp; cases hop), fun _ _ hp => nomatch hp⟩
  · -- the update conflicts: the branches updated so far are pushed
    refine ⟨fun pl hp op hop => ?_, fun _ _ hp => nomatch hp⟩
    cases hp
    simp only [conflictPush] at hop
    split at hop
    · cases hop
    · simp only [List.mem_cons, List.not_mem_nil, or_false] at hop
      subst hop
      intro rc hrc
      exact evalG_updateW_done pr _ _ _ _ (fun r h => absurd h (by simp)) _ (tipsOf_mem hrc)
  · refine ⟨fun _ hp => (nomatch hp), fun l4 ops hp op hop => ?_⟩
    cases hp
    unfold pushWOps at hop
    split at hop
    · cases hop
    · simp only [List.mem_cons, List.not_mem_nil, or_false] at hop
      subst hop
      exact evalG_tipsOf_w

/-- an evaluation that does not reach the final stage plans nothing but pushes of `w/` branches of its pull request
    (no `q/` ref, no destination ref, no deletion) -/
theorem evalPr_stops_at_w {c : Cfg} {h : Host} {s : Sys} {id : Nat} {orc : List Bool} {sel : List Nat}
    (hd : (evalPr c h s id orc sel).declined = false) (hnf : (evalPr c h s id orc sel).stage ≠ .final) :
    ∀ op ∈ (evalPr c h s id orc sel).plan.ops, Op.onlyW (evalPr c h s id orc sel).pr.src op := by
  by_cases he : (evalPr c h s id orc sel).stage = .early
  · have := evalPr_planPr c h s id orc sel hd
    rw [he, evalL_planPr_early] at this
    rw [this]
    intro op hop; cases hop
  · obtain ⟨p, st, src, dst, sc, dc, _, _, hpr, heq, hpj⟩ := evalPr_late hd he
    rw [hpr]
    rcases afterClone_inv c h s p ⟨p.id, p.src, dst, opt st "no_octopus"⟩ src st (greetingOf c h s p) orc sel with ⟨he', _⟩ |
      ⟨sc', dc', hpj', hcase⟩
    · rw [heq] at he; exact absurd he' he
    · rcases hcase with ⟨_, hfin, _⟩ | ⟨_, _, ⟨pl, hprep, _, hpl⟩ | ⟨l4, pushW, hprep, hg⟩⟩
      · rw [heq] at hnf; exact absurd hfin hnf
      · rw [heq, hpl]
        exact (evalG_prepare_onlyW s _ sc' dc' orc).1 pl hprep
      · have hnf' : (gates c h s p ⟨p.id, p.src, dst, opt st "no_octopus"⟩ st (greetingOf c h s p) sc' l4 pushW).stage ≠ .final := by
          rw [← hg, ← heq]; exact hnf
        rcases gates_cases c h s p ⟨p.id, p.src, dst, opt st "no_octopus"⟩ st (greetingOf c h s p) sc' l4 pushW with
          ⟨_, hpl⟩ | ⟨_, _, _, hf, _⟩
        · rw [heq, hg, hpl]
          exact (evalG_prepare_onlyW s _ sc' dc' orc).2 l4 pushW hprep
        · exact absurd hf hnf'

theorem evalPr_entered_of_op {c : Cfg} {h : Host} {s : Sys} {id : Nat} {orc : List Bool} {sel : List Nat}
    (hd : (evalPr c h s id orc sel).declined = false)
    (hnq : alreadyQueued s (evalPr c h s id orc sel).pr = false)
    (hop : ∃ op ∈ (evalPr c h s id orc sel).plan.ops, ¬ Op.onlyW (evalPr c h s id orc sel).pr.src op) :
    ∃ p st src pr sc dc l4 pushW, Entered c h s id orc sel p st src pr sc dc l4 pushW := by
  apply evalPr_entered hd _ hnq
  apply Classical.byContradiction
  intro hnf
  obtain ⟨op, hmem, hno⟩ := hop
  exact hno (evalPr_stops_at_w hd hnf op hmem)

theorem tipStatuses_cons (h : Host) (t : Option Commit) (tips : List (Option Commit)) :
    tipStatuses h (t :: tips) = t.bind fun cm => (tipStatuses h tips).map (h.status cm :: ·) := by
  cases t <;> cases hr : tipStatuses h tips <;> simp_all [tipStatuses]

/-- the status list the build gate reads: per target, the status in the host's table of the tip its integration
    branch has IN THE CLONE AFTER THE UPDATE; it fails to exist only when one of these branches is missing -/
theorem evalG_tipStatuses (h : Host) (l : Loc) (pr : PrInfo) : ∀ ts : List Dest,
    match tipStatuses h (integrationTips l pr ts) with
    | none => ∃ d ∈ ts, l.refs.get (wRef pr pr.dst d) = none
    | some sts => sts.length = ts.length ∧ (∀ d ∈ ts, (l.refs.get (wRef pr pr.dst d)).isSome = true) ∧
        ∀ x, x ∈ sts ↔ ∃ d ∈ ts, ∃ cm, l.refs.get (wRef pr pr.dst d) = some cm ∧ h.status cm = x
  | [] => by simp [integrationTips, tipStatuses]
  | d :: ds => by
    have ih := evalG_tipStatuses h l pr ds
    simp only [integrationTips, List.map_cons, tipStatuses_cons]
    cases hg : l.refs.get (wRef pr pr.dst d) with
    | none => exact ⟨d, List.mem_cons_self, hg⟩
    | some cm =>
      simp only [integrationTips] at ih
      cases hr : tipStatuses h (ds.map fun d => l.refs.get (wRef pr pr.dst d)) with
      | none =>
        rw [hr] at ih
        obtain ⟨d', hd', hn⟩ := ih
        exact ⟨d', List.mem_cons_of_mem _ hd', hn⟩
      | some rest =>
        rw [hr] at ih
        obtain ⟨hl, hex, hm⟩ := ih
        refine ⟨by simp [hl], ?_, ?_⟩
        · intro d' hd'
          rcases List.mem_cons.mp hd' with rfl | hd'
          · simp [hg]
          · exact hex d' hd'
        · intro x
          simp only [List.mem_cons, hm]
          constructor
          · rintro (rfl | ⟨d', hd', cm', h1, h2⟩)
            · exact ⟨d, Or.inl rfl, cm, hg, rfl⟩
            · exact ⟨d', Or.inr hd', cm', h1, h2⟩
          · rintro ⟨d', hd' | hd', cm', h1, h2⟩
            · subst hd'
              rw [hg] at h1
              cases h1
              exact Or.inl h2.symm
            · exact Or.inr ⟨d', hd', cm', h1, h2⟩

theorem evalG_targets_cons (s : Sys) (d : Dest) : ∃ rest, s.targets d = d :: rest :=
  ⟨_, targets_eq_cons s d⟩

theorem evalG_targets_ne (s : Sys) (d : Dest) : s.targets d ≠ [] := by
  obtain ⟨rest, h⟩ := evalG_targets_cons s d
  rw [h]
  exact List.cons_ne_nil _ _

/-- what `is_needed` answering "no" (with queues on) means: `skip_queue_when_not_needed` is set, nothing is
    queued, the source contains the tip of its destination, every integration branch the tip of its target -/
theorem evalG_isNeeded_false {s : Sys} {l : Loc} {pr : PrInfo} {ts : List Dest}
    (huq : s.useQueue = true) (hn : isNeeded s l pr ts = false) :
    s.skipQueue = true ∧ s.queue = [] ∧
    ∃ sc dc, l.refs.get (.other pr.src) = some sc ∧ l.refs.get (.dest pr.dst) = some dc ∧ l.g.le dc sc = true ∧
      ∀ d ∈ ts, ∃ wc t, l.refs.get (wRef pr pr.dst d) = some wc ∧ l.refs.get (.dest d) = some t ∧
        l.g.le t wc = true := by
  revert hn
  fun_cases isNeeded s l pr ts
  case case1 h => simp [huq] at h
  case case4 _ hcond sc dc hdc hsc hle =>
    intro hn
    simp only [Bool.or_eq_true, not_or, Bool.not_eq_true, Bool.not_eq_eq_eq_not, Bool.not_true,
      Bool.not_eq_false] at hcond
    obtain ⟨⟨hskip, _⟩, hq⟩ := hcond
    refine ⟨by simpa using hskip, by simpa using hq, sc, dc, hsc, hdc, by simpa using hle, ?_⟩
    intro d hd
    have := List.any_eq_false.mp hn d hd
    cases hw : l.refs.get (wRef pr pr.dst d) with
    | none => simp [hw] at this
    | some wc =>
      cases ht : l.refs.get (.dest d) with
      | none => simp [hw, ht] at this
      | some t => exact ⟨wc, t, rfl, rfl, by simpa [hw, ht] using this⟩
  all_goals exact fun hn => nomatch hn

/-- every integration branch (after the first target) contains the tip of its predecessor -/
def chained (g : Graph) (refs : RefMap) (src : String) (prev : Commit) : List Dest → Prop
  | [] => True
  | d :: ds => ∃ wc, refs.get (.w d src) = some wc ∧ g.le prev wc = true ∧ chained g refs src wc ds

/-- `ffReady` = what `is_needed` tested (targets contained) + `chained` (predecessors contained) -/
theorem evalG_ffReady {g : Graph} {refs : RefMap} {src : String} :
    ∀ (ds : List Dest) (prev : Commit),
      (∀ d ∈ ds, ∃ wc t, refs.get (.w d src) = some wc ∧ refs.get (.dest d) = some t ∧ g.le t wc = true) →
      chained g refs src prev ds → ffReady g refs src prev ds
  | [], _, _, _ => trivial
  | d :: ds, prev, hall, ⟨wc, hwc, hle, hrest⟩ => by
    obtain ⟨wc', t, hwc', ht, htw⟩ := hall d List.mem_cons_self
    rw [hwc] at hwc'; cases hwc'
    exact ⟨t, wc, ht, hwc, htw, hle,
      evalG_ffReady ds wc (fun d' hd' => hall d' (List.mem_cons_of_mem _ hd')) hrest⟩

/-- the options an evaluation runs with are those `handle_comments` computes with the privileges of `envFor`: admins
    of the settings, author of THIS pull request -/
theorem evalPr_options {c : Cfg} {h : Host} {s : Sys} {id : Nat} {orc : List Bool} {sel : List Nat} {st : State}
    (ho : (evalPr c h s id orc sel).options = some st) :
    ∃ p, h.pr id = some p ∧ handleComments c.reg (envFor c p) (seenComments c p) = .ok st := by
  unfold evalPr at ho
  split at ho
  · cases ho
  · next p hp =>
    simp only at ho
    split at ho
    · next st' hst =>
      have hok := evalG_proceed_comments hst
      split at ho
      · split at ho
        · cases ho; exact ⟨p, hp, hok⟩
        · rw [afterClone_options] at ho; cases ho; exact ⟨p, hp, hok⟩
      · cases ho; exact ⟨p, hp, hok⟩
    · cases ho

theorem evalPr_comments_stop {c : Cfg} {h : Host} {s : Sys} {id : Nat} {p : Pr} (orc : List Bool) (sel : List Nat)
    (hp : h.pr id = some p) (hno : ∀ st, handleComments c.reg (envFor c p) (seenComments c p) ≠ .ok st) :
    (evalPr c h s id orc sel).stage = .early ∧ (evalPr c h s id orc sel).plan = gatePlan s ∧
    (evalPr c h s id orc sel).declined = false := by
  have hstop : (BertE.Early.handlePr c.early (earlyInput c h s p)).decision.isProceed = false := by
    cases hd : (BertE.Early.handlePr c.early (earlyInput c h s p)).decision <;> try rfl
    next st => exact absurd (evalG_proceed_comments hd) (hno st)
  obtain ⟨h1, h2, h3, _⟩ := evalPr_stopped orc sel hp hstop
  exact ⟨h1, h2, h3⟩

theorem evalPr_ops_late {c : Cfg} {h : Host} {s : Sys} {id : Nat} {orc : List Bool} {sel : List Nat}
    (hd : (evalPr c h s id orc sel).declined = false) (hops : (evalPr c h s id orc sel).plan.ops ≠ []) :
    (evalPr c h s id orc sel).stage ≠ .early := by
  intro he
  have := evalPr_planPr c h s id orc sel hd
  rw [he, evalL_planPr_early] at this
  rw [this] at hops
  exact hops rfl

theorem AtClone.unique {c : Cfg} {h : Host} {s : Sys} {id : Nat} {p p' : Pr} {st st' : State}
    {src src' : BertE.Names.Parsed} {dst dst' : Dest} (a : AtClone c h s id p st src dst)
    (b : AtClone c h s id p' st' src' dst') : p' = p ∧ st' = st ∧ src' = src ∧ dst' = dst := by
  obtain rfl : p' = p := Option.some.inj (b.found.symm.trans a.found)
  exact ⟨rfl, BertE.Early.Decision.proceed.inj (b.proceed.symm.trans a.proceed),
    Option.some.inj (b.srcName.symm.trans a.srcName), Option.some.inj (b.dstName.symm.trans a.dstName)⟩

end BertE.Eval
