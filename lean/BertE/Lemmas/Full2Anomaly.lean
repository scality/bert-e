import BertE.Lemmas.Full
/-
What holds after the ONE exit of an admin job that `C01_full_step` excludes (known finding D19: a successful
`delete_branch hotfix/x.y.z` while `q/x.y.z`, the queue of stabilization/x.y.z, exists): everything of the invariant
but the queue invariant `QInv`, which is lost exactly when a pull request is queued on that stabilization branch.
-/
namespace BertE.Full2
open BertE.Git BertE.Flow BertE.Select BertE.Close BertE.Full BertE.Admin

/-- `FullInv` without the queue invariant (`Inv.q`) and the position of the queue branches (`QSync`) -/
structure AfterAnomaly (w : World) : Prop where
  wf : w.sys.WF
  incl : w.sys.Incl
  vx : VX w.sys
  mono : close_Mono w.sys.g
  keys : KeysNodup w.sys.remote
  link : Link w.cfg w.host w.sys.queue
  hostPos : HostPos w.host
  cascadeStd : w.cfg.cascade = BertE.Cascade.Cfg.std

theorem full2_delStabQ {s : Sys} (h : SysInv s) (qs : List Ref) (hqs : ∀ r ∈ qs, ∃ M m u, r = .q (.stab M m u)) :
    ({ s with remote := delRefs s.remote qs } : Sys).WF ∧ ({ s with remote := delRefs s.remote qs } : Sys).Incl ∧
    VX { s with remote := delRefs s.remote qs } ∧ KeysNodup (delRefs s.remote qs) := by
  have hq : ∀ r ∈ qs, ∃ d, r = Ref.q d := fun r hr => by
    obtain ⟨M, m, u, rfl⟩ := hqs r hr
    exact ⟨_, rfl⟩
  have hdest : ∀ d, (delRefs s.remote qs).get (.dest d) = s.remote.get (.dest d) :=
    fun d => get_delRefs_of_not_q hq (fun _ he => nomatch he)
  have hqw : ∀ pr d src, (delRefs s.remote qs).get (.qw pr d src) = s.remote.get (.qw pr d src) :=
    fun pr d src => get_delRefs_of_not_q hq (fun _ he => nomatch he)
  have hqdev : ∀ k, (delRefs s.remote qs).get (.q (devDest k)) = s.remote.get (.q (devDest k)) := by
    intro k
    rw [get_delRefs, if_neg]
    intro hm
    obtain ⟨_, _, _, he⟩ := hqs _ hm
    simp only [devDest, Ref.q.injEq] at he
    cases he
  refine ⟨⟨h.inv.wf.g, h.inv.wf.valid.delRefs qs, h.inv.wf.sorted,
      fun M m c hc => h.inv.wf.devsOK M m c ((hdest _).symm.trans hc)⟩, h.inv.incl.delRefs qs,
    ⟨h.vx.pos, fun pr d src hs => h.vx.qwE pr d src (by rw [← hqw]; exact hs), fun k hk => ?_, fun d hs k hk hb => ?_,
      fun M m u hs => h.vx.stabDev M m u (by rw [← hdest]; exact hs)⟩,
    full2_delRefs_keys qs h.keys⟩
  · show ((delRefs s.remote qs).get _).isSome = true
    rw [hdest]
    exact h.vx.devsHave k hk
  · show ((delRefs s.remote qs).get _).isSome = true
    rw [hqdev]
    -- a queue branch that is still there was there before
    obtain ⟨c, hc⟩ := Option.isSome_iff_exists.mp hs
    exact h.vx.qUpper d (RefMap.has_of_get (get_delRefs_eq_some.mp hc).2) k hk hb

theorem full2_afterAnomaly_mk {w : World} (h : FullInv w) (s2 : Sys) (T : BertE.Admin.Tags) (hwf : s2.WF) (hincl : s2.Incl)
    (hvx : VX s2) (hm : close_Mono s2.g) (hk : KeysNodup s2.remote) (hq : s2.queue = w.sys.queue) :
    AfterAnomaly (refresh { w with sys := s2, tags := T }) :=
  ⟨hwf, hincl, hvx, hm, hk, h.link.mono (hostExt_refresh { w with sys := s2, tags := T }) (fun _ he => hq ▸ he),
    (hostExt_refresh { w with sys := s2, tags := T }).pos h.hostPos, h.cascadeStd⟩

/-- After the anomalous exit (D19): the queue bookkeeping is untouched and `q/x.y.z` is gone, so `QInv` (clause `qhas`)
    IS lost as soon as a pull request is queued on stabilization/x.y.z — the later queue evaluations then rely on
    `validate()` alone. Every other conjunct of `FullInv` survives (`AfterAnomaly`). -/
theorem full2_deleteJob_anomaly {w : World} (h : FullInv w) (name : Ref) (ha : AdminAnomaly w (.deleteBranch name)) :
    AfterAnomaly (deleteJob w name).1 ∧
    ∃ M m u, name = .dest (.hotfix M m u) ∧ (deleteJob w name).1.sys.remote.get (.q (.stab M m u)) = none ∧
      (deleteJob w name).1.sys.queue = w.sys.queue ∧
      ((∃ e ∈ w.sys.queue, Dest.stab M m u ∈ e.targets) → ¬ QInv (deleteJob w name).1.sys) := by
  obtain ⟨hs, M, m, u, rfl, huq, hhas⟩ := ha
  obtain ⟨d, tip, hn, _, _, hq, _, _⟩ := (BertE.Admin.deleteBranch_inv w.cfg.cascade w.cfg.lits (repoOf w)
    (.dest (.hotfix M m u)) (recognized w (.dest (.hotfix M m u)))).1 hs
  cases hn
  -- the repository event of the deletion is admissible; what the job deletes besides: `q/x.y.z`
  have h1 : SysInv (Flow.step w.sys (.deleteBranch (.hotfix M m u))).1 :=
    full2_step_sysInv h.sys _ (deleteJob_adm h hq) trivial
  have hstill : (Flow.step w.sys (.deleteBranch (.hotfix M m u))).1.remote.has (.q (.stab M m u)) = true := by
    rw [step_deleteBranch_has, if_neg (by simp)]; exact hhas
  have hclob := deleteJob_clobbered hs
  rw [show BertE.Admin.delQueueRef (.hotfix M m u) = .q (.stab M m u) from rfl, hstill, huq] at hclob
  unfold deleteJob
  simp only [hs, beq_self_eq_true, hclob, Bool.and_self, if_true]
  obtain ⟨hwf, hincl, hvx, hkeys⟩ := full2_delStabQ h1 [.q (.stab M m u)]
    (fun r hr => ⟨M, m, u, List.mem_singleton.mp hr⟩)
  have hqueue : (Flow.step w.sys (.deleteBranch (.hotfix M m u))).1.queue = w.sys.queue := rfl
  have hnone : (delRefs (Flow.step w.sys (.deleteBranch (.hotfix M m u))).1.remote [.q (.stab M m u)]).get
      (.q (.stab M m u)) = none := by
    rw [get_delRefs]; simp
  refine ⟨full2_afterAnomaly_mk h _ _ hwf hincl hvx h1.mono hkeys hqueue, M, m, u, rfl, hnone, hqueue, ?_⟩
  rintro ⟨e, he, hd⟩ hq
  have := hq.qhas e he _ hd
  have this' : ((delRefs (Flow.step w.sys (.deleteBranch (.hotfix M m u))).1.remote [.q (.stab M m u)]).get
    (.q (.stab M m u))).isSome = true := this
  rw [hnone] at this'
  cases this'

end BertE.Full2
