import BertE.Model.QValidate
/-
The model of CPython's `list.sort` (`QV.pySort`: `count_run`, then `binarysort`): it sorts a list whose comparison is a
strict total order on its distinct elements, and, for an arbitrary comparison, inserts one element appended to a list
without adjacent descent between two neighbours it compares correctly with (how `_add_branch` keeps `_queues` in order).
-/
namespace BertE.Close
open BertE.QV

section
variable {α : Type}

def close_Adj (R : α → α → Prop) : List α → Prop
  | [] => True
  | [_] => True
  | a :: b :: r => R a b ∧ close_Adj R (b :: r)

theorem close_adj_cons {R : α → α → Prop} (a : α) (l : List α) :
    close_Adj R (a :: l) ↔ (∀ b ∈ l.head?, R a b) ∧ close_Adj R l := by
  cases l with
  | nil => simp [close_Adj]
  | cons b r => simp [close_Adj]

theorem close_adj_append {R : α → α → Prop} : ∀ (l1 l2 : List α),
    close_Adj R (l1 ++ l2) ↔ close_Adj R l1 ∧ close_Adj R l2 ∧ (∀ a ∈ l1.getLast?, ∀ b ∈ l2.head?, R a b)
  | [], l2 => by simp [close_Adj]
  | [a], l2 => by simp [close_adj_cons, close_Adj, and_comm]
  | a :: b :: r, l2 => by
    have ih := close_adj_append (R := R) (b :: r) l2
    simp only [List.cons_append] at ih ⊢
    simp only [close_Adj, ih, List.getLast?_cons_cons, and_assoc]

theorem close_adj_of_pairwise {R : α → α → Prop} : ∀ {l : List α}, l.Pairwise R → close_Adj R l
  | [], _ => trivial
  | [_], _ => trivial
  | a :: b :: r, h => by
    rw [List.pairwise_cons] at h
    exact ⟨h.1 b List.mem_cons_self, close_adj_of_pairwise h.2⟩

theorem close_adj_sorted {R S : α → α → Prop} (htr : ∀ a b c, S a b → S b c → S a c) : ∀ {l : List α}, l.Nodup →
    (∀ a ∈ l, ∀ b ∈ l, a ≠ b → R a b → S a b) → close_Adj R l → l.Pairwise S
  | [], _, _, _ => List.Pairwise.nil
  | [_], _, _, _ => List.pairwise_singleton _ _
  | a :: b :: r, hn, himp, h => by
    have hn' := List.nodup_cons.mp hn
    have ih := close_adj_sorted htr hn'.2
      (fun x hx y hy => himp x (List.mem_cons_of_mem _ hx) y (List.mem_cons_of_mem _ hy)) h.2
    have hab : S a b := himp a List.mem_cons_self b (List.mem_cons_of_mem _ List.mem_cons_self)
      (fun he => hn'.1 (he ▸ List.mem_cons_self)) h.1
    refine List.pairwise_cons.mpr ⟨fun c hc => ?_, ih⟩
    rcases List.mem_cons.mp hc with rfl | hc
    · exact hab
    · exact htr _ _ _ hab ((List.pairwise_cons.mp ih).1 c hc)

theorem close_pairwise_insert {R : α → α → Prop} (htr : ∀ a b c, R a b → R b c → R a c) {l1 l2 : List α} {x : α}
    (h : (l1 ++ l2).Pairwise R) (h1 : ∀ a ∈ l1.getLast?, R a x) (h2 : ∀ b ∈ l2.head?, R x b) :
    (l1 ++ x :: l2).Pairwise R := by
  rw [List.pairwise_append] at h ⊢
  obtain ⟨hs1, hs2, hs12⟩ := h
  have hx2 : ∀ b ∈ l2, R x b := by
    cases l2 with
    | nil => nofun
    | cons z t =>
      intro b hb
      rcases List.mem_cons.mp hb with rfl | hb
      · exact h2 b rfl
      · exact htr _ _ _ (h2 z rfl) ((List.pairwise_cons.mp hs2).1 b hb)
  have hx1 : ∀ a ∈ l1, R a x := by
    rcases List.eq_nil_or_concat l1 with rfl | ⟨i, z, rfl⟩
    · nofun
    · rw [List.concat_eq_append] at hs1 h1 ⊢
      have hz : R z x := h1 z (by simp)
      intro a ha
      rcases List.mem_append.mp ha with ha | ha
      · exact htr _ _ _ ((List.pairwise_append.mp hs1).2.2 a ha z (by simp)) hz
      · rw [List.mem_singleton.mp ha]
        exact hz
  refine ⟨hs1, List.pairwise_cons.mpr ⟨hx2, hs2⟩, fun a ha b hb => ?_⟩
  rcases List.mem_cons.mp hb with rfl | hb
  · exact hx1 a ha
  · exact hs12 a ha b hb

theorem close_mid_lt {l r : Nat} (h : l < r) : l + (r - l) / 2 < r := by omega

theorem close_bisect_aux (lt : α → α → Bool) (x : α) (pre : List α) (l r : Nat) :
    l ≤ r → r ≤ pre.length →
    (∀ i y, i + 1 = l → pre[i]? = some y → lt x y = false) →
    (∀ y, pre[r]? = some y → lt x y = true) →
    bisect lt x pre l r ≤ r ∧
      (∀ i y, i + 1 = bisect lt x pre l r → pre[i]? = some y → lt x y = false) ∧
      (∀ y, pre[bisect lt x pre l r]? = some y → lt x y = true) := by
  fun_induction bisect lt x pre l r with
  | case1 l r hlr y hy hlt ih =>
    intro _ hr hL _
    have hm := Nat.le_of_lt (close_mid_lt hlr)
    have := ih (Nat.le_add_right _ _) (Nat.le_trans hm hr) hL (fun y' hy' => by
      rw [hy] at hy'
      cases hy'
      exact hlt)
    exact ⟨Nat.le_trans this.1 hm, this.2⟩
  | case2 l r hlr y hy hlt ih =>
    intro _ hr _ hR
    refine ih (close_mid_lt hlr) hr (fun i y' hi hy' => ?_) hR
    obtain rfl := Nat.add_right_cancel hi
    rw [hy] at hy'
    cases hy'
    exact Bool.eq_false_iff.mpr hlt
  | case3 l r hlr hnone =>
    intro _ hr _ _
    exact absurd (Nat.lt_of_lt_of_le (close_mid_lt hlr) hr) (Nat.not_lt.mpr (List.getElem?_eq_none_iff.mp hnone))
  | case4 l r hlr =>
    intro h1 _ hL hR
    cases Nat.le_antisymm h1 (Nat.not_lt.mp hlr)
    exact ⟨Nat.le_refl _, hL, hR⟩

/-- one step of `binarysort` -/
def close_ins (lt : α → α → Bool) (x : α) (pre : List α) : List α :=
  pre.take (bisect lt x pre 0 pre.length) ++ x :: pre.drop (bisect lt x pre 0 pre.length)

theorem close_binarySort_cons (lt : α → α → Bool) (sorted : List α) (x : α) (rest : List α) :
    binarySort lt sorted (x :: rest) = binarySort lt (close_ins lt x sorted) rest := rfl

/-- for an arbitrary comparison only the comparisons with the two neighbours are known -/
theorem close_ins_spec (lt : α → α → Bool) (x : α) (pre : List α) :
    ∃ l1 l2, pre = l1 ++ l2 ∧ close_ins lt x pre = l1 ++ x :: l2 ∧
      (∀ a ∈ l1.getLast?, lt x a = false) ∧ (∀ b ∈ l2.head?, lt x b = true) := by
  obtain ⟨hk, h1, h2⟩ := close_bisect_aux lt x pre 0 pre.length (Nat.zero_le _) (Nat.le_refl _)
    (fun i y hi => nomatch hi) (fun y hy => by simp at hy)
  unfold close_ins
  generalize bisect lt x pre 0 pre.length = k at hk h1 h2
  refine ⟨pre.take k, pre.drop k, (List.take_append_drop k pre).symm, rfl, fun a ha => ?_, fun b hb => ?_⟩
  · cases k with
    | zero => simp at ha
    | succ k =>
      rw [List.getLast?_take, if_neg (Nat.succ_ne_zero k), Nat.add_sub_cancel,
        List.getElem?_eq_getElem (Nat.lt_of_succ_le hk)] at ha
      exact h1 k a rfl (by rw [List.getElem?_eq_getElem (Nat.lt_of_succ_le hk)]; exact ha)
  · rw [List.head?_drop] at hb
    exact h2 b hb

theorem close_ins_perm (lt : α → α → Bool) (x : α) (pre : List α) : (close_ins lt x pre).Perm (x :: pre) := by
  unfold close_ins
  have := @List.perm_middle _ x (pre.take (bisect lt x pre 0 pre.length)) (pre.drop (bisect lt x pre 0 pre.length))
  rw [List.take_append_drop] at this
  exact this

theorem close_countAsc_spec (lt : α → α → Bool) : ∀ (l : List α) (prev : α),
    close_Adj (fun a b => lt b a = false) (prev :: l.take (countAsc lt prev l))
  | [], prev => trivial
  | x :: xs, prev => by
    unfold countAsc
    cases h : lt x prev with
    | true => exact trivial
    | false =>
      rw [if_neg Bool.false_ne_true, Nat.add_comm, List.take_succ_cons]
      exact ⟨h, close_countAsc_spec lt xs x⟩

theorem close_countDesc_spec (lt : α → α → Bool) : ∀ (l : List α) (prev : α),
    close_Adj (fun a b => lt b a = true) (prev :: l.take (countDesc lt prev l))
  | [], prev => trivial
  | x :: xs, prev => by
    unfold countDesc
    cases h : lt x prev with
    | false => exact trivial
    | true =>
      rw [if_pos rfl, Nat.add_comm, List.take_succ_cons]
      exact ⟨h, close_countDesc_spec lt xs x⟩

theorem close_countRun_spec (lt : α → α → Bool) (l : List α) :
    ((countRun lt l).2 = false → close_Adj (fun a b => lt b a = false) (l.take (countRun lt l).1)) ∧
      ((countRun lt l).2 = true → close_Adj (fun a b => lt b a = true) (l.take (countRun lt l).1)) := by
  match l with
  | [] => exact ⟨fun _ => trivial, fun _ => trivial⟩
  | [a] => exact ⟨fun _ => trivial, fun _ => trivial⟩
  | a :: b :: rest =>
    cases h : lt b a with
    | true =>
      simp only [countRun, h, if_true, Nat.add_comm 2, List.take_succ_cons]
      exact ⟨nofun, fun _ => ⟨h, close_countDesc_spec lt rest b⟩⟩
    | false =>
      simp only [countRun, h, Bool.false_eq_true, if_false, Nat.add_comm 2, List.take_succ_cons]
      exact ⟨fun _ => ⟨h, close_countAsc_spec lt rest b⟩, nofun⟩

/-- `lt` restricted to the (distinct) elements of `L` is the strict order of an injective rank -/
structure close_Ranked (lt : α → α → Bool) (rk : α → Nat) (L : List α) : Prop where
  tri : ∀ a ∈ L, ∀ b ∈ L, a = b ∨ (rk a < rk b ∧ lt a b = true ∧ lt b a = false) ∨
    (rk b < rk a ∧ lt b a = true ∧ lt a b = false)

theorem close_Ranked.of_perm {lt : α → α → Bool} {rk : α → Nat} {L L' : List α} (h : close_Ranked lt rk L)
    (hp : L'.Perm L) : close_Ranked lt rk L' :=
  ⟨fun a ha b hb => h.tri a (hp.mem_iff.mp ha) b (hp.mem_iff.mp hb)⟩

theorem close_Ranked.of_lt {lt : α → α → Bool} {rk : α → Nat} {L : List α} (hR : close_Ranked lt rk L) {a b : α}
    (ha : a ∈ L) (hb : b ∈ L) (hne : a ≠ b) (h : lt a b = true) : rk a < rk b := by
  rcases hR.tri a ha b hb with he | ⟨h1, _, _⟩ | ⟨_, _, h3⟩
  · exact (hne he).elim
  · exact h1
  · rw [h3] at h
    cases h

theorem close_Ranked.of_not_lt {lt : α → α → Bool} {rk : α → Nat} {L : List α} (hR : close_Ranked lt rk L) {a b : α}
    (ha : a ∈ L) (hb : b ∈ L) (hne : a ≠ b) (h : lt a b = false) : rk b < rk a := by
  rcases hR.tri a ha b hb with he | ⟨_, h2, _⟩ | ⟨h1, _, _⟩
  · exact (hne he).elim
  · rw [h2] at h
    cases h
  · exact h1

theorem close_ins_asc {lt : α → α → Bool} {rk : α → Nat} {L : List α} (hR : close_Ranked lt rk L)
    {x : α} {pre : List α} (hx : x ∈ L) (hpre : ∀ a ∈ pre, a ∈ L) (hnx : x ∉ pre)
    (hs : pre.Pairwise (fun a b => rk a < rk b)) :
    (close_ins lt x pre).Pairwise (fun a b => rk a < rk b) := by
  obtain ⟨l1, l2, rfl, hins, h1, h2⟩ := close_ins_spec lt x pre
  rw [hins]
  have hne : ∀ a ∈ l1 ++ l2, x ≠ a := fun a ha he => hnx (he ▸ ha)
  refine close_pairwise_insert (R := fun a b => rk a < rk b) (fun _ _ _ => Nat.lt_trans) hs (fun a ha => ?_) (fun b hb => ?_)
  · have ha' : a ∈ l1 ++ l2 := List.mem_append_left _ (List.mem_of_mem_getLast? ha)
    exact hR.of_not_lt hx (hpre a ha') (hne a ha') (h1 a ha)
  · have hb' : b ∈ l1 ++ l2 := List.mem_append_right _ (List.mem_of_mem_head? hb)
    exact hR.of_lt hx (hpre b hb') (hne b hb') (h2 b hb)

theorem close_binarySort_asc {lt : α → α → Bool} {rk : α → Nat} {L : List α} (hR : close_Ranked lt rk L) :
    ∀ (rest sorted : List α), (∀ a ∈ sorted ++ rest, a ∈ L) → (sorted ++ rest).Nodup →
      sorted.Pairwise (fun a b => rk a < rk b) → (binarySort lt sorted rest).Pairwise (fun a b => rk a < rk b) := by
  intro rest
  induction rest with
  | nil => exact fun _ _ _ hs => hs
  | cons x rest ih =>
    intro sorted hmem hnd hs
    rw [close_binarySort_cons]
    have hp : (close_ins lt x sorted ++ rest).Perm (sorted ++ x :: rest) :=
      ((close_ins_perm lt x sorted).append_right rest).trans List.perm_middle.symm
    have hnx : x ∉ sorted := fun hx => (List.nodup_append.mp hnd).2.2 x hx x List.mem_cons_self rfl
    exact ih _ (fun a ha => hmem a (hp.mem_iff.mp ha)) (hp.nodup_iff.mpr hnd)
      (close_ins_asc hR (hmem x (by simp)) (fun a ha => hmem a (List.mem_append_left _ ha)) hnx hs)

/-- `list.sort()` with a comparison that is a strict total order on the distinct elements sorts -/
theorem close_pySort_asc {lt : α → α → Bool} {rk : α → Nat} {l : List α} (hR : close_Ranked lt rk l)
    (hnd : l.Nodup) : (pySort lt l).Pairwise (fun a b => rk a < rk b) := by
  obtain ⟨hasc, hdesc⟩ := close_countRun_spec lt l
  unfold pySort
  generalize countRun lt l = r at hasc hdesc
  have hsub : ∀ a ∈ l.take r.1, a ∈ l := fun a ha => List.mem_of_mem_take ha
  have hndt : (l.take r.1).Nodup := hnd.sublist (List.take_sublist _ _)
  -- the run, reversed when it is descending, is ascending in rank; the rest is inserted into it
  have hrun : (if r.2 = true then (l.take r.1).reverse else l.take r.1).Pairwise (fun a b => rk a < rk b) := by
    split
    · rename_i h2
      rw [List.pairwise_reverse]
      exact close_adj_sorted (S := fun a b => rk b < rk a) (fun a b c h1 h2 => Nat.lt_trans h2 h1) hndt
        (fun a ha b hb hne h => hR.of_lt (hsub b hb) (hsub a ha) (Ne.symm hne) h) (hdesc h2)
    · rename_i h2
      exact close_adj_sorted (S := fun a b => rk a < rk b) (fun a b c => Nat.lt_trans) hndt
        (fun a ha b hb hne h => hR.of_not_lt (hsub b hb) (hsub a ha) (Ne.symm hne) h) (hasc (Bool.eq_false_iff.mpr h2))
  have hperm : ((if r.2 = true then (l.take r.1).reverse else l.take r.1) ++ l.drop r.1).Perm l := by
    have h : (if r.2 = true then (l.take r.1).reverse else l.take r.1).Perm (l.take r.1) := by
      split
      · exact List.reverse_perm _
      · exact List.Perm.refl _
    simpa using h.append_right (l.drop r.1)
  exact close_binarySort_asc hR _ _ (fun a ha => hperm.mem_iff.mp ha) (hperm.nodup_iff.mpr hnd) hrun

theorem close_pySortRev_desc {lt : α → α → Bool} {rk : α → Nat} {l : List α} (hR : close_Ranked lt rk l)
    (hnd : l.Nodup) : (pySortRev lt l).Pairwise (fun a b => rk b < rk a) := by
  unfold pySortRev
  rw [List.pairwise_reverse]
  exact close_pySort_asc (hR.of_perm (List.reverse_perm l)) ((List.reverse_perm l).nodup_iff.mpr hnd)

theorem close_sorted_perm_eq {R : α → α → Prop} (hasym : ∀ a b, R a b → R b a → False) {l1 l2 : List α}
    (hp : l1.Perm l2) (h1 : l1.Pairwise R) (h2 : l2.Pairwise R) : l1 = l2 := by
  induction l1 generalizing l2 with
  | nil => exact List.Perm.nil_eq hp
  | cons a t1 ih =>
    cases l2 with
    | nil => exact absurd hp.length_eq (by simp)
    | cons b t2 =>
      rw [List.pairwise_cons] at h1 h2
      -- the two heads are the same: each is the least element of both lists
      have hab : a = b := by
        rcases List.mem_cons.mp (hp.mem_iff.mp List.mem_cons_self) with h | ha'
        · exact h
        · rcases List.mem_cons.mp (hp.mem_iff.mpr List.mem_cons_self) with h | hb'
          · exact h.symm
          · exact (hasym a b (h1.1 b hb') (h2.1 a ha')).elim
      subst hab
      rw [ih (List.Perm.cons_inv hp) h1.2 h2.2]

theorem close_pairwise_mem {R : α → α → Prop} {l : List α} (h : l.Pairwise R) {a b : α}
    (ha : a ∈ l) (hb : b ∈ l) : a = b ∨ R a b ∨ R b a := by
  induction l with
  | nil => cases ha
  | cons x t ih =>
    have hc := List.pairwise_cons.mp h
    rcases List.mem_cons.mp ha with rfl | ha'
    · rcases List.mem_cons.mp hb with rfl | hb'
      · exact Or.inl rfl
      · exact Or.inr (Or.inl (hc.1 b hb'))
    · rcases List.mem_cons.mp hb with rfl | hb'
      · exact Or.inr (Or.inr (hc.1 a ha'))
      · exact ih hc.2 ha' hb'

theorem close_idxOf_pairwise [DecidableEq α] {l : List α} (hn : l.Nodup) :
    l.Pairwise (fun a b => l.idxOf a < l.idxOf b) := by
  induction l with
  | nil => exact List.Pairwise.nil
  | cons x t ih =>
    rw [List.nodup_cons] at hn
    have hx : ∀ b ∈ t, (x == b) = false := fun b hb => beq_false_of_ne fun he => hn.1 (he ▸ hb)
    rw [List.pairwise_cons]
    constructor
    · intro b hb
      simp [List.idxOf_cons, hx b hb]
    · refine (ih hn.2).imp_of_mem fun ha hb h => ?_
      simp [List.idxOf_cons, hx _ ha, hx _ hb, h]

theorem close_idxOf_inj [DecidableEq α] {l : List α} (hn : l.Nodup) {a b : α} (ha : a ∈ l) (hb : b ∈ l)
    (h : l.idxOf a = l.idxOf b) : a = b := by
  rcases close_pairwise_mem (close_idxOf_pairwise hn) ha hb with h' | h' | h'
  · exact h'
  · omega
  · omega

theorem close_countAsc_snoc (lt : α → α → Bool) (x : α) : ∀ (c : List α) (prev z : α),
    close_Adj (fun a b => lt b a = false) (prev :: c) → (prev :: c).getLast? = some z →
    countAsc lt prev (c ++ [x]) = c.length + (if lt x z = true then 0 else 1) := by
  intro c
  induction c with
  | nil =>
    intro prev z _ hz
    simp only [List.getLast?_singleton, Option.some.injEq] at hz
    subst hz
    simp only [List.nil_append, countAsc, List.length_nil]
    split <;> simp
  | cons b t ih =>
    intro prev z h hz
    rw [List.getLast?_cons_cons] at hz
    have ih := ih b z h.2 hz
    simp only [List.cons_append, countAsc, h.1, Bool.false_eq_true, if_false, ih, List.length_cons]
    omega

/-- `self._queues[version] = …; self._queues = OrderedDict(sorted(…))`: on a list without adjacent descent the sort
    inserts the appended element at a position where the two adjacent comparisons hold -/
theorem close_pySort_snoc (lt : α → α → Bool) (c : List α) (x : α)
    (hc : close_Adj (fun a b => lt b a = false) c) :
    ∃ l1 l2, c = l1 ++ l2 ∧ pySort lt (c ++ [x]) = l1 ++ x :: l2 ∧
      (∀ a ∈ l1.getLast?, lt x a = false) ∧ (∀ b ∈ l2.head?, lt x b = true) := by
  match c, hc with
  | [], _ => exact ⟨[], [], rfl, by simp [pySort, countRun, binarySort], by simp, by simp⟩
  | [a], _ =>
    by_cases h : lt x a = true
    · exact ⟨[], [a], rfl, by simp [pySort, countRun, countDesc, binarySort, h], by simp, by simp [h]⟩
    · exact ⟨[a], [], rfl, by simp [pySort, countRun, countAsc, binarySort, h], by simpa using h, by simp⟩
  | a :: b :: t, hc =>
    obtain ⟨z, hz⟩ : ∃ z, (b :: t).getLast? = some z := ⟨_, List.getLast?_eq_some_getLast (List.cons_ne_nil b t)⟩
    -- the run that `count_run` finds is the whole of `c`, with `x` when `x` is not below the last element
    have hrun : countRun lt (a :: b :: t ++ [x]) = ((a :: b :: t).length + (if lt x z = true then 0 else 1), false) := by
      simp only [List.cons_append, countRun, hc.1, Bool.false_eq_true, if_false, close_countAsc_snoc lt x t b z hc.2 hz,
        List.length_cons]
      congr 1
      omega
    unfold pySort
    simp only [hrun, Bool.false_eq_true, if_false]
    by_cases h : lt x z = true
    · rw [if_pos h, Nat.add_zero, List.take_left, List.drop_left]
      exact close_ins_spec lt x (a :: b :: t)
    · rw [if_neg h, List.take_of_length_le (by simp), List.drop_of_length_le (by simp)]
      refine ⟨a :: b :: t, [], by simp, by simp [binarySort], fun y hy => ?_, by simp⟩
      rw [List.getLast?_cons_cons, hz] at hy
      cases hy
      exact Bool.eq_false_iff.mpr h

end
end BertE.Close
