import BertE.Lemmas.Queue
/- Where exactly the queue merge puts every destination branch. -/
namespace BertE.Flow
open BertE.Git

/-- the newest entry of the list (oldest first) that targets `d` -/
def lastTargeting : List QEntry → Dest → Option QEntry
  | [], _ => none
  | e :: es, d => match lastTargeting es d with
    | some e' => some e'
    | none => if d ∈ e.targets then some e else none

theorem lastTargeting_mem {es : List QEntry} {d : Dest} {e : QEntry} (h : lastTargeting es d = some e) :
    e ∈ es ∧ d ∈ e.targets := by
  induction es with
  | nil => cases h
  | cons x xs ih =>
    rw [lastTargeting] at h
    split at h
    · next hx =>
      cases h
      exact ⟨List.mem_cons_of_mem _ (ih hx).1, (ih hx).2⟩
    · split at h
      · next hd =>
        cases h
        exact ⟨List.mem_cons_self, hd⟩
      · cases h

/-- every destination ends on the queue commit of the newest selected pull request that targets it; the others do
    not move -/
theorem mergeEntries_get {s : Sys} (hq : QueueInv s) : ∀ (es : List QEntry) (m : RefMap),
    (∀ e ∈ es, e ∈ s.queue) → (∀ pr d src, m.get (.qw pr d src) = s.remote.get (.qw pr d src)) →
    ∀ d, (es.foldl mergeEntry m).get (.dest d) =
      match lastTargeting es d with
      | some e => qwOf s.remote e d
      | none => m.get (.dest d)
  | [], _, _, _, _ => rfl
  | e :: es, m, hmem, hqs, d => by
    obtain ⟨hin, hrest⟩ := mergeEntry_get hq (hmem e List.mem_cons_self) hqs
    rw [List.foldl_cons, mergeEntries_get hq es _ (fun x hx => hmem x (List.mem_cons_of_mem _ hx))
      (fun pr d src => (hrest (.qw pr d src) (fun _ _ he => nomatch he)).trans (hqs pr d src)) d, lastTargeting]
    cases lastTargeting es d with
    | some e' => rfl
    | none =>
      simp only
      by_cases hd : d ∈ e.targets
      · rw [if_pos hd]
        exact hin d hd
      · rw [if_neg hd]
        exact hrest _ (fun d' hd' he => hd (by cases he; exact hd'))

end BertE.Flow
