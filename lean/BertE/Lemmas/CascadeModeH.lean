import BertE.Lemmas.CascadeModeN
/- Destination a hotfix branch. -/
namespace BertE.Cascade
open Spec

section
variable {bs : List Branch} {tags : List Tag} {c0 : Cascade} {M m u : Nat}

/-- the hotfix branch object after the tags -/
def hfObj (tags : List Tag) (M m u : Nat) : HfB := evolveHf tags (M, some m) ⟨M, m, u, -1⟩

theorem hfObj_toBranch (tags : List Tag) (M m u : Nat) : (hfObj tags M m u).toBranch = .hotfix M m u := rfl

theorem hfObj_hfrev (tags : List Tag) (M m u : Nat) : (hfObj tags M m u).hfrev = hfRev tags M m u := rfl

theorem hf_H (r : Rep bs (.hotfix M m u) c0) (hdst : Branch.hotfix M m u ∈ bs) :
    ∀ q ∈ c3of tags c0, q.2.hf = if (M, some m) = q.1 then some (hfObj tags M m u) else none := by
  intro q hq
  rw [(c3_entries r tags q hq).hf, hfSlot_hotfix]
  by_cases h : (M, some m) = q.1
  · simp only [h, hdst, and_self, if_true, Option.map_some, hfObj]
  · simp [h]

theorem hfDst_H (r : Rep bs (.hotfix M m u) c0) (hdst : Branch.hotfix M m u ∈ bs) :
    ∀ q ∈ c3of tags c0, ∀ h, q.2.hf = some h → h.toBranch = .hotfix M m u := by
  intro q hq h hh
  rw [hf_H r hdst q hq] at hh
  split at hh
  · simp only [Option.some.injEq] at hh; subst hh; rfl
  · cases hh

/-- what the line `q` contributes to the ignored branches -/
def gH (q : Key × BranchSet) : List Branch := stbBranch q.2 ++ devBranch q

theorem namesH_eq (q : Key × BranchSet) : namesH q = (gH q).map Branch.name := by
  unfold namesH gH devBranch stbBranch stbName
  cases q.2.dev <;> cases q.2.stb <;> simp

theorem ignored_H (r : Rep bs (.hotfix M m u) c0) (hnd : bs.Nodup) :
    sortNames ((c3of tags c0).flatMap namesH) = Spec.ignored bs (.hotfix M m u) := by
  have : (c3of tags c0).flatMap namesH = ((c3of tags c0).flatMap gH).map Branch.name := by
    rw [List.map_flatMap]; exact flatMap_congr' (fun q _ => namesH_eq q)
  rw [this]
  refine ignored_of r hnd gH ?_ (fun q _ => List.perm_append_comm.nodup_iff.mp (nodup_dev_stb q))
  intro q _ b
  unfold gH
  rw [List.mem_append, List.mem_append, or_comm]
  refine ⟨fun h => ⟨h, ?_⟩, fun h => h.1⟩
  -- the only target is the hotfix branch
  simp only [Spec.dst, List.mem_singleton]
  rintro rfl
  rcases h with h | h
  · cases devBranch_isDev q _ h
  · cases stbBranch_isStab q.2 _ h

theorem spec_error_H (hms : multipleStab bs = false) (hdep : deprecated bs tags (.hotfix M m u) = false)
    (o : Option Err) (ho : orphanErr bs (.hotfix M m u) = o) :
    Spec.error bs tags (.hotfix M m u) = o := by
  cases o <;> simp [Spec.error, hms, hdep, ho, mismatch]

/-- On the final cascade a line fails exactly when it has a stabilization branch and no development branch:
    the crash on the line of the destination, `DevBranchDoesNotExist` elsewhere. -/
theorem hErr_eq_some {dst : Branch} {c1 : Cascade} {q : Key × BranchSet} (hF : Fin3 bs tags dst c1 q) (e : Err) :
    hErr q = some e ↔ q.2.dev = none ∧ q.2.stb.isSome ∧
      (if q.2.hf.isSome then Err.attributeError else Err.devBranchDoesNotExist) = e := by
  have hu := hF.used
  obtain ⟨k, dev, stb, hf⟩ := q
  cases dev <;> cases stb <;> cases hf <;> simp [hErr] at hu ⊢

theorem flatMap_hf {α : Type} (r : Rep bs (.hotfix M m u) c0) (hdst : Branch.hotfix M m u ∈ bs) (g : Key → HfB → α) :
    (c3of tags c0).flatMap (fun q => (q.2.hf.map (g q.1)).toList) = [g (M, some m) (hfObj tags M m u)] := by
  have hhf := hf_H (tags := tags) r hdst
  obtain ⟨pre, q0, post, hc, hk, hpre, hpost⟩ := c3_split (tags := tags) r hdst
  obtain ⟨hmpre, hq0, hmpost⟩ := mem_of_split hc
  simp only [Branch.key] at hk hpre hpost
  simp only [hc, List.flatMap_append, List.flatMap_cons]
  rw [List.flatMap_eq_nil_iff.mpr (fun p hp => by
      rw [hhf p (hmpre p hp), if_neg (fun h => keyLt_ne (hpre p hp) h.symm)]; rfl),
    List.flatMap_eq_nil_iff.mpr (fun p hp => by
      rw [hhf p (hmpost p hp), if_neg (fun h => keyLt_ne (hpost p hp) h)]; rfl),
    hhf q0 hq0, if_pos hk.symm, hk]
  rfl

theorem modeH {inc : Branch → Branch → Bool} (hinc : ∀ a b, inc a b = true)
    (hnd : bs.Nodup) (hdst : Branch.hotfix M m u ∈ bs) (r : Rep bs (.hotfix M m u) c0)
    (hms : multipleStab bs = false) (hdep : deprecated bs tags (.hotfix M m u) = false) :
    finish inc (.hotfix M m u) (c3of tags c0) = Spec.result bs tags (.hotfix M m u) := by
  unfold finish
  have hH : (Branch.hotfix M m u).isHotfix = true := rfl
  have hF := c3_entries r tags
  have hs := c3_sorted r tags
  have hhf := hf_H (tags := tags) r hdst
  have hhd := hfDst_H (tags := tags) r hdst
  cases hfind : (c3of tags c0).find? (fun q => (hErr q).isSome) with
  | none =>
    have hall : ∀ q ∈ c3of tags c0, hErr q = none := fun q hq =>
      Option.not_isSome_iff_eq_none.mp (List.find?_eq_none.mp hfind q hq)
    rw [finalize_H hH _ hall hhd]
    simp only [validate, inc_true hinc, validate_H]
    have hno : bs.any (orphan bs) = false := by
      rw [Bool.eq_false_iff]
      intro h
      obtain ⟨b, hb, ho⟩ := List.any_eq_true.mp h
      obtain ⟨q, hq, _, hd, hst⟩ := line_of_orphan (tags := tags) r hb ho
      have h := (hErr_eq_some (hF q hq) _).mpr ⟨hd, hst, rfl⟩
      rw [hall q hq] at h
      cases h
    have hoe : orphanErr bs (.hotfix M m u) = none := by simp [orphanErr, hno]
    simp only [Spec.result, spec_error_H hms hdep none hoe]
    have hkept : (c3of tags c0).flatMap keptH = [((M, some m), ⟨none, none, some (hfObj tags M m u)⟩)] :=
      flatMap_hf (tags := tags) r hdst (fun k h => (k, (⟨none, none, some h⟩ : BranchSet)))
    have hdsts : (c3of tags c0).flatMap hfBranch = [Branch.hotfix M m u] :=
      flatMap_hf (tags := tags) r hdst (fun _ h => h.toBranch)
    congr 1
    refine Result.mk.injEq .. |>.mpr ⟨?_, ?_, ?_, ?_⟩
    · rw [hdsts]; rfl
    · exact ignored_H r hnd
    · rw [hkept]
      simp [setTargetVersions, targetOf, Branch.isHotfix, Spec.targetVersions, hfObj_hfrev]
      exact ⟨rfl, rfl, rfl⟩
    · exact mergePaths_spec r hnd tags
  | some bad =>
    obtain ⟨hbad, good, rest, hc, hgood⟩ := List.find?_eq_some_iff_append.mp hfind
    obtain ⟨e, he⟩ := Option.isSome_iff_exists.mp hbad
    have hgood' : ∀ p ∈ good, hErr p = none := fun p hp => by simpa using hgood p hp
    rw [hc, finalize_H_err hH good rest bad e he hgood' (by rw [← hc]; exact hhd)]
    have hbadm : bad ∈ c3of tags c0 := by rw [hc]; simp
    rw [hc, Sorted, List.pairwise_append, List.pairwise_cons] at hs
    obtain ⟨hbd1, hbd2, rfl⟩ := (hErr_eq_some (hF bad hbadm) e).mp he
    obtain ⟨b, hb, hob, hbk⟩ := orphan_line r hbadm hbd1 hbd2
    have hany : bs.any (orphan bs) = true := List.any_eq_true.mpr ⟨b, hb, hob⟩
    -- every other orphan line is the failing line or comes after it
    have hfirst : ∀ b' ∈ bs, orphan bs b' = true → ¬ keyLt b'.key bad.1 := by
      intro b' hb' ho' hlt
      obtain ⟨q', hq', hqk, hqd, hqs⟩ := line_of_orphan (tags := tags) r hb' ho'
      have hne := (hErr_eq_some (hF q' hq') _).mpr ⟨hqd, hqs, rfl⟩
      rw [hc] at hq'
      rcases List.mem_append.mp hq' with h | h
      · rw [hgood' q' h] at hne; cases hne
      · rcases List.mem_cons.mp h with rfl | h
        · rw [hqk] at hlt; exact keyLt_irrefl _ hlt
        · have := hs.2.1.1 q' h
          rw [hqk] at this
          exact keyLt_asymm this hlt
    simp only [Spec.result]
    cases hbh : bad.2.hf with
    | some h0 =>
      have hkey : (M, some m) = bad.1 := by
        have := hhf bad hbadm
        rw [hbh] at this
        exact Decidable.byContradiction fun hk => by rw [if_neg hk] at this; cases this
      simp only [Option.isSome_some, if_true]
      have hoe : orphanErr bs (.hotfix M m u) = some .attributeError := by
        unfold orphanErr
        rw [hany]
        have h2 : bs.any (fun b => orphan bs b && b.key == (Branch.hotfix M m u).key) = true :=
          List.any_eq_true.mpr ⟨b, hb, by rw [hob, Bool.true_and, beq_iff_eq, hbk, ← hkey]; rfl⟩
        have h3 : bs.all (fun b => !(orphan bs b && decide (keyLt b.key (Branch.hotfix M m u).key))) = true := by
          rw [List.all_eq_true]
          intro b' hb'
          simp only [Bool.not_eq_true', Bool.and_eq_false_iff, decide_eq_false_iff_not]
          cases ho' : orphan bs b' with
          | false => left; rfl
          | true => right; simp only [Branch.key]; rw [hkey]; exact hfirst b' hb' ho'
        rw [hH, h2, h3]
        rfl
      rw [spec_error_H hms hdep _ hoe]
    | none =>
      simp only [Option.isSome_none, Bool.false_eq_true, if_false]
      have hoe : orphanErr bs (.hotfix M m u) = some .devBranchDoesNotExist := by
        unfold orphanErr
        rw [hany]
        simp only [if_true]
        rw [if_neg]
        intro hC
        simp only [Bool.and_eq_true] at hC
        obtain ⟨⟨_, h2⟩, h3⟩ := hC
        obtain ⟨b0, hb0, hc0⟩ := List.any_eq_true.mp h2
        simp only [Bool.and_eq_true, beq_iff_eq] at hc0
        obtain ⟨q0, hq0, hqk, hqd, hqs⟩ := line_of_orphan (tags := tags) r hb0 hc0.1
        have hq0hf : q0.2.hf = some (hfObj tags M m u) := by
          rw [hhf q0 hq0, if_pos]; rw [hqk, hc0.2]; rfl
        have hne := (hErr_eq_some (hF q0 hq0) _).mpr ⟨hqd, hqs, rfl⟩
        have hnlt : ¬ keyLt bad.1 (M, some m) := by
          have := List.all_eq_true.mp h3 b hb
          simp only [hob, Bool.true_and, Bool.not_eq_true', decide_eq_false_iff_not] at this
          have hk2 : (Branch.hotfix M m u).key = (M, some m) := rfl
          rw [hbk, hk2] at this; exact this
        have hq0k : q0.1 = (M, some m) := by rw [hqk, hc0.2]; rfl
        rw [hc] at hq0
        rcases List.mem_append.mp hq0 with h | h
        · rw [hgood' q0 h] at hne; cases hne
        · rcases List.mem_cons.mp h with rfl | h
          · rw [hbh] at hq0hf; cases hq0hf
          · have := hs.2.1.1 q0 h
            rw [hq0k] at this
            exact hnlt this
      rw [spec_error_H hms hdep _ hoe]

end

end BertE.Cascade
