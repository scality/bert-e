import BertE.Lemmas.CloseEvalObs
import BertE.Lemmas.StepAll
import BertE.Lemmas.Admin
import BertE.Lemmas.EvalGates
import BertE.Lemmas.C02Content
import BertE.Lemmas.C10
import BertE.Lemmas.Prs
/-
Every event of the repository model keeps the commit numbering monotone (`close_Mono`) and the keys of the remote ref
map distinct (`KeysNodup`): two instances of ONE traversal (`Stable`, `full2_step_stable`).
-/
namespace BertE.Full2
open BertE.Git BertE.Flow BertE.Close BertE.Admin

/-- `PG`: a property of commit graphs that a new commit keeps, whatever its parents; `PR`: a property of ref maps that
    setting and deleting a ref keep. Everything a job does to its clone and to the remote is made of these steps. -/
structure Stable (PG : Graph → Prop) (PR : RefMap → Prop) : Prop where
  commit : ∀ {g : Graph} (ps : List Commit), PG g → PG (g.addCommit ps).1
  set : ∀ {m : RefMap} (r : Ref) (c : Commit), PR m → PR (m.set r c)
  del : ∀ {m : RefMap} (r : Ref), PR m → PR (m.del r)

theorem full2_stable_mono : Stable close_Mono (fun _ => True) := ⟨fun ps h => close_mono_addCommit h ps, fun _ _ _ => trivial, fun _ _ => trivial⟩

theorem full2_stable_keys : Stable (fun _ => True) KeysNodup :=
  ⟨fun _ _ => trivial, fun r c h => keysNodup_set h r c, fun r h => keysNodup_del h r⟩

section
variable {PG : Graph → Prop} {PR : RefMap → Prop} (st : Stable PG PR)
include st

theorem Stable.delRefs : ∀ (rs : List Ref) {m : RefMap}, PR m → PR (delRefs m rs)
  | [], _, h => h
  | r :: rs, _, h => Stable.delRefs rs (st.del r h)

theorem Stable.gitMerge {g : Graph} (tip : Commit) (srcs : List Commit) (ok : Bool) (h : PG g) :
    PG (BertE.Git.merge g tip srcs ok).1 := by
  unfold BertE.Git.merge
  split
  · exact h
  · split
    · exact st.commit _ h
    · exact h

theorem Stable.merge {l l' : Loc} {r : Ref} {srcs : List Commit} (hk : PG l.g ∧ PR l.refs)
    (h : l.merge r srcs = some l') : PG l'.g ∧ PR l'.refs := by
  unfold Loc.merge at h
  cases hr : l.refs.get r with
  | none => simp [hr] at h
  | some tip =>
    rw [hr] at h
    simp only at h
    cases ht : topHead l.g (tip :: srcs) with
    | some hd =>
      rw [ht] at h
      simp only [Option.some.injEq] at h
      subst h
      exact ⟨hk.1, st.set _ _ hk.2⟩
    | none =>
      rw [ht] at h
      obtain ⟨hag, har⟩ := l.ask_g
      generalize l.ask = a at h hag har
      obtain ⟨ok, la⟩ := a
      simp only at h hag har
      have hg := st.gitMerge tip srcs ok (hag ▸ hk.1)
      cases hmm : BertE.Git.merge la.g tip srcs ok with
      | mk g' res =>
        rw [hmm] at h hg
        cases res with
        | none => simp at h
        | some c =>
          simp only [Option.some.injEq] at h
          subst h
          exact ⟨hg, har ▸ st.set _ _ hk.2⟩

theorem Stable.merge1 {l : Loc} (r : Ref) (c : Commit) (hk : PG l.g ∧ PR l.refs) :
    PG (l.merge1 r c).1.g ∧ PR (l.merge1 r c).1.refs := by
  rcases l.merge1_eq r c with ⟨l', hm, he⟩ | ⟨_, he⟩
  · rw [he]; exact st.merge hk hm
  · rw [he]; simp only; rw [l.ask_g.1, l.ask_g.2]; exact hk

theorem Stable.seq2 {l : Loc} (r : Ref) (x y : Commit) (hk : PG l.g ∧ PR l.refs) :
    PG (l.seq2 r x y).1.g ∧ PR (l.seq2 r x y).1.refs := by
  unfold Loc.seq2
  have h1 := st.merge1 r x hk
  simp only
  split
  · exact st.merge1 r y h1
  · exact h1

theorem Stable.merge2 {l l' : Loc} {r : Ref} {a b : Commit} (hk : PG l.g ∧ PR l.refs)
    (h : l.merge2 r a b = some l') : PG l'.g ∧ PR l'.refs := by
  unfold Loc.merge2 at h
  have h1 := st.seq2 r a b hk
  split at h
  · cases h
  · simp only at h
    split at h
    · cases h; exact h1
    · split at h
      · cases h; exact st.seq2 r b a h1
      · cases h

theorem Stable.mergeN {l l' : Loc} {n : Bool} {r : Ref} {a b : Commit} (hk : PG l.g ∧ PR l.refs)
    (h : l.mergeN n r a b = some l') : PG l'.g ∧ PR l'.refs := by
  unfold Loc.mergeN at h
  cases n with
  | true => exact st.merge2 hk h
  | false => exact st.merge hk h

theorem Stable.mergeD {l l' : Loc} {n : Bool} {r : Ref} {a b : Commit} (hk : PG l.g ∧ PR l.refs)
    (h : l.mergeD n r a b = some l') : PG l'.g ∧ PR l'.refs := by
  unfold Loc.mergeD at h
  cases n with
  | true => exact st.merge2 hk h
  | false => exact st.merge hk h

theorem Stable.createW (pr : PrInfo) : ∀ (ds : List Dest) {l : Loc}, PG l.g ∧ PR l.refs →
    PG (createW l pr ds).g ∧ PR (createW l pr ds).refs
  | [], _, h => h
  | d :: ds, l, h => by
    simp only [Flow.createW]
    apply Stable.createW pr ds
    split
    · exact ⟨h.1, st.set _ _ h.2⟩
    · exact h

theorem Stable.updateW (pr : PrInfo) : ∀ (ds : List Dest) {l : Loc} {prev : Commit} {done : List Ref},
    PG l.g ∧ PR l.refs → PG (updateW l pr prev ds done).1.g ∧ PR (updateW l pr prev ds done).1.refs
  | [], _, _, _, h => h
  | d :: ds, l, prev, done, h => by
    simp only [Flow.updateW]
    cases l.refs.get (.dest d) with
    | none => exact h
    | some t =>
      simp only
      cases hm : l.mergeN pr.noOct (.w d pr.src) t prev with
      | none => exact h
      | some l' =>
        simp only
        have h' := st.mergeN h hm
        cases l'.refs.get (.w d pr.src) with
        | none => exact h'
        | some c => exact Stable.updateW pr ds h'

theorem Stable.settle (s : Sys) (pr : PrInfo) (rest : List Dest) (sync : Bool) {l : Loc}
    (h : PG l.g ∧ PR l.refs) : PG (settle s pr rest sync l).g ∧ PR (settle s pr rest sync l).refs := by
  have hreset : ∀ (rest : List Dest) {m : RefMap}, PR m →
      PR (rest.foldl (fun m d => match s.remote.get (.w d pr.src) with
        | some c => m.set (.w d pr.src) c
        | none => m) m) := by
    intro rest
    induction rest with
    | nil => exact fun h => h
    | cons d rest ih =>
      intro m hm
      simp only [List.foldl_cons]
      apply ih
      cases s.remote.get (.w d pr.src) with
      | none => exact hm
      | some c => exact st.set _ _ hm
  unfold Flow.settle
  split
  · exact ⟨h.1, hreset rest h.2⟩
  · exact h

theorem Stable.queueRest (pr : PrInfo) : ∀ (ds : List Dest) {l l' : Loc} {prevQ : Commit},
    PG l.g ∧ PR l.refs → queueRest l pr prevQ ds = some l' → PG l'.g ∧ PR l'.refs
  | [], l, l', _, hk, h => by
    simp only [Flow.queueRest, Option.some.injEq] at h
    subst h; exact hk
  | d :: ds, l, l', prevQ, hk, h => by
    simp only [Flow.queueRest] at h
    cases hw : l.refs.get (.w d pr.src) with
    | none => simp [hw] at h
    | some wc =>
      rw [hw] at h; simp only at h
      cases hmg : l.mergeN pr.noOct (.q d) wc prevQ with
      | none => simp [hmg] at h
      | some l1 =>
        rw [hmg] at h; simp only at h
        have h1 := st.mergeN hk hmg
        cases hn : l1.refs.get (.q d) with
        | none => simp [hn] at h
        | some n =>
          rw [hn] at h; simp only at h
          exact Stable.queueRest pr ds (l := { l1 with refs := l1.refs.set (.qw pr.id d pr.src) n })
            ⟨h1.1, st.set _ _ h1.2⟩ h

theorem Stable.mergeRest (pr : PrInfo) : ∀ (ds : List Dest) {l l' : Loc} {prevD : Commit},
    PG l.g ∧ PR l.refs → mergeRest l pr prevD ds = some l' → PG l'.g ∧ PR l'.refs
  | [], l, l', _, hk, h => by
    simp only [Flow.mergeRest, Option.some.injEq] at h
    subst h; exact hk
  | d :: ds, l, l', prevD, hk, h => by
    simp only [Flow.mergeRest] at h
    cases hw : l.refs.get (.w d pr.src) with
    | none => simp [hw] at h
    | some wc =>
      rw [hw] at h; simp only at h
      cases hmg : l.mergeD pr.noOct (.dest d) prevD wc with
      | none => simp [hmg] at h
      | some l1 =>
        rw [hmg] at h; simp only at h
        have h1 := st.mergeD hk hmg
        cases hn : l1.refs.get (.dest d) with
        | none => simp [hn] at h
        | some n =>
          rw [hn] at h; simp only at h
          exact Stable.mergeRest pr ds h1 h

theorem Stable.createQ : ∀ (ds : List Dest) {l : Loc}, PG l.g ∧ PR l.refs →
    PG (createQ l ds).1.g ∧ PR (createQ l ds).1.refs
  | [], _, h => h
  | d :: ds, l, h => by
    simp only [Flow.createQ]
    split
    · exact Stable.createQ ds (l := { l with refs := l.refs.set (.q d) _ }) ⟨h.1, st.set _ _ h.2⟩
    · exact Stable.createQ ds h

/-- an atomic push prunes and carries a ref map with the property -/
def OpOK (PR : RefMap → Prop) : Op → Prop
  | .pushAll loc prune => prune = true ∧ PR loc
  | _ => True

omit st in
theorem full2_onlyW_ok {src : String} {op : Op} (h : BertE.Eval.Op.onlyW src op) : OpOK PR op := by
  cases op with
  | push _ => trivial
  | pushAll _ _ => cases h
  | delete _ => cases h

theorem Stable.enqueue {s : Sys} {l4 : Loc} (hk : PG l4.g ∧ PR l4.refs) (pr : PrInfo) (ts : List Dest) {pre : List Op}
    (hpre : ∀ op ∈ pre, OpOK PR op) :
    PG (enqueue s l4 pr ts pre).g ∧ ∀ op ∈ (enqueue s l4 pr ts pre).ops, OpOK PR op := by
  constructor
  · have h5 := st.createQ ts hk
    unfold Flow.enqueue
    generalize Flow.createQ l4 ts = cq at h5
    obtain ⟨l5, qops⟩ := cq
    simp only at h5 ⊢
    cases ts with
    | nil => exact h5.1
    | cons d1 ds =>
      simp only
      cases l5.refs.get (.other pr.src) with
      | none => exact h5.1
      | some sc' =>
        simp only
        cases hmg : l5.merge (.q d1) [sc'] with
        | none => exact h5.1
        | some l6 =>
          simp only
          have h6 := st.merge h5 hmg
          cases l6.refs.get (.q d1) with
          | none => exact h6.1
          | some n =>
            simp only
            cases hq : Flow.queueRest { l6 with refs := l6.refs.set (.qw pr.id d1 pr.src) n } pr n ds with
            | none => exact h6.1
            | some l8 =>
              exact (st.queueRest pr ds (l := { l6 with refs := l6.refs.set (.qw pr.id d1 pr.src) n })
                ⟨h6.1, st.set _ _ h6.2⟩ hq).1
  · have hq : ∀ op ∈ (Flow.createQ l4 ts).2, OpOK PR op := fun op h => by
      obtain ⟨_, _, rfl⟩ := createQ_ops ts l4 op h
      trivial
    rcases enqueue_shape s l4 pr ts pre with ⟨g, o, he⟩ | ⟨l8, he⟩ <;> rw [he]
    · exact List.forall_mem_append.mpr ⟨hpre, hq⟩
    · exact List.forall_mem_append.mpr ⟨List.forall_mem_append.mpr ⟨hpre, hq⟩, List.forall_mem_singleton.mpr trivial⟩

theorem Stable.directMerge {s : Sys} {l4 : Loc} (hk : PG l4.g ∧ PR l4.refs) (pr : PrInfo) (sc : Commit) (ts : List Dest)
    {pre : List Op} (hpre : ∀ op ∈ pre, OpOK PR op) :
    PG (directMerge s l4 pr sc ts pre).g ∧ ∀ op ∈ (directMerge s l4 pr sc ts pre).ops, OpOK PR op := by
  unfold Flow.directMerge
  generalize (if s.useQueue then qOnly l4.refs else []) = qs
  simp only
  have hpq : ∀ op ∈ pre ++ qs.map Op.delete, OpOK PR op := List.forall_mem_append.mpr
    ⟨hpre, fun op h => by obtain ⟨r, _, rfl⟩ := List.mem_map.mp h; trivial⟩
  have h5 : PG l4.g ∧ PR (Flow.delRefs l4.refs qs) := ⟨hk.1, st.delRefs qs hk.2⟩
  cases ts with
  | nil => exact ⟨hk.1, hpq⟩
  | cons d1 ds =>
    simp only
    cases hm1 : Loc.merge { l4 with refs := Flow.delRefs l4.refs qs } (.dest d1) [sc] with
    | none => exact ⟨hk.1, hpq⟩
    | some l6 =>
      simp only
      have h6 := st.merge (l := { l4 with refs := Flow.delRefs l4.refs qs }) h5 hm1
      cases l6.refs.get (.dest d1) with
      | none => exact ⟨h6.1, hpq⟩
      | some n1 =>
        simp only
        cases hm2 : Flow.mergeRest l6 pr n1 ds with
        | none => exact ⟨h6.1, hpq⟩
        | some l7 =>
          simp only
          have h7 := st.mergeRest pr ds h6 hm2
          exact ⟨h7.1, List.forall_mem_append.mpr ⟨hpq, List.forall_mem_singleton.mpr ⟨rfl, st.delRefs _ h7.2⟩⟩⟩

theorem Stable.planQueues {s : Sys} (hk : PR s.remote) (sel : List Nat) :
    ∀ op ∈ (planQueues s sel).ops, OpOK PR op := by
  have htargets : ∀ (pr : Nat) (src : String) (ts : List Dest) {m : RefMap}, PR m → PR (mergeTargets pr src m ts) := by
    intro pr src ts
    induction ts with
    | nil => exact fun h => h
    | cons d ts ih =>
      intro m hm
      unfold mergeTargets
      simp only [List.foldl_cons]
      apply ih
      cases m.get (.qw pr d src) with
      | none => exact hm
      | some c => exact st.set _ _ hm
  have hentries : ∀ (es : List QEntry) {m : RefMap}, PR m → PR (es.foldl mergeEntry m) := by
    intro es
    induction es with
    | nil => exact fun h => h
    | cons e es ih => exact fun hm => ih (htargets e.pr e.src e.targets hm)
  unfold Flow.planQueues
  simp only
  split
  · exact fun _ h => nomatch h
  · exact List.forall_mem_singleton.mpr ⟨rfl, st.delRefs _ (hentries _ hk)⟩

theorem Stable.prepare {s : Sys} (hk : PG s.g ∧ PR s.remote) (pr : PrInfo) (sc dc : Commit) (orc : List Bool) :
    (∀ p, prepare s pr sc dc orc = .inl p → PG p.g) ∧
    (∀ l4 pushW, prepare s pr sc dc orc = .inr (l4, pushW) → PG l4.g ∧ PR l4.refs) := by
  refine prepare_elim (motive := fun r => (∀ p, r = .inl p → PG p.g) ∧ ∀ l4 pushW, r = .inr (l4, pushW) →
    PG l4.g ∧ PR l4.refs) s pr sc dc orc ?_
  intro l1 l2 u e1 e2 e3
  have h1 : PG l1.g ∧ PR l1.refs := e1 ▸ st.createW pr _ (l := ⟨s.g, s.remote, orc⟩) hk
  have h2 : PG l2.g ∧ PR l2.refs := by
    rw [e2, (conflictCheck_same l1 dc sc).1, (conflictCheck_same l1 dc sc).2]; exact h1
  have h3 : PG u.1.g ∧ PR u.1.refs := e3 ▸ st.updateW pr _ h2
  refine ⟨⟨fun p hp => ?_, fun _ _ hp => nomatch hp⟩, ⟨fun p hp => ?_, fun _ _ hp => nomatch hp⟩, fun _ l4 e4 =>
    ⟨fun _ hp => (nomatch hp), fun l4' _ hp => ?_⟩⟩
  · cases hp; exact h2.1
  · cases hp; exact h3.1
  · cases hp; rw [e4]; exact st.settle s pr _ _ h3

theorem Stable.planPr {s : Sys} (hk : PG s.g ∧ PR s.remote) (pr : PrInfo) (stage : Stage) (orc : List Bool)
    (sel : List Nat) : PG (planPr s pr stage orc sel).g ∧ ∀ op ∈ (planPr s pr stage orc sel).ops, OpOK PR op := by
  refine planPr_elim (motive := fun p => PG p.g ∧ ∀ op ∈ p.ops, OpOK PR op) s pr stage orc sel
    (fun _ => ⟨hk.1, fun _ h => nomatch h⟩) (fun _ => ⟨by rw [planQueues_g]; exact hk.1, st.planQueues hk.2 sel⟩) ?_ ?_
  · intro sc dc p _ _ hp
    exact ⟨(st.prepare hk pr sc dc orc).1 p hp, fun op hop =>
      full2_onlyW_ok ((BertE.Eval.evalG_prepare_onlyW s pr sc dc orc).1 p hp op hop)⟩
  · intro sc dc l4 pushW _ _ hp _
    have h4 := (st.prepare hk pr sc dc orc).2 l4 pushW hp
    have hpw : ∀ op ∈ pushW, OpOK PR op := fun op hop =>
      full2_onlyW_ok ((BertE.Eval.evalG_prepare_onlyW s pr sc dc orc).2 l4 pushW hp op hop)
    exact ⟨⟨h4.1, hpw⟩, fun _ => st.enqueue h4 pr _ hpw, fun _ _ => st.directMerge h4 pr sc _ hpw⟩

theorem Stable.plan {s : Sys} (hk : PG s.g ∧ PR s.remote) (ev : Event) :
    PG (plan s ev).g ∧ ∀ op ∈ (plan s ev).ops, OpOK PR op := by
  have hnil : ∀ op ∈ ([] : List Op), OpOK PR op := fun _ h => nomatch h
  have hall : ∀ {m : RefMap}, PR m → ∀ rs, ∀ op ∈ [Op.pushAll (Flow.delRefs m rs) true], OpOK PR op :=
    fun hm rs => List.forall_mem_singleton.mpr ⟨rfl, st.delRefs rs hm⟩
  cases ev with
  | evalPr pr stage orc sel => exact st.planPr hk pr stage orc sel
  | evalDeclined pr cd =>
    simp only [Flow.plan, planDeclined]
    split
    · exact ⟨hk.1, hnil⟩
    · exact ⟨hk.1, hall hk.2 _⟩
  | reset pr =>
    simp only [Flow.plan, planReset]
    split
    · exact ⟨hk.1, hnil⟩
    · exact ⟨hk.1, hall hk.2 _⟩
  | evalQueues sel => exact ⟨by simp only [Flow.plan]; rw [planQueues_g]; exact hk.1, st.planQueues hk.2 sel⟩
  | dropQueues =>
    simp only [Flow.plan, planDropQueues]
    split
    · exact ⟨hk.1, hnil⟩
    · exact ⟨hk.1, hall hk.2 _⟩
  | createBranch d c =>
    simp only [Flow.plan, planCreateBranch]
    split
    · refine ⟨hk.1, List.forall_mem_append.mpr ⟨List.forall_mem_singleton.mpr trivial, ?_⟩⟩
      split
      · exact hnil
      · exact hall (st.set _ _ hk.2) _
    · exact ⟨hk.1, List.forall_mem_singleton.mpr trivial⟩
  | deleteBranch d =>
    refine ⟨hk.1, List.forall_mem_append.mpr ⟨?_, List.forall_mem_singleton.mpr trivial⟩⟩
    split
    · exact List.forall_mem_singleton.mpr trivial
    · exact hnil
  | _ => exact ⟨hk.1, hnil⟩

theorem Stable.applyOp {g : Graph} {rej : Ref → Bool} {m : RefMap} {op : Op} (h : PR m) (hop : OpOK PR op) :
    PR (applyOp g rej m op) := by
  cases op with
  | push ups =>
    show PR (ups.foldl _ m)
    clear hop
    induction ups generalizing m with
    | nil => exact h
    | cons rc ups ih =>
      simp only [List.foldl_cons]
      apply ih
      split
      · exact st.set _ _ h
      · exact h
  | pushAll loc prune =>
    obtain ⟨rfl, hl⟩ := hop
    simp only [Flow.applyOp]
    split
    · simpa using hl
    · exact h
  | delete r =>
    simp only [Flow.applyOp]
    split
    · exact h
    · exact st.del r h

theorem full2_step_stable {s : Sys} (hk : PG s.g ∧ PR s.remote) (ev : Event) :
    PG (step s ev).1.g ∧ PR (step s ev).1.remote := by
  have hrobot : PG (plan s ev).g ∧ PR (Flow.applyOps (plan s ev).g noRej s.remote (plan s ev).ops) :=
    ⟨(st.plan hk ev).1, applyOps_preserves (fun _ _ => st.applyOp) _ hk.2 (st.plan hk ev).2⟩
  cases ev with
  | createBranch d c => cases d <;> exact hrobot
  | deleteBranch d => cases d <;> exact hrobot
  | extSet n ps t => exact ⟨st.commit _ hk.1, st.set _ _ hk.2⟩
  | extW d src =>
    simp only [step]
    cases s.remote.get (.w d src) with
    | none => exact hk
    | some c => exact ⟨st.commit _ hk.1, st.set _ _ hk.2⟩
  | extDelete n => exact ⟨hk.1, st.del _ hk.2⟩
  | extPoint n c => exact ⟨hk.1, st.set _ _ hk.2⟩
  | _ => exact hrobot

end

theorem full2_prepare_mono {s : Sys} (hm : close_Mono s.g) {pr : PrInfo} {sc dc : Commit} {orc : List Bool} {l4 : Loc}
    {pushW : List Op} (hp : prepare s pr sc dc orc = .inr (l4, pushW)) : close_Mono l4.g :=
  ((full2_stable_mono.prepare ⟨hm, trivial⟩ pr sc dc orc).2 l4 pushW hp).1

theorem full2_delRefs_keys (rs : List Ref) {m : RefMap} (h : KeysNodup m) : KeysNodup (delRefs m rs) :=
  full2_stable_keys.delRefs rs h

theorem full2_step_mono {s : Sys} (h : Inv s) (hm : close_Mono s.g) (ev : Event) (hadm : Adm s ev) :
    close_Mono (step s ev).1.g := (full2_step_stable full2_stable_mono ⟨hm, trivial⟩ ev).1

theorem full2_step_keys {s : Sys} (hk : KeysNodup s.remote) (ev : Event) : KeysNodup (step s ev).1.remote :=
  (full2_step_stable full2_stable_keys ⟨trivial, hk⟩ ev).2

end BertE.Full2
