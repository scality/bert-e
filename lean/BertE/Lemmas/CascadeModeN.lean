import BertE.Lemmas.CascadeMain
import BertE.Lemmas.CascadePaths
/- Destination a development or stabilization branch. -/
namespace BertE.Cascade
open Spec

section
variable {bs : List Branch} {tags : List Tag} {dst : Branch} {c0 : Cascade}

theorem c3_split (r : Rep bs dst c0) (hdst : dst ∈ bs) :
    ∃ pre q0 post, c3of tags c0 = pre ++ q0 :: post ∧ q0.1 = dst.key ∧
      (∀ p ∈ pre, keyLt p.1 dst.key) ∧ (∀ p ∈ post, keyLt dst.key p.1) := by
  obtain ⟨q0, hq0, hk⟩ := c3_keys r tags dst hdst (hotfixSkipped_self_or dst)
  obtain ⟨pre, post, hc⟩ := List.append_of_mem hq0
  have hs := c3_sorted r tags
  rw [hc, Sorted, List.pairwise_append, List.pairwise_cons] at hs
  refine ⟨pre, q0, post, hc, hk, ?_, ?_⟩
  · intro p hp; rw [← hk]; exact hs.2.2 p hp q0 List.mem_cons_self
  · intro p hp; rw [← hk]; exact hs.2.1.1 p hp

theorem orphan_line (r : Rep bs dst c0) {q : Key × BranchSet} (hq : q ∈ c3of tags c0)
    (hd : q.2.dev = none) (hs : q.2.stb.isSome) : ∃ b ∈ bs, orphan bs b = true ∧ b.key = q.1 := by
  have hF := c3_entries r tags q hq
  obtain ⟨st, hst⟩ := Option.isSome_iff_exists.mp hs
  obtain ⟨h1, h2⟩ := hF.stbMem st hst
  refine ⟨_, h1, ?_, h2⟩
  have := hF.dev_eq_none.mp hd
  simp only [orphan, StabB.toBranch, Bool.not_eq_true', List.contains_eq_mem, decide_eq_false_iff_not]
  rw [← h2] at this
  exact this

theorem line_of_orphan (r : Rep bs dst c0) {b : Branch} (hb : b ∈ bs) (ho : orphan bs b = true) :
    ∃ q ∈ c3of tags c0, q.1 = b.key ∧ q.2.dev = none ∧ q.2.stb.isSome := by
  cases b with
  | dev M m => simp [orphan] at ho
  | hotfix M m u => simp [orphan] at ho
  | stab M m u =>
    obtain ⟨q, hq, hk⟩ := c3_keys r tags _ hb rfl
    have hF := c3_entries r tags q hq
    simp only [orphan, Bool.not_eq_true', List.contains_eq_mem, decide_eq_false_iff_not] at ho
    simp only [Branch.key] at hk
    refine ⟨q, hq, hk, ?_, ?_⟩
    · rw [hF.dev, hk]; simp [ho]
    · cases hst : q.2.stb with
      | none => exact absurd hb (by have := hF.stbNone hst m u (by rw [hk]); rw [hk] at this; exact this)
      | some st => rfl

theorem markB_major (s : BranchSet) (d : DevB) : (markB s d).major = d.major := by
  unfold markB; split <;> rfl
theorem markB_minor (s : BranchSet) (d : DevB) : (markB s d).minor = d.minor := by
  unfold markB; split <;> rfl
theorem markB_micro (s : BranchSet) (d : DevB) : (markB s d).micro = d.micro := by
  unfold markB; split <;> rfl
theorem markB_latest (s : BranchSet) (d : DevB) : (markB s d).latestMinor = d.latestMinor := by
  unfold markB; split <;> rfl
theorem markB_hasStab (s : BranchSet) (d : DevB) (h : d.hasStab = false) : (markB s d).hasStab = s.stb.isSome := by
  unfold markB; split
  · rename_i hs; simp [DevB.markStab, hs]
  · rename_i hs; simp at hs; simp [h, hs]

theorem hf_none_N (r : Rep bs dst c0) (hN : dst.isHotfix = false) :
    ∀ q ∈ c3of tags c0, q.2.hf = none := by
  intro q hq
  rw [(c3_entries r tags q hq).hf, hfSlot_nonhotfix bs hN]
  rfl

theorem dev_of_isSome {c1 : Cascade} {q : Key × BranchSet} (hF : Fin3 bs tags dst c1 q) (h : q.2.dev.isSome) :
    q.2.dev = some (devObj tags c1 q.1) ∧ Branch.dev q.1.1 q.1.2 ∈ bs := by
  have hm := hF.dev_isSome.mp h
  exact ⟨by rw [hF.dev, if_pos hm], hm⟩

theorem preOK_of {c1 : Cascade} {q : Key × BranchSet} (hF : Fin3 bs tags dst c1 q) (hd : q.2.dev.isSome)
    (hhf : q.2.hf = none) (hk : q.1 ≠ dst.key) : PreOK dst q where
  dev := hd
  hf := hhf
  nd := by
    intro d hdd
    rw [Bool.eq_false_iff]
    intro h
    rw [eqDev_iff.mp h, markB_toBranch] at hk
    exact hk (devBranch_key hF _ (by simp [devBranch, hdd])).symm
  ns := by
    cases hst : q.2.stb with
    | none => cases dst <;> rfl
    | some st =>
      rw [Bool.eq_false_iff]
      intro h
      rw [eqStb_iff.mp h] at hk
      exact hk (hF.stbMem st hst).2.symm

theorem stb_isSome_eq {c1 : Cascade} {q : Key × BranchSet} (hF : Fin3 bs tags dst c1 q) :
    q.2.stb.isSome = bs.any (fun b => b.isStab && b.key == q.1) := by
  rw [Bool.eq_iff_iff, List.any_eq_true]
  constructor
  · intro h
    obtain ⟨st, hst⟩ := Option.isSome_iff_exists.mp h
    obtain ⟨h1, h2⟩ := hF.stbMem st hst
    exact ⟨_, h1, by simp [Branch.isStab, StabB.toBranch, Branch.key, ← h2]⟩
  · rintro ⟨b, hb, hc⟩
    simp only [Bool.and_eq_true, beq_iff_eq] at hc
    obtain ⟨M, m, u, rfl⟩ := isStab_iff.mp hc.1
    rw [Option.isSome_iff_ne_none]
    intro hst
    have := hF.stbNone hst m u (by rw [← hc.2]; rfl)
    rw [← hc.2] at this
    exact this hb

theorem minorsOf_bs (r : Rep bs dst c0) (hN : dst.isHotfix = false) (M : Nat) (a : Int) :
    a ∈ minorsOf c0 M ↔
      a ∈ (bs.filter fun b => !b.isHotfix).filterMap
        (fun b => if b.key.1 = M then b.key.2.map Int.ofNat else none) := by
  unfold minorsOf
  simp only [List.mem_filterMap, List.mem_filter]
  constructor
  · rintro ⟨p, hp, ha⟩
    have hE := r.entries p hp
    rcases r.used p hp with h | h | h
    · have : Branch.dev p.1.1 p.1.2 ∈ bs := by
        have hd := hE.dev
        by_cases hm : Branch.dev p.1.1 p.1.2 ∈ bs
        · exact hm
        · simp only [hm, if_false] at hd; rw [hd] at h; cases h
      exact ⟨_, ⟨this, rfl⟩, ha⟩
    · obtain ⟨st, hst⟩ := Option.isSome_iff_exists.mp h
      obtain ⟨h1, h2⟩ := hE.stbMem st hst
      refine ⟨_, ⟨h1, rfl⟩, ?_⟩
      have hk : st.toBranch.key = p.1 := h2
      rw [hk]; exact ha
    · rw [hE.hf, hfSlot_nonhotfix bs hN] at h; cases h
  · rintro ⟨b, ⟨hb, hh⟩, ha⟩
    obtain ⟨p, hp, hk⟩ := r.keys b hb (hotfixSkipped_nonhotfix dst (by simpa using hh))
    exact ⟨p, hp, by rw [hk]; exact ha⟩

theorem devObj_latest_eq (r : Rep bs dst c0) (hN : dst.isHotfix = false) (M : Nat) :
    (devObj tags (c0.map (evolve tags)) (M, none)).latestMinor = latestMinor bs tags M := by
  rw [devObj_latest, minorsOf_map _ _ (evolve_key tags)]
  unfold latestMinor maxOr
  rw [maxInts_append, maxInts_swap, maxInts_congr _ (minorsOf_bs r hN M)]
  rfl

theorem target_strip (r : Rep bs dst c0) (hN : dst.isHotfix = false) {q : Key × BranchSet}
    (hF : Fin3 bs tags dst (c0.map (evolve tags)) q) (hd : q.2.dev.isSome) :
    targetOf Cfg.std dst (strip q) = (devBranch q).map (devVersion bs tags) := by
  obtain ⟨hdv, _⟩ := dev_of_isSome hF hd
  obtain ⟨⟨M, mo⟩, s⟩ := q
  simp only at hdv
  simp only [strip, devBranch, hdv, Option.map_some, Option.toList_some, List.map_cons, List.map_nil,
    devObj_toBranch, targetOf, List.nil_append, markB_minor, devObj_minor]
  cases mo with
  | some m =>
    simp only [devVersion, markB_micro, devObj_micro_some, markB_hasStab _ _ (devObj_hasStab _ _ _)]
    rw [stb_isSome_eq hF]
    simp [Cfg.std]
  | none =>
    simp only [devVersion, markB_micro, markB_latest, devObj_micro_none, devObj_latest_eq r hN]
    simp [Cfg.std]

theorem mem_devsFrom (b : Branch) :
    b ∈ devsFrom bs dst ↔ b ∈ bs ∧ b.isDev = true ∧ keyLe dst.key b.key := by
  unfold devsFrom
  rw [(sortByKey_perm _).mem_iff, List.mem_filter]
  simp

theorem mem_spec_dst (hN : dst.isHotfix = false) (hdst : dst ∈ bs) (b : Branch) :
    b ∈ Spec.dst bs dst ↔
      (b = dst ∧ dst.isStab = true) ∨ (b ∈ bs ∧ b.isDev = true ∧ keyLe dst.key b.key) := by
  cases dst with
  | hotfix M m u => simp [Branch.isHotfix] at hN
  | stab M m u => simp [Spec.dst, mem_devsFrom, Branch.isStab]
  | dev M m =>
    simp only [Spec.dst, mem_devsFrom, Branch.isStab, Bool.false_eq_true, and_false, false_or]

/-- what the line `q` contributes to the ignored branches -/
def gI (dst : Branch) (q : Key × BranchSet) : List Branch :=
  if keyLt q.1 dst.key then devBranch q ++ stbBranch q.2
  else if q.1 = dst.key ∧ dst.isStab = true then []
  else stbBranch q.2

theorem nodup_dev_stb (q : Key × BranchSet) : (devBranch q ++ stbBranch q.2).Nodup := by
  unfold devBranch stbBranch
  cases q.2.dev <;> cases q.2.stb <;> simp [DevB.toBranch, StabB.toBranch]

theorem nodup_stb (s : BranchSet) : (stbBranch s).Nodup := by
  unfold stbBranch
  cases s.stb <;> simp

theorem gI_split {pre post : Cascade} {q0 : Key × BranchSet} (hk : q0.1 = dst.key)
    (hpre : ∀ p ∈ pre, keyLt p.1 dst.key) (hpost : ∀ p ∈ post, keyLt dst.key p.1) :
    (pre ++ q0 :: post).flatMap (gI dst) =
      pre.flatMap (fun p => devBranch p ++ stbBranch p.2) ++ (if dst.isStab then [] else stbBranch q0.2)
        ++ post.flatMap (fun p => stbBranch p.2) := by
  rw [List.flatMap_append, List.flatMap_cons, List.append_assoc]
  congr 1
  · apply flatMap_congr'
    intro p hp
    simp [gI, hpre p hp]
  · congr 1
    · have : ¬ keyLt q0.1 dst.key := by rw [hk]; exact keyLt_irrefl _
      unfold gI
      rw [if_neg this]
      cases dst.isStab <;> simp [hk]
    · apply flatMap_congr'
      intro p hp
      have h1 : ¬ keyLt p.1 dst.key := fun h => keyLt_asymm h (hpost p hp)
      have h2 : p.1 ≠ dst.key := fun h => keyLt_ne (hpost p hp) h.symm
      simp [gI, h1, h2]

theorem namesAll_eq (p : Key × BranchSet) : namesAll p = (devBranch p ++ stbBranch p.2).map Branch.name := by
  unfold namesAll devBranch stbBranch stbName
  cases p.2.dev <;> cases p.2.stb <;> simp

theorem stbName_eq (s : BranchSet) : stbName s = (stbBranch s).map Branch.name := by
  unfold stbBranch stbName
  cases s.stb <;> simp

theorem line_key {c1 : Cascade} {q : Key × BranchSet} (hF : Fin3 bs tags dst c1 q) {b : Branch}
    (hb : b ∈ devBranch q ++ stbBranch q.2) : b.key = q.1 := by
  rcases List.mem_append.mp hb with h | h
  · exact devBranch_key hF b h
  · exact stbBranch_key hF b h

theorem mem_lines (r : Rep bs dst c0) (b : Branch) :
    (∃ q ∈ c3of tags c0, b ∈ devBranch q ++ stbBranch q.2) ↔ b ∈ bs ∧ b.isHotfix = false := by
  have hF := c3_entries r tags
  constructor
  · rintro ⟨q, hq, hb⟩
    rcases List.mem_append.mp hb with h | h
    · obtain ⟨rfl, hbs⟩ := (mem_devBranch (hF q hq) b).mp h
      exact ⟨hbs, rfl⟩
    · obtain ⟨hst, hbs, _⟩ := (mem_stbBranch (hF q hq) r.oneStab b).mp h
      exact ⟨hbs, not_isHotfix_iff.mpr (Or.inr hst)⟩
  · rintro ⟨hbs, hnh⟩
    obtain ⟨q, hq, hqk⟩ := c3_keys r tags b hbs (hotfixSkipped_nonhotfix dst hnh)
    refine ⟨q, hq, List.mem_append.mpr ?_⟩
    rcases not_isHotfix_iff.mp hnh with hd | hs
    · obtain ⟨M, m, rfl⟩ := isDev_iff.mp hd
      exact Or.inl ((mem_devBranch (hF q hq) _).mpr ⟨by rw [hqk]; rfl, hbs⟩)
    · exact Or.inr ((mem_stbBranch (hF q hq) r.oneStab b).mpr ⟨hs, hbs, hqk.symm⟩)

/-- A selection `g`, line by line, of the development and stabilization branches that are not targeted
    lists the ignored branches. -/
theorem ignored_of (r : Rep bs dst c0) (hnd : bs.Nodup) (g : Key × BranchSet → List Branch)
    (hg : ∀ q ∈ c3of tags c0, ∀ b, b ∈ g q ↔ b ∈ devBranch q ++ stbBranch q.2 ∧ b ∉ Spec.dst bs dst)
    (hn : ∀ q ∈ c3of tags c0, (g q).Nodup) :
    sortNames (((c3of tags c0).flatMap g).map Branch.name) = Spec.ignored bs dst := by
  unfold Spec.ignored
  refine sortNames_perm (List.Perm.map _ ?_)
  refine (List.perm_ext_iff_of_nodup ?_ (hnd.sublist List.filter_sublist)).mpr ?_
  · exact nodup_flatMap_keys (c3_sorted r tags) g
      (fun q hq b hb => line_key (c3_entries r tags q hq) ((hg q hq b).mp hb).1) hn
  · intro b
    rw [List.mem_flatMap, List.mem_filter]
    simp only [Bool.and_eq_true, Bool.not_eq_true', List.contains_eq_mem, decide_eq_false_iff_not]
    rw [← and_assoc, ← mem_lines (tags := tags) r b]
    constructor
    · rintro ⟨q, hq, hb⟩
      exact ⟨⟨q, hq, ((hg q hq b).mp hb).1⟩, ((hg q hq b).mp hb).2⟩
    · rintro ⟨⟨q, hq, hb⟩, hnt⟩
      exact ⟨q, hq, (hg q hq b).mpr ⟨hb, hnt⟩⟩

theorem nodup_gI (q : Key × BranchSet) : (gI dst q).Nodup := by
  unfold gI
  split
  · exact nodup_dev_stb q
  · split
    · exact List.nodup_nil
    · exact nodup_stb _

theorem mem_gI (r : Rep bs dst c0) (hdst : dst ∈ bs) (hN : dst.isHotfix = false) {q : Key × BranchSet}
    (hq : q ∈ c3of tags c0) (b : Branch) :
    b ∈ gI dst q ↔ b ∈ devBranch q ++ stbBranch q.2 ∧ b ∉ Spec.dst bs dst := by
  have hF := c3_entries r tags q hq
  rw [mem_spec_dst hN hdst]
  unfold gI
  split
  · -- an earlier line: nothing of it is targeted
    rename_i hlt
    refine ⟨fun h => ⟨h, ?_⟩, fun h => h.1⟩
    rw [← line_key hF h] at hlt
    rintro (⟨rfl, _⟩ | ⟨_, _, hle⟩)
    · exact keyLt_irrefl _ hlt
    · exact not_keyLt_iff.mpr hle hlt
  · rename_i hnlt
    split
    · -- the line of a destination stabilization branch: both its branches are targeted
      rename_i hc
      refine ⟨fun h => (List.not_mem_nil h).elim, ?_⟩
      rintro ⟨h, hnt⟩
      refine (hnt ?_).elim
      rcases List.mem_append.mp h with h | h
      · obtain ⟨rfl, hbs⟩ := (mem_devBranch hF b).mp h
        exact Or.inr ⟨hbs, rfl, hc.1 ▸ keyLe_refl _⟩
      · obtain ⟨hst, hbs, hbk⟩ := (mem_stbBranch hF r.oneStab b).mp h
        exact Or.inl ⟨stab_eq_of_key r.oneStab hbs hdst hst hc.2 (hbk.trans hc.1), hc.2⟩
    · -- a later line, or the line of a destination development branch: only the stabilization branch is left
      rename_i hne
      constructor
      · intro h
        obtain ⟨hst, hbs, hbk⟩ := (mem_stbBranch hF r.oneStab b).mp h
        refine ⟨List.mem_append.mpr (Or.inr h), ?_⟩
        rintro (⟨rfl, hs'⟩ | ⟨_, hdv, _⟩)
        · exact hne ⟨hbk.symm, hs'⟩
        · obtain ⟨_, _, _, rfl⟩ := isStab_iff.mp hst
          cases hdv
      · rintro ⟨h, hnt⟩
        rcases List.mem_append.mp h with h | h
        · obtain ⟨rfl, hbs⟩ := (mem_devBranch hF b).mp h
          exact (hnt (Or.inr ⟨hbs, rfl, not_keyLt_iff.mp hnlt⟩)).elim
        · exact h

theorem ignored_N (r : Rep bs dst c0) (hnd : bs.Nodup) (hdst : dst ∈ bs) (hN : dst.isHotfix = false)
    {pre post : Cascade} {q0 : Key × BranchSet} (hc : c3of tags c0 = pre ++ q0 :: post) (hk : q0.1 = dst.key)
    (hpre : ∀ p ∈ pre, keyLt p.1 dst.key) (hpost : ∀ p ∈ post, keyLt dst.key p.1) :
    sortNames (pre.flatMap namesAll ++ (if dst.isStab then [] else stbName q0.2)
      ++ post.flatMap (fun p => stbName p.2)) = Spec.ignored bs dst := by
  have hnames : pre.flatMap namesAll ++ (if dst.isStab then [] else stbName q0.2)
      ++ post.flatMap (fun p => stbName p.2) = ((c3of tags c0).flatMap (gI dst)).map Branch.name := by
    rw [hc, gI_split hk hpre hpost, List.map_append, List.map_append, List.map_flatMap, List.map_flatMap]
    congr 1
    · congr 1
      · exact flatMap_congr' (fun p _ => namesAll_eq p)
      · cases dst.isStab <;> simp [stbName_eq]
    · exact flatMap_congr' (fun p _ => stbName_eq p.2)
  rw [hnames]
  exact ignored_of r hnd (gI dst) (fun q hq => mem_gI r hdst hN hq) (fun q _ => nodup_gI q)

theorem spec_error_orphan_N (hms : multipleStab bs = false) (hdep : deprecated bs tags dst = false)
    (ho : bs.any (orphan bs) = true) (hN : dst.isHotfix = false) :
    Spec.error bs tags dst = some .devBranchDoesNotExist := by
  simp [Spec.error, hms, hdep, orphanErr, ho, hN]

theorem spec_error_none (hms : multipleStab bs = false) (hdep : deprecated bs tags dst = false)
    (ho : bs.any (orphan bs) = false) (hmm : mismatch tags dst = false) :
    Spec.error bs tags dst = none :=
  spec_error_eq_none.mpr ⟨hms, hdep, ho, hmm⟩

theorem spec_error_mismatch (hms : multipleStab bs = false) (hdep : deprecated bs tags dst = false)
    (ho : bs.any (orphan bs) = false) (hmm : mismatch tags dst = true) :
    Spec.error bs tags dst = some .versionMismatch := by
  simp [Spec.error, hms, hdep, orphanErr, ho, hmm]

theorem inc_true {inc : Branch → Branch → Bool} (hinc : ∀ a b, inc a b = true) : inc = fun _ _ => true :=
  funext fun a => funext fun b => hinc a b

theorem orphans_N (r : Rep bs dst c0) (hN : dst.isHotfix = false) :
    (∃ q ∈ c3of tags c0, q.2.dev = none) ↔ bs.any (orphan bs) = true := by
  rw [List.any_eq_true]
  constructor
  · rintro ⟨q, hq, hd⟩
    have hF := c3_entries r tags q hq
    have hs : q.2.stb.isSome := by
      rcases hF.used with h | h | h
      · rw [hd] at h; cases h
      · exact h
      · rw [hf_none_N r hN q hq] at h; cases h
    obtain ⟨b, hb, ho, _⟩ := orphan_line r hq hd hs
    exact ⟨b, hb, ho⟩
  · rintro ⟨b, hb, ho⟩
    obtain ⟨q, hq, _, hd, _⟩ := line_of_orphan (tags := tags) r hb ho
    exact ⟨q, hq, hd⟩

theorem setTargetVersions_strip (r : Rep bs dst c0) (hN : dst.isHotfix = false) (L : Cascade)
    (hL : ∀ q ∈ L, Fin3 bs tags dst (c0.map (evolve tags)) q ∧ q.2.dev.isSome) :
    setTargetVersions Cfg.std dst (L.map strip) = (L.flatMap devBranch).map (devVersion bs tags) := by
  unfold setTargetVersions
  rw [List.flatMap_map, List.map_flatMap]
  exact flatMap_congr' (fun q hq => target_strip r hN (hL q hq).1 (hL q hq).2)

theorem modeN_orphan (r : Rep bs dst c0) (hN : dst.isHotfix = false) (hms : multipleStab bs = false)
    (hdep : deprecated bs tags dst = false) (hex : ∃ q ∈ c3of tags c0, q.2.dev = none)
    {inc : Branch → Branch → Bool} :
    finish inc dst (c3of tags c0) = Spec.result bs tags dst := by
  unfold finish
  rw [finalize_N_err hN _ (hf_none_N r hN) hex]
  simp only [Spec.result, spec_error_orphan_N hms hdep ((orphans_N r hN).mp hex) hN]

theorem all_dev_of (r : Rep bs dst c0) (hN : dst.isHotfix = false) (hex : ¬ ∃ q ∈ c3of tags c0, q.2.dev = none) :
    (∀ q ∈ c3of tags c0, q.2.dev.isSome) ∧ bs.any (orphan bs) = false := by
  constructor
  · intro q hq
    cases hd : q.2.dev with
    | none => exact absurd ⟨q, hq, hd⟩ hex
    | some d => rfl
  · cases h : bs.any (orphan bs) with
    | false => rfl
    | true => exact absurd ((orphans_N r hN).mpr h) hex

theorem mem_of_split {c pre post : Cascade} {q0 : Key × BranchSet} (hc : c = pre ++ q0 :: post) :
    (∀ p ∈ pre, p ∈ c) ∧ q0 ∈ c ∧ (∀ p ∈ post, p ∈ c) := by
  subst hc
  exact ⟨fun p hp => List.mem_append_left _ hp, List.mem_append_right _ List.mem_cons_self,
    fun p hp => List.mem_append_right _ (List.mem_cons_of_mem _ hp)⟩

theorem devs_tail (r : Rep bs dst c0) (hnd : bs.Nodup) {pre post : Cascade} {q0 : Key × BranchSet}
    (hc : c3of tags c0 = pre ++ q0 :: post) (hk : q0.1 = dst.key)
    (hpre : ∀ p ∈ pre, keyLt p.1 dst.key) (hpost : ∀ p ∈ post, keyLt dst.key p.1) :
    (q0 :: post).flatMap devBranch = devsFrom bs dst := by
  have hsorted : Sorted (q0 :: post) := by
    have := c3_sorted r tags
    rw [hc, Sorted, List.pairwise_append] at this
    exact this.2.1
  unfold devsFrom
  apply flatMap_dev_eq_sort hnd _ hsorted
    (fun q hq => c3_entries r tags q (by rw [hc]; exact List.mem_append_right _ hq))
    (fun k => decide (keyLe dst.key k))
  · intro b hb hdv hQ
    obtain ⟨q, hq, hqk⟩ :=
      c3_keys r tags b hb (hotfixSkipped_nonhotfix dst (not_isHotfix_iff.mpr (Or.inl hdv)))
    rw [hc] at hq
    rcases List.mem_append.mp hq with hq | hq
    · exact absurd (hpre q hq) (by rw [hqk]; exact not_keyLt_iff.mpr (of_decide_eq_true hQ))
    · exact ⟨q, hq, hqk⟩
  · intro q hq
    apply decide_eq_true
    rcases List.mem_cons.mp hq with rfl | hq
    · rw [hk]; exact keyLe_refl _
    · exact Or.inr (hpost q hq)

theorem modeN {inc : Branch → Branch → Bool} (hinc : ∀ a b, inc a b = true) (hnd : bs.Nodup) (hdst : dst ∈ bs)
    (hN : dst.isHotfix = false) (r : Rep bs dst c0) (hms : multipleStab bs = false)
    (hdep : deprecated bs tags dst = false) :
    finish inc dst (c3of tags c0) = Spec.result bs tags dst := by
  unfold finish
  have hF := c3_entries r tags
  have hhf := hf_none_N (tags := tags) r hN
  by_cases hex : ∃ q ∈ c3of tags c0, q.2.dev = none
  · exact modeN_orphan r hN hms hdep hex
  obtain ⟨hall, hno⟩ := all_dev_of r hN hex
  obtain ⟨pre, ⟨k0, e0⟩, post, hc, hk, hpre, hpost⟩ := c3_split (tags := tags) r hdst
  obtain ⟨hmem_pre, hq0, hmem_post⟩ := mem_of_split hc
  obtain ⟨hd0, _⟩ := dev_of_isSome (hF _ hq0) (hall _ hq0)
  have hpreOK : ∀ p ∈ pre, PreOK dst p := fun p hp =>
    preOK_of (hF p (hmem_pre p hp)) (hall p (hmem_pre p hp)) (hhf p (hmem_pre p hp)) (keyLt_ne (hpre p hp))
  have hpostOK : ∀ p ∈ post, p.2.dev.isSome ∧ p.2.hf = none := fun p hp =>
    ⟨hall p (hmem_post p hp), hhf p (hmem_post p hp)⟩
  have hdevs := devs_tail (tags := tags) r hnd hc hk hpre hpost
  have hign := ignored_N (tags := tags) r hnd hdst hN hc hk hpre hpost
  have hmp := mergePaths_spec r hnd tags
  rw [hc] at hmp
  cases dst with
  | hotfix M m u => cases hN
  | dev M m =>
    simp only [Branch.key] at hk
    subst hk
    simp only at hd0
    rw [hc, finalize_N hN pre post _ e0 _ true hpreOK hd0 (hhf _ hq0)
      (eqDev_iff.mpr (by rw [markB_toBranch, devObj_toBranch])) rfl hpostOK]
    have hstrip : ((M, m), (⟨some (markB e0 (devObj tags (c0.map (evolve tags)) (M, m))), none, none⟩ : BranchSet)) =
        strip ((M, m), e0) := by simp [strip, hd0]
    simp only [validate, inc_true hinc, ↓reduceIte, List.nil_append, hstrip]
    have hv : validateLoop (fun _ _ => true) none (strip ((M, m), e0) :: post.map strip) = .ok () := by
      have := validate_strip (((M, m), e0) :: post)
        (by intro q hq; rcases List.mem_cons.mp hq with rfl | hq
            · exact hall _ hq0
            · exact hall q (hmem_post q hq)) none
      simpa using this
    rw [hv]
    simp only [Spec.result, spec_error_none hms hdep hno rfl]
    have hdev0 : devBranch ((M, m), e0) = [(devObj tags (c0.map (evolve tags)) (M, m)).toBranch] := by
      simp [devBranch, hd0]
    congr 1
    refine Result.mk.injEq .. |>.mpr ⟨?_, ?_, ?_, hmp⟩
    · rw [Spec.dst, ← hdevs, List.flatMap_cons, hdev0]; rfl
    · simpa [Branch.isStab] using hign
    · have := setTargetVersions_strip (tags := tags) r hN (((M, m), e0) :: post)
        (by intro q hq; rcases List.mem_cons.mp hq with rfl | hq
            · exact ⟨hF _ hq0, hall _ hq0⟩
            · exact ⟨hF q (hmem_post q hq), hall q (hmem_post q hq)⟩)
      rw [List.map_cons] at this
      rw [this, hdevs]
      rfl
  | stab M m u =>
    simp only [Branch.key] at hk
    subst hk
    simp only at hd0
    have hs0 : e0.stb = some ⟨M, m, u⟩ :=
      stb_eq_of_mem (hF _ hq0).stbMem (hF _ hq0).stbNone r.oneStab hdst rfl
    rw [hc, finalize_N hN pre post _ e0 _ false hpreOK hd0 (hhf _ hq0) rfl
      (by rw [hs0]; exact eqStb_iff.mpr rfl) hpostOK]
    simp only [validate, inc_true hinc, hs0, validateLoop, Bool.false_eq_true, ↓reduceIte, List.append_nil,
      markB_micro, devObj_micro_some, stbBranch, Option.map_some, Option.toList_some, List.cons_append,
      List.nil_append]
    by_cases hmm : maxMicro tags M m + 1 = (u : Int)
    · have hmm' : mismatch tags (.stab M m u) = false := by
        simp only [mismatch, decide_eq_false_iff_not, Decidable.not_not]; omega
      simp only [hmm, ne_eq, not_true_eq_false, if_false, Bool.not_true, Bool.false_eq_true]
      rw [validate_strip post (fun q hq => hall q (hmem_post q hq))]
      simp only [Spec.result, spec_error_none hms hdep hno hmm']
      have hdev0 : devBranch ((M, some m), e0) = [(devObj tags (c0.map (evolve tags)) (M, some m)).toBranch] := by
        simp [devBranch, hd0]
      rw [List.flatMap_cons, hdev0] at hdevs
      congr 1
      refine Result.mk.injEq .. |>.mpr ⟨?_, ?_, ?_, hmp⟩
      · rw [Spec.dst, ← hdevs]; rfl
      · simpa [Branch.isStab] using hign
      · have := setTargetVersions_strip (tags := tags) r hN post
          (fun q hq => ⟨hF q (hmem_post q hq), hall q (hmem_post q hq)⟩)
        unfold setTargetVersions at this ⊢
        rw [List.flatMap_cons, this]
        simp only [Spec.targetVersions, ← hdevs]
        have hfil : ((([(devObj tags (c0.map (evolve tags)) (M, some m)).toBranch]) ++ post.flatMap devBranch).filter
            fun b => b.key != (Branch.stab M m u).key) = post.flatMap devBranch := by
          rw [List.filter_append]
          have h1 : ([(devObj tags (c0.map (evolve tags)) (M, some m)).toBranch].filter
              fun b => b.key != (Branch.stab M m u).key) = [] := by
            simp [devObj_toBranch, Branch.key]
          rw [h1, List.nil_append, List.filter_eq_self]
          intro b hb
          obtain ⟨q, hq, hbq⟩ := List.mem_flatMap.mp hb
          rw [devBranch_key (hF q (hmem_post q hq)) b hbq]
          simp only [Branch.key, bne_iff_ne, ne_eq]
          exact fun h => keyLt_ne (hpost q hq) h.symm
        rw [hfil]
        simp [targetOf]
    · have hmm' : mismatch tags (.stab M m u) = true := by
        simp only [mismatch, decide_eq_true_eq]; omega
      simp only [hmm, ne_eq, not_false_eq_true, if_true]
      simp only [Spec.result, spec_error_mismatch hms hdep hno hmm']

end

end BertE.Cascade
