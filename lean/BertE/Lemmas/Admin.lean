import BertE.Model.Admin
import BertE.Lemmas.Flow
import BertE.Lemmas.CascadeMain
import BertE.Lemmas.QueueExtract
/- Lemmas about the admin jobs: what the cascade check of `create_branch` establishes (shape of the
   cascade, forward-port inclusion), what the queue jobs do to the remote, what `queued_prs` returns. -/
namespace BertE.Admin
open BertE.Git BertE.Flow

/-- a remote has one branch per name -/
def KeysNodup (m : RefMap) : Prop := (m.map (·.1)).Nodup

theorem get_of_mem {m : RefMap} {r : Ref} {c : Commit} (h : (r, c) ∈ m) : ∃ c', m.get r = some c' := by
  induction m with
  | nil => cases h
  | cons p m ih =>
    rw [RefMap.get_cons]
    split
    · exact ⟨_, rfl⟩
    · next hr =>
      rcases List.mem_cons.mp h with rfl | h'
      · exact absurd rfl hr
      · exact ih h'

theorem KeysNodup.get_eq {m : RefMap} (hk : KeysNodup m) {r : Ref} {c : Commit} (h : (r, c) ∈ m) :
    m.get r = some c := by
  induction m with
  | nil => cases h
  | cons p m ih =>
    obtain ⟨hp, hm⟩ := List.nodup_cons.mp hk
    rw [RefMap.get_cons]
    rcases List.mem_cons.mp h with rfl | h'
    · rw [if_pos rfl]
    · rw [if_neg, ih hm h']
      rintro rfl
      exact hp (List.mem_map.mpr ⟨_, h', rfl⟩)

theorem keysNodup_del {m : RefMap} (h : KeysNodup m) (r : Ref) : KeysNodup (m.del r) :=
  h.sublist (List.filter_sublist.map _)

theorem keysNodup_set {m : RefMap} (h : KeysNodup m) (r : Ref) (c : Commit) : KeysNodup (m.set r c) := by
  refine List.nodup_cons.mpr ⟨?_, keysNodup_del h r⟩
  intro hm
  obtain ⟨q, hq, hqr⟩ := List.mem_map.mp hm
  exact (RefMap.mem_del.mp hq).2 hqr

theorem KeysNodup.filterMap {β : Type} {m : RefMap} (h : KeysNodup m) (f : Ref × Commit → Option β)
    (hf : ∀ a ∈ m, ∀ a' ∈ m, ∀ b, f a = some b → f a' = some b → a.1 = a'.1) : (m.filterMap f).Nodup := by
  have hp : m.Pairwise (fun a a' => a ∈ m ∧ a' ∈ m ∧ a.1 ≠ a'.1) :=
    (List.pairwise_map.mp h).imp_of_mem fun ha ha' hne => ⟨ha, ha', hne⟩
  refine hp.filterMap f ?_
  rintro a a' ⟨ha, ha', hne⟩ b hb b' hb' rfl
  exact hne (hf a ha a' ha' b hb hb')

theorem mem_destsOf {heads : RefMap} {d : Dest} : d ∈ destsOf heads ↔ ∃ c, heads.get (.dest d) = some c := by
  unfold destsOf
  rw [List.mem_filterMap]
  constructor
  · rintro ⟨⟨r, c⟩, hm, hr⟩
    cases r <;> cases hr
    exact get_of_mem hm
  · rintro ⟨c, hc⟩
    exact ⟨(.dest d, c), RefMap.get_mem hc, rfl⟩

theorem destsOf_nodup {heads : RefMap} (h : KeysNodup heads) : (destsOf heads).Nodup := by
  refine h.filterMap _ ?_
  rintro ⟨r, c⟩ _ ⟨r', c'⟩ _ d hr hr'
  cases r <;> cases hr
  cases r' <;> cases hr'
  rfl

theorem ofBranch_toBranch (d : Dest) : ofBranch (toBranch d) = d := by cases d <;> rfl
theorem toBranch_ofBranch (b : Cascade.Branch) : toBranch (ofBranch b) = b := by cases b <;> rfl

theorem toBranch_inj {a b : Dest} (h : toBranch a = toBranch b) : a = b := by
  rw [← ofBranch_toBranch a, h, ofBranch_toBranch]

theorem map_toBranch_nodup {l : List Dest} (h : l.Nodup) : (l.map toBranch).Nodup :=
  List.Pairwise.map _ (fun _ _ hne he => hne (toBranch_inj he)) h

theorem mem_map_toBranch {l : List Dest} {b : Cascade.Branch} : b ∈ l.map toBranch ↔ ofBranch b ∈ l := by
  rw [List.mem_map]
  constructor
  · rintro ⟨d, hd, rfl⟩; rw [ofBranch_toBranch]; exact hd
  · intro h; exact ⟨_, h, toBranch_ofBranch b⟩

/-- the branches the cascade of a ref map is built from -/
def branchesOf (heads : RefMap) : List Cascade.Branch := (destsOf heads).map toBranch

theorem mem_branchesOf {heads : RefMap} {b : Cascade.Branch} :
    b ∈ branchesOf heads ↔ ∃ c, heads.get (.dest (ofBranch b)) = some c := by
  unfold branchesOf
  rw [mem_map_toBranch, mem_destsOf]

theorem branchesOf_nodup {heads : RefMap} (h : KeysNodup heads) : (branchesOf heads).Nodup :=
  map_toBranch_nodup (destsOf_nodup h)

open BertE.Cascade in
theorem noDst_skips (b : Cascade.Branch) : hotfixSkipped noDst b = b.isHotfix := by
  cases b <;> rfl

open BertE.Cascade in
theorem cascadeBuild_ok {ds : List Dest} {tags : Tags} {c : Cascade.Cascade} (hnd : ds.Nodup)
    (h : cascadeBuild Cfg.std ds tags = .ok c) :
    ∃ c0, Rep (ds.map toBranch) noDst c0 ∧ c = c3of (cascadeTags tags) c0 ∧
      (cascadeTags tags).any (tagErr c0) = false := by
  unfold cascadeBuild at h
  rcases addAll_spec noDst (map_toBranch_nodup hnd) with ⟨c0, hadd, r, _⟩ | ⟨herr, _⟩
  · rw [hadd] at h
    simp only [] at h
    rw [readTags_evolve] at h
    cases hdep : (cascadeTags tags).any (tagErr c0) with
    | true => rw [hdep, if_pos rfl] at h; cases h
    | false =>
      rw [hdep, if_neg Bool.false_ne_true] at h
      simp only [] at h
      rw [updateMajorVersions_c3 r] at h
      exact ⟨c0, r, (Except.ok.inj h).symm, hdep⟩
  · rw [herr] at h
    cases h

open BertE.Cascade in
theorem validateLoop_cons {inc : Branch → Branch → Bool} {prev : Option DevB} {k : Cascade.Key} {s : BranchSet}
    {rest : Cascade.Cascade} (hs : s.hf = none) (hv : validateLoop inc prev ((k, s) :: rest) = .ok ()) :
    ∃ d, s.dev = some d ∧
      (∀ st, s.stb = some st → d.micro + 1 = (st.micro : Int) ∧ inc d.toBranch st.toBranch = true) ∧
      (∀ x, prev = some x → inc d.toBranch x.toBranch = true) ∧
      validateLoop inc (some d) rest = .ok () := by
  obtain ⟨dev, stb, hf⟩ := s
  subst hs
  cases dev with
  | none => cases stb <;> cases hv
  | some d =>
    refine ⟨d, rfl, ?_⟩
    simp only [validateLoop] at hv
    split at hv
    · cases hv
    next hstb =>
    refine ⟨?_, ?_⟩
    · rintro st rfl
      by_cases h1 : d.micro + 1 = (st.micro : Int)
      · by_cases h2 : inc d.toBranch st.toBranch = true
        · exact ⟨h1, h2⟩
        · simp [h1, h2] at hstb
      · simp [h1] at hstb
    · cases prev with
      | none => exact ⟨nofun, hv⟩
      | some x =>
        by_cases h : inc d.toBranch x.toBranch = true
        · exact ⟨fun _ hx => Option.some.inj hx ▸ h, by simpa [h] using hv⟩
        · simp [h] at hv

open BertE.Cascade in
theorem validateLoop_ok {inc : Branch → Branch → Bool}
    (trans : ∀ a b c : DevB, inc b.toBranch a.toBranch = true → inc c.toBranch b.toBranch = true →
      inc c.toBranch a.toBranch = true) :
    ∀ (c : Cascade.Cascade) (prev : Option DevB), (∀ p ∈ c, p.2.hf = none) → validateLoop inc prev c = .ok () →
      (∀ p ∈ c, ∃ d, p.2.dev = some d ∧
          (∀ x, prev = some x → inc d.toBranch x.toBranch = true) ∧
          ∀ st, p.2.stb = some st → d.micro + 1 = (st.micro : Int) ∧ inc d.toBranch st.toBranch = true) ∧
      c.Pairwise (fun p q => ∀ dp dq, p.2.dev = some dp → q.2.dev = some dq →
          inc dq.toBranch dp.toBranch = true) := by
  intro c
  induction c with
  | nil => intro _ _ _; exact ⟨fun _ h => (nomatch h), List.Pairwise.nil⟩
  | cons p rest ih =>
    intro prev hhf hv
    obtain ⟨k, s⟩ := p
    obtain ⟨d, hd, hstab, hprev, hv'⟩ := validateLoop_cons (k := k) (hhf _ List.mem_cons_self) hv
    obtain ⟨ih1, ih2⟩ := ih (some d) (fun q hq => hhf q (List.mem_cons_of_mem _ hq)) hv'
    refine ⟨?_, List.pairwise_cons.mpr ⟨?_, ih2⟩⟩
    · intro q hq
      rcases List.mem_cons.mp hq with rfl | hq'
      · exact ⟨d, hd, hprev, hstab⟩
      · obtain ⟨dq, hdq, hq1, hq2⟩ := ih1 q hq'
        exact ⟨dq, hdq, fun x hx => trans x d dq (hprev x hx) (hq1 d rfl), hq2⟩
    · intro q hq dp dq hdp hdq
      obtain ⟨dq', hdq', hq1, _⟩ := ih1 q hq
      cases hd.symm.trans hdp
      cases hdq.symm.trans hdq'
      exact hq1 d rfl

theorem keyLt_iff_spec (a b : Key) : keyLt a b = true ↔ Cascade.Spec.keyLt a b := by
  obtain ⟨A, x⟩ := a; obtain ⟨B, y⟩ := b
  cases x <;> cases y <;> simp [keyLt, Cascade.Spec.keyLt, Cascade.Spec.minorLt]

theorem includes_eq {g : Graph} {heads : RefMap} {x y : Cascade.Branch} {cx cy : Commit}
    (hx : heads.get (.dest (ofBranch x)) = some cx) (hy : heads.get (.dest (ofBranch y)) = some cy) :
    includes g heads x y = g.le cy cx := by
  unfold includes
  rw [hx, hy]

theorem includes_true {g : Graph} {heads : RefMap} {x y : Cascade.Branch} (h : includes g heads x y = true) :
    ∃ cx cy, heads.get (.dest (ofBranch x)) = some cx ∧ heads.get (.dest (ofBranch y)) = some cy ∧
      g.le cy cx = true := by
  unfold includes at h
  split at h
  · next cx cy hx hy => exact ⟨cx, cy, hx, hy, h⟩
  · cases h

theorem includes_trans {g : Graph} (hg : g.WF) {heads : RefMap} {x y z : Cascade.Branch}
    (h1 : includes g heads y x = true) (h2 : includes g heads z y = true) : includes g heads z x = true := by
  obtain ⟨cy, cx, hy, hx, hxy⟩ := includes_true h1
  obtain ⟨cz, cy', hz, hy', hyz⟩ := includes_true h2
  cases hy.symm.trans hy'
  rw [includes_eq hz hx]
  exact le_trans hg hxy hyz

/-- the cascade rules, declaratively: one stabilization branch per line, which has its development branch
    and is the next patch of the line (so that no tag has released it) -/
structure CascadeOK (bs : List Cascade.Branch) (tags : List Cascade.Tag) : Prop where
  oneStab : ∀ M m u u', Cascade.Branch.stab M m u ∈ bs → Cascade.Branch.stab M m u' ∈ bs → u = u'
  hasDev : ∀ M m u, Cascade.Branch.stab M m u ∈ bs → Cascade.Branch.dev M (some m) ∈ bs
  nextPatch : ∀ M m u, Cascade.Branch.stab M m u ∈ bs → (u : Int) = Cascade.Spec.maxMicro tags M m + 1

open BertE.Cascade in
theorem fin3_dev_some {bs : List Branch} {tags : List Tag} {dst : Branch} {c1 : Cascade.Cascade}
    {q : Cascade.Key × BranchSet} (h : Fin3 bs tags dst c1 q) {d : DevB} (hd : q.2.dev = some d) :
    Branch.dev q.1.1 q.1.2 ∈ bs ∧ d = devObj tags c1 q.1 := by
  have := h.dev
  rw [hd] at this
  split at this
  · next hm => exact ⟨hm, Option.some.inj this⟩
  · cases this

open BertE.Cascade in
/-- What the cascade check of `create_branch` establishes: the shape rules, and forward-port inclusion of ALL the
    destination branches of the ref map (no assumption on the state before). -/
theorem cascadeCheck_spec {g : Graph} (hg : g.WF) {heads : RefMap} (hk : KeysNodup heads) {tags : Tags}
    (h : cascadeCheck Cfg.std g heads tags = .ok ()) :
    InclOn g heads ∧ CascadeOK (branchesOf heads) (cascadeTags tags) := by
  unfold cascadeCheck at h
  split at h
  · cases h
  next c hb =>
  obtain ⟨c0, r, rfl, _⟩ := cascadeBuild_ok (destsOf_nodup hk) hb
  have r' : Rep (branchesOf heads) noDst c0 := r
  have hent := c3_entries r' (cascadeTags tags)
  have hhf : ∀ p ∈ c3of (cascadeTags tags) c0, p.2.hf = none := by
    intro p hp
    rw [(hent p hp).hf, hfSlot_nonhotfix _ rfl]
    rfl
  obtain ⟨hE, hPW⟩ := validateLoop_ok (inc := includes g heads)
    (fun a b c h1 h2 => includes_trans hg h1 h2) _ none hhf h
  have hitem : ∀ b ∈ branchesOf heads, hotfixSkipped noDst b = false →
      ∃ q ∈ c3of (cascadeTags tags) c0, q.1 = b.key ∧ ∃ d, q.2.dev = some d ∧
        d = devObj (cascadeTags tags) (c0.map (evolve (cascadeTags tags))) b.key ∧
        Branch.dev b.key.1 b.key.2 ∈ branchesOf heads ∧
        ∀ st, q.2.stb = some st →
          d.micro + 1 = (st.micro : Int) ∧ includes g heads d.toBranch st.toBranch = true := by
    intro b hb hs
    obtain ⟨q, hq, hqk⟩ := c3_keys r' (cascadeTags tags) b hb hs
    obtain ⟨d, hd, _, hst⟩ := hE q hq
    obtain ⟨hm, hdo⟩ := fin3_dev_some (hent q hq) hd
    rw [hqk] at hm hdo
    exact ⟨q, hq, hqk, d, hd, hdo, hm, hst⟩
  have hdd : ∀ M m M' m' ca cb, keyLt (M, m) (M', m') = true → heads.get (.dest (.dev M m)) = some ca →
      heads.get (.dest (.dev M' m')) = some cb → g.le ca cb = true := by
    intro M m M' m' ca cb hlt hca hcb
    obtain ⟨qa, hqa, hka, da, hda, rfl, _⟩ := hitem (.dev M m) (mem_branchesOf.mpr ⟨ca, hca⟩) rfl
    obtain ⟨qb, hqb, hkb, db, hdb, rfl, _⟩ := hitem (.dev M' m') (mem_branchesOf.mpr ⟨cb, hcb⟩) rfl
    have hlt' : Spec.keyLt qa.1 qb.1 := by rw [hka, hkb]; exact (keyLt_iff_spec _ _).mp hlt
    have hne : qa ≠ qb := fun he => Cascade.keyLt_irrefl _ (he ▸ hlt')
    have hinc := (pairwise_pick ((c3_sorted r' (cascadeTags tags)).and hPW) hqa hqb hne).elim
      (fun h => h.2 _ _ hda hdb) (fun h => (Cascade.keyLt_asymm hlt' h.1).elim)
    rw [devObj_toBranch, devObj_toBranch] at hinc
    rwa [← includes_eq (x := .dev M' m') (y := .dev M m) hcb hca]
  have hstab : ∀ M m u ca, heads.get (.dest (.stab M m u)) = some ca →
      Branch.dev M (some m) ∈ branchesOf heads ∧ (u : Int) = Spec.maxMicro (cascadeTags tags) M m + 1 ∧
        ∀ cd, heads.get (.dest (.dev M (some m))) = some cd → g.le ca cd = true := by
    intro M m u ca hca
    have hmem : Branch.stab M m u ∈ branchesOf heads := mem_branchesOf.mpr ⟨ca, hca⟩
    obtain ⟨q, hq, hqk, d, hd, rfl, hdm, hst⟩ := hitem _ hmem rfl
    have hqk : q.1 = (M, some m) := hqk
    cases hs : q.2.stb with
    | none =>
      have := (hent q hq).stbNone hs m u (by rw [hqk])
      rw [hqk] at this
      exact absurd hmem this
    | some st =>
      obtain ⟨hm1, hm2⟩ := (hent q hq).stbMem st hs
      rw [hqk] at hm2
      obtain ⟨hmaj, hmin⟩ := Prod.mk.inj hm2
      have hstb : st.toBranch = .stab M m st.micro := by
        unfold StabB.toBranch; rw [hmaj, Option.some.inj hmin]
      rw [hstb] at hm1
      cases r'.oneStab M m st.micro u hm1 hmem
      obtain ⟨hmic, hinc⟩ := hst st hs
      refine ⟨hdm, by rw [← hmic]; rfl, fun cd hcd => ?_⟩
      rw [devObj_toBranch, hstb] at hinc
      rwa [← includes_eq (x := .dev M (some m)) (y := .stab M m st.micro) hcd hca]
  refine ⟨?_, r'.oneStab, ?_, ?_⟩
  · intro a b hab ca cb hca hcb
    -- `before` relates a development or stabilization branch to a development branch
    cases a <;> cases b <;> try cases hab
    · exact hdd _ _ _ _ ca cb hab hca hcb
    · next M m u M' m' =>
      obtain ⟨hdm, _, hle⟩ := hstab M m u ca hca
      obtain ⟨cd, hcd⟩ := mem_branchesOf.mp hdm
      rcases Bool.or_eq_true_iff.mp hab with he | hlt
      · cases (beq_iff_eq.mp he : ((M, some m) : Flow.Key) = (M', m'))
        exact hle cb hcb
      · exact le_trans hg (hle cd hcd) (hdd M (some m) M' m' cd cb hlt hcd hcb)
  · intro M m u hmem
    obtain ⟨ca, hca⟩ := mem_branchesOf.mp hmem
    exact (hstab M m u ca hca).1
  · intro M m u hmem
    obtain ⟨ca, hca⟩ := mem_branchesOf.mp hmem
    exact (hstab M m u ca hca).2.1

open BertE.Cascade in
theorem maxMicro_ge {tags : List Tag} {t : Tag} (ht : t ∈ tags) : (t.micro : Int) ≤ Spec.maxMicro tags t.major t.minor := by
  unfold Spec.maxMicro Spec.maxOr
  apply maxInts_ge_mem
  simp only [List.mem_map, List.mem_filter, Bool.and_eq_true, beq_iff_eq]
  exact ⟨t, ⟨ht, rfl, rfl⟩, rfl⟩

open BertE.Cascade in
/-- The cascade rules are the C09 specification: `CascadeOK` holds exactly when every development and
    stabilization branch of the repository is a destination the declarative cascade (`Spec.error`) accepts. -/
theorem cascadeOK_iff_spec {bs : List Branch} {tags : List Tag} :
    CascadeOK bs tags ↔ ∀ dst ∈ bs, dst.isHotfix = false → Spec.error bs tags dst = none := by
  constructor
  · intro h dst hdst hnh
    refine spec_error_eq_none.mpr ⟨not_multipleStab_of h.oneStab, ?_, ?_, ?_⟩
    · -- a stabilization branch is the next patch: no tag of its line has its micro or a later one
      rw [Bool.eq_false_iff]
      intro hd
      simp only [Spec.deprecated, List.any_eq_true] at hd
      obtain ⟨t, ht, b, hb, hd⟩ := hd
      cases b with
      | dev _ _ => cases hd
      | hotfix _ _ _ => cases hd
      | stab M m s =>
        simp only [Bool.and_eq_true, beq_iff_eq, Bool.or_eq_true, decide_eq_true_eq] at hd
        obtain ⟨⟨rfl, rfl⟩, hle | he⟩ := hd
        · have := h.nextPatch _ _ _ hb
          have := maxMicro_ge ht
          omega
        · subst he; cases hnh
    · rw [Bool.eq_false_iff]
      intro ho
      obtain ⟨b, hb, ho⟩ := List.any_eq_true.mp ho
      cases b with
      | dev _ _ => cases ho
      | hotfix _ _ _ => cases ho
      | stab M m s =>
        simp only [Spec.orphan, Bool.not_eq_true', List.contains_eq_mem, decide_eq_false_iff_not] at ho
        exact ho (h.hasDev _ _ _ hb)
    · cases dst with
      | dev _ _ => rfl
      | hotfix _ _ _ => rfl
      | stab M m s => simpa [Spec.mismatch] using h.nextPatch _ _ _ hdst
  · intro h
    have key : ∀ M m u, Branch.stab M m u ∈ bs →
        Spec.multipleStab bs = false ∧ Branch.dev M (some m) ∈ bs ∧ (u : Int) = Spec.maxMicro tags M m + 1 := by
      intro M m u hb
      obtain ⟨h1, _, h3, h4⟩ := spec_error_eq_none.mp (h _ hb rfl)
      refine ⟨h1, ?_, by simpa [Spec.mismatch] using h4⟩
      have := (List.any_eq_false.mp h3) _ hb
      simpa [Spec.orphan] using this
    refine ⟨fun M m u u' hb hb' => ?_, fun M m u hb => (key M m u hb).2.1, fun M m u hb => (key M m u hb).2.2⟩
    apply Decidable.byContradiction
    intro hne
    have := multipleStab_of hne hb hb'
    rw [(key M m u hb).1] at this
    cases this

theorem allQRefs_eq (m : RefMap) : allQRefs m = (m.filter fun rc => isQRef rc.1).map (·.1) := by
  unfold allQRefs
  congr 2
  funext rc
  cases rc.1 <;> rfl

theorem mem_allQRefs {m : RefMap} {r : Ref} : r ∈ allQRefs m ↔ isQRef r = true ∧ ∃ c, (r, c) ∈ m := by
  rw [allQRefs_eq, List.mem_map]
  constructor
  · rintro ⟨⟨r', c⟩, h, rfl⟩
    exact ⟨(List.mem_filter.mp h).2, c, (List.mem_filter.mp h).1⟩
  · rintro ⟨hq, c, hm⟩
    exact ⟨(r, c), List.mem_filter.mpr ⟨hm, hq⟩, rfl⟩

theorem allQRefs_set_dest (m : RefMap) (d : Dest) (c : Commit) : allQRefs (m.set (.dest d) c) = allQRefs m := by
  unfold allQRefs RefMap.set RefMap.del
  rw [List.filter_cons]
  simp only [Bool.false_eq_true, if_false, List.filter_filter]
  congr 1
  apply List.filter_congr
  intro x _
  obtain ⟨r, c'⟩ := x
  cases r <;> simp

theorem get_dropQueues (m : RefMap) (r : Ref) :
    (delRefs m (allQRefs m)).get r = if isQRef r = true then none else m.get r := by
  rw [get_delRefs]
  by_cases hq : isQRef r = true
  · rw [if_pos hq]
    split
    · rfl
    · next hm =>
      cases hg : m.get r with
      | none => rfl
      | some c => exact absurd (mem_allQRefs.mpr ⟨hq, c, RefMap.get_mem hg⟩) hm
  · rw [if_neg hq, if_neg fun h => hq (mem_allQRefs.mp h).1]

theorem applyOp_prune (g : Graph) (rej : Ref → Bool) (m : RefMap) (rs : List Ref) :
    applyOp g rej m (.pushAll (delRefs m rs) true) = delRefs m rs ∨
    applyOp g rej m (.pushAll (delRefs m rs) true) = m :=
  applyOp_pushAll_cases g rej m _ true

theorem applyOp_prune_noRej (g : Graph) (m : RefMap) (rs : List Ref) :
    applyOp g noRej m (.pushAll (delRefs m rs) true) = delRefs m rs :=
  applyOp_pushAll_delRefs_noRej g m rs

theorem hotfixPrs_cons (e : Dest × List Nat) (qs : Queues) :
    hotfixPrs (e :: qs) = if Dest.isHotfix e.1 then Queue.insertNew (hotfixPrs qs) e.2 else hotfixPrs qs := rfl

theorem mem_hotfixPrs {qs : Queues} {x : Nat} :
    x ∈ hotfixPrs qs ↔ ∃ e ∈ qs, Dest.isHotfix e.1 = true ∧ x ∈ e.2 := by
  induction qs with
  | nil => simp [hotfixPrs]
  | cons e qs ih =>
    simp only [List.mem_cons, exists_eq_or_imp, ← ih]
    rw [hotfixPrs_cons]
    split
    · next he => rw [Queue.mem_insertNew, or_comm, eq_true he, true_and]
    · next he => rw [eq_false he, false_and, false_or]

theorem hotfixPrs_nodup (qs : Queues) : (hotfixPrs qs).Nodup := by
  induction qs with
  | nil => simp [hotfixPrs]
  | cons e qs ih =>
    rw [hotfixPrs_cons]
    split
    · exact Queue.nodup_insertNew _ _ ih
    · exact ih

/-- "Find last_entry for which there is not a hf entry": the queue of the latest development branch -/
def lastDev (qs : Queues) : Option (Dest × List Nat) := qs.reverse.find? (fun e => !Dest.isHotfix e.1)

theorem lastDev_mem {qs : Queues} {e : Dest × List Nat} (h : lastDev qs = some e) :
    e ∈ qs ∧ Dest.isHotfix e.1 = false := by
  unfold lastDev at h
  exact ⟨List.mem_reverse.mp (List.mem_of_find?_eq_some h), by simpa using List.find?_some h⟩

theorem lastDev_isSome {qs : Queues} {e : Dest × List Nat} (he : e ∈ qs) (hn : Dest.isHotfix e.1 = false) :
    ∃ l, lastDev qs = some l := by
  apply Option.isSome_iff_exists.mp
  rw [lastDev, List.find?_isSome]
  exact ⟨e, List.mem_reverse.mpr he, by rw [hn]; rfl⟩

theorem queuedPrs_def (qs : Queues) :
    queuedPrs qs = hotfixPrs qs ++
      ((match lastDev qs with | some e => e.2.reverse | none => []).filter fun p => !(hotfixPrs qs).contains p) := rfl

theorem mem_lastIds {qs : Queues} {p : Nat} :
    p ∈ (match lastDev qs with | some e => e.2.reverse | none => []) ↔ ∃ l, lastDev qs = some l ∧ p ∈ l.2 := by
  cases lastDev qs <;> simp

/-- What the robot's own queueing establishes on the collection (`QueueCollection.validate` checks it):
    the pull requests of a hotfix queue are on no other queue, each once; along the cascade, every pull request
    of a queue is on the queue of the latest development branch, in the same order. -/
structure QueuesWF (qs : Queues) : Prop where
  hfNodup : ∀ e ∈ qs, Dest.isHotfix e.1 = true → e.2.Nodup
  hfDisjoint : qs.Pairwise (fun e e' => Dest.isHotfix e.1 = true → Dest.isHotfix e'.1 = true → ∀ p ∈ e.2, p ∉ e'.2)
  apart : ∀ e ∈ qs, ∀ e' ∈ qs, Dest.isHotfix e.1 = true → Dest.isHotfix e'.1 = false → ∀ p ∈ e.2, p ∉ e'.2
  vertical : ∀ e ∈ qs, Dest.isHotfix e.1 = false → ∀ l, lastDev qs = some l → e.2.Sublist l.2

theorem hotfixPrs_eq {qs : Queues} (h1 : ∀ e ∈ qs, Dest.isHotfix e.1 = true → e.2.Nodup)
    (h2 : qs.Pairwise (fun e e' => Dest.isHotfix e.1 = true → Dest.isHotfix e'.1 = true → ∀ p ∈ e.2, p ∉ e'.2)) :
    hotfixPrs qs = (qs.filter fun e => Dest.isHotfix e.1).flatMap fun e => e.2.reverse := by
  induction qs with
  | nil => rfl
  | cons e qs ih =>
    rw [List.pairwise_cons] at h2
    have ih' := ih (fun x hx => h1 x (List.mem_cons_of_mem _ hx)) h2.2
    rw [hotfixPrs_cons]
    by_cases he : Dest.isHotfix e.1 = true
    · rw [if_pos he, List.filter_cons, if_pos he, List.flatMap_cons, ← ih']
      apply Queue.insertNew_fresh _ _ (h1 e List.mem_cons_self he)
      intro p hp hmem
      obtain ⟨e', he', hh, hp'⟩ := mem_hotfixPrs.mp hmem
      exact h2.1 e' he' he hh p hp hp'
    · rw [if_neg he, List.filter_cons, if_neg he]
      exact ih'

theorem queuedPrs_eq {qs : Queues} (hw : QueuesWF qs) :
    queuedPrs qs = ((qs.filter fun e => Dest.isHotfix e.1).flatMap fun e => e.2.reverse) ++
      (match lastDev qs with | some e => e.2.reverse | none => []) := by
  rw [queuedPrs_def, hotfixPrs_eq hw.hfNodup hw.hfDisjoint]
  congr 1
  rw [List.filter_eq_self]
  intro p hp
  obtain ⟨l, hl, hp⟩ := mem_lastIds.mp hp
  obtain ⟨hlm, hln⟩ := lastDev_mem hl
  simp only [Bool.not_eq_true', List.contains_eq_mem, decide_eq_false_iff_not, List.mem_flatMap,
    List.mem_filter, List.mem_reverse, not_exists, not_and, and_imp]
  intro e he hh hpe
  exact hw.apart e he l hlm hh hln p hpe hp

theorem mem_queuedPrs {qs : Queues} (hw : QueuesWF qs) (p : Nat) :
    p ∈ queuedPrs qs ↔ ∃ e ∈ qs, p ∈ e.2 := by
  rw [queuedPrs_eq hw, List.mem_append, List.mem_flatMap]
  constructor
  · rintro (⟨e, he, hp⟩ | hp)
    · exact ⟨e, (List.mem_filter.mp he).1, List.mem_reverse.mp hp⟩
    · obtain ⟨l, hl, hp⟩ := mem_lastIds.mp hp
      exact ⟨l, (lastDev_mem hl).1, hp⟩
  · rintro ⟨e, he, hp⟩
    by_cases hh : Dest.isHotfix e.1 = true
    · exact Or.inl ⟨e, List.mem_filter.mpr ⟨he, hh⟩, List.mem_reverse.mpr hp⟩
    · have hh' : Dest.isHotfix e.1 = false := by simpa using hh
      obtain ⟨l, hl⟩ := lastDev_isSome he hh'
      exact Or.inr (mem_lastIds.mpr ⟨l, hl, (hw.vertical e he hh' l hl).subset hp⟩)

theorem queuedPrs_order {qs : Queues} (hw : QueuesWF qs) {e : Dest × List Nat} (he : e ∈ qs) :
    e.2.reverse.Sublist (queuedPrs qs) := by
  rw [queuedPrs_eq hw]
  by_cases hh : Dest.isHotfix e.1 = true
  · have hm : e ∈ qs.filter fun e => Dest.isHotfix e.1 := List.mem_filter.mpr ⟨he, hh⟩
    rw [List.flatMap_def]
    exact (List.sublist_flatten_of_mem (List.mem_map_of_mem (f := fun e => e.2.reverse) hm)).trans
      (List.sublist_append_left _ _)
  · have hh' : Dest.isHotfix e.1 = false := by simpa using hh
    obtain ⟨l, hl⟩ := lastDev_isSome he hh'
    rw [hl]
    exact ((hw.vertical e he hh' l hl).reverse).trans (List.sublist_append_right _ _)

theorem queuedPrs_nodup (qs : Queues) (h : ∀ l, lastDev qs = some l → l.2.Nodup) : (queuedPrs qs).Nodup := by
  rw [queuedPrs_def, List.nodup_append]
  refine ⟨hotfixPrs_nodup qs, ?_, ?_⟩
  · apply List.Nodup.sublist List.filter_sublist
    cases hl : lastDev qs with
    | none => exact List.nodup_nil
    | some l => exact (List.reverse_perm l.2).nodup_iff.mpr (h l hl)
  · rintro a ha _ hb rfl
    simpa [ha] using (List.mem_filter.mp hb).2

theorem devLt_eq_keyLt (a b : Key) : devLt a b = keyLt a b := by
  obtain ⟨A, x⟩ := a; obtain ⟨B, y⟩ := b
  by_cases h : A = B
  · subst h
    cases x <;> cases y <;> simp [devLt, keyLt]
  · simp [devLt, keyLt, h]

theorem stabAlive_of_stab {heads : RefMap} {M m u : Nat} {c : Commit}
    (h : heads.get (.dest (.stab M m u)) = some c) : stabAlive heads (.dev M (some m)) = true := by
  unfold stabAlive
  rw [List.any_eq_true]
  refine ⟨(.dest (.stab M m u), c), RefMap.get_mem h, ?_⟩
  rw [List.isPrefixOf_iff_prefix]
  refine ⟨("." ++ toString u).toList, ?_⟩
  show ("stabilization/" ++ (toString M ++ "." ++ toString m)).toList ++ ("." ++ toString u).toList =
    ("stabilization/" ++ (toString M ++ "." ++ toString m ++ "." ++ toString u)).toList
  simp only [String.toList_append, List.append_assoc]

/-- what the property needs of the tag literals: the archive tag that `delete_branch` leaves on a branch is
    one of the tags `create_branch` looks for, for each of the three classes of destination branch -/
def LitsOK (l : Lits) : Prop :=
  ∀ d ∈ [Dest.dev 0 none, Dest.stab 0 0 0, Dest.hotfix 0 0 0], delSuffix l d ∈ createSufs l d

instance (l : Lits) : Decidable (LitsOK l) := by unfold LitsOK; infer_instance

theorem archiveTag_mem {l : Lits} (h : LitsOK l) (d : Dest) : archiveTag l d ∈ createArchiveTags l d := by
  unfold archiveTag createArchiveTags
  apply List.mem_map_of_mem
  cases d with
  | dev M m => exact h (.dev 0 none) (by simp)
  | stab M m u => exact h (.stab 0 0 0) (by simp)
  | hotfix M m u => exact h (.hotfix 0 0 0) (by simp)

theorem insertBy_perm {α : Type} (le : α → α → Bool) (x : α) (l : List α) : (insertBy le x l).Perm (x :: l) := by
  induction l with
  | nil => exact List.Perm.refl _
  | cons y ys ih =>
    unfold insertBy
    split
    · exact List.Perm.refl _
    · exact (List.Perm.cons y ih).trans (List.Perm.swap x y ys)

theorem sortBy_perm {α : Type} (le : α → α → Bool) (l : List α) : (sortBy le l).Perm l := by
  induction l with
  | nil => exact List.Perm.refl _
  | cons x l ih => exact (insertBy_perm le x _).trans (List.Perm.cons x ih)

theorem mem_sortBy {α : Type} (le : α → α → Bool) (a : α) (l : List α) : a ∈ sortBy le l ↔ a ∈ l :=
  (sortBy_perm le l).mem_iff

theorem mem_queueKeys {heads : RefMap} {d : Dest} :
    d ∈ queueKeys heads ↔ ∃ r c, (r, c) ∈ heads ∧ qDest r = some d := by
  unfold queueKeys
  rw [mem_sortBy, List.mem_eraseDups, List.mem_filterMap]
  exact ⟨fun ⟨⟨r, c⟩, h1, h2⟩ => ⟨r, c, h1, h2⟩, fun ⟨r, c, h1, h2⟩ => ⟨(r, c), h1, h2⟩⟩

theorem hasVersionQueuedPrs_iff {g : Graph} {heads : RefMap} {d : Dest} :
    hasVersionQueuedPrs (queuesOf g heads) d = true ↔ d ∈ queueKeys heads := by
  simp [hasVersionQueuedPrs, queuesOf]

/-- what `qintsOf` keeps of a head -/
def qint (d : Dest) (rc : Ref × Commit) : Option (Nat × Commit) :=
  match rc.1 with
  | .qw pr d' _ => if d' = d then some (pr, rc.2) else none
  | _ => none

theorem qintsOf_def (heads : RefMap) (d : Dest) : qintsOf heads d = heads.filterMap (qint d) := rfl

theorem qint_inv {d : Dest} {r : Ref} {c : Commit} {p : Nat} {c' : Commit}
    (h : qint d (r, c) = some (p, c')) : ∃ src, r = .qw p d src ∧ c' = c := by
  unfold qint at h
  split at h
  · next pr d' src hr =>
    split at h
    · next hd =>
      cases h
      exact ⟨src, by rw [← hd]; exact hr, rfl⟩
    · cases h
  · cases h

theorem mem_qintsOf {heads : RefMap} {d : Dest} {p : Nat} {c : Commit} :
    (p, c) ∈ qintsOf heads d ↔ ∃ src, (Ref.qw p d src, c) ∈ heads := by
  rw [qintsOf_def, List.mem_filterMap]
  constructor
  · rintro ⟨⟨r, c'⟩, hm, hr⟩
    obtain ⟨src, rfl, rfl⟩ := qint_inv hr
    exact ⟨src, hm⟩
  · rintro ⟨src, hm⟩
    exact ⟨(.qw p d src, c), hm, by simp [qint]⟩

/-- a pull request is queued when it has a queue-integration branch -/
def Queued (heads : RefMap) (p : Nat) : Prop := ∃ d src c, (Ref.qw p d src, c) ∈ heads

theorem mem_queuesOf {g : Graph} {heads : RefMap} {p : Nat} :
    (∃ e ∈ queuesOf g heads, p ∈ e.2) ↔ Queued heads p := by
  unfold queuesOf Queued newestFirst
  constructor
  · rintro ⟨e, he, hp⟩
    obtain ⟨d, _, rfl⟩ := List.mem_map.mp he
    obtain ⟨⟨p', c⟩, hpc, rfl⟩ := List.mem_map.mp hp
    obtain ⟨src, hm⟩ := mem_qintsOf.mp ((mem_sortBy _ _ _).mp hpc)
    exact ⟨d, src, c, hm⟩
  · rintro ⟨d, src, c, hm⟩
    refine ⟨_, List.mem_map_of_mem (mem_queueKeys.mpr ⟨_, c, hm, rfl⟩), ?_⟩
    exact List.mem_map.mpr ⟨(p, c), (mem_sortBy _ _ _).mpr (mem_qintsOf.mpr ⟨src, hm⟩), rfl⟩

theorem queuesOf_nil {g : Graph} {heads : RefMap} (h : allQRefs heads = []) : queuesOf g heads = [] := by
  refine List.eq_nil_iff_forall_not_mem.mpr fun e he => ?_
  obtain ⟨d, hd, _⟩ := List.mem_map.mp he
  obtain ⟨r, c, hm, hr⟩ := mem_queueKeys.mp hd
  have : r ∈ allQRefs heads := mem_allQRefs.mpr ⟨by simp [isQRef, hr], c, hm⟩
  rw [h] at this
  cases this

open BertE.Cascade in
theorem devBranches_spec {ds : List Dest} {tags : Tags} {c : Cascade.Cascade} (hnd : ds.Nodup)
    (h : cascadeBuild Cfg.std ds tags = .ok c) :
    (∀ k : Flow.Key, k ∈ devBranches c ↔ Dest.dev k.1 k.2 ∈ ds) ∧
    (devBranches c).Pairwise (fun a b => keyLt a b = true) := by
  obtain ⟨c0, r, rfl, _⟩ := cascadeBuild_ok hnd h
  have hent := c3_entries r (cascadeTags tags)
  have hkey : ∀ q ∈ c3of (cascadeTags tags) c0, ∀ k : Flow.Key,
      (q.2.dev.map fun d => (d.major, d.minor)) = some k → k = q.1 ∧ Branch.dev k.1 k.2 ∈ ds.map toBranch := by
    intro q hq k hk
    obtain ⟨d, hd, rfl⟩ := Option.map_eq_some_iff.mp hk
    obtain ⟨hm, rfl⟩ := fin3_dev_some (hent q hq) hd
    rw [devObj_major, devObj_minor]
    exact ⟨rfl, hm⟩
  unfold devBranches
  refine ⟨fun k => ?_, ?_⟩
  · rw [List.mem_filterMap]
    constructor
    · rintro ⟨q, hq, hk⟩
      exact mem_map_toBranch.mp (hkey q hq k hk).2
    · intro hk
      have hm : Branch.dev k.1 k.2 ∈ ds.map toBranch := mem_map_toBranch.mpr hk
      obtain ⟨q, hq, hqk⟩ := c3_keys r (cascadeTags tags) _ hm rfl
      have hqk' : q.1 = k := hqk
      refine ⟨q, hq, ?_⟩
      rw [(hent q hq).dev, hqk', if_pos hm, Option.map_some, devObj_major, devObj_minor]
  · refine List.Pairwise.filterMap _ ?_
      ((c3_sorted r (cascadeTags tags)).imp_of_mem fun ha hb hr => And.intro ha (And.intro hb hr))
    intro p q ⟨hp, hq, hlt⟩ a ha b hb
    rw [(hkey p hp a ha).1, (hkey q hq b hb).1]
    exact (keyLt_iff_spec _ _).mpr hlt

theorem getLast_max {α : Type} {R : α → α → Prop} : ∀ {l : List α} {x : α}, l.Pairwise R → l.getLast? = some x →
    ∀ y ∈ l, y = x ∨ R y x := by
  intro l x hp hl y hy
  obtain ⟨ys, rfl⟩ := List.getLast?_eq_some_iff.mp hl
  rcases List.mem_append.mp hy with h | h
  · exact Or.inr ((List.pairwise_append.mp hp).2.2 y h x (List.mem_singleton_self x))
  · exact Or.inl (List.mem_singleton.mp h)

theorem queuedDataCheck_none {st : Repo} {M : Nat} {m : Option Nat} {casc : Cascade.Cascade}
    (hk : KeysNodup st.heads) (hb : cascadeBuild Cascade.Cfg.std (destsOf st.heads) st.tags = .ok casc)
    (h : queuedDataCheck st (.dev M m) (devBranches casc) = none) (huq : st.useQueue = true)
    {M' : Nat} {m' : Option Nat} {c' : Commit} (hc' : st.heads.get (.dest (.dev M' m')) = some c')
    (hlt : keyLt (M, m) (M', m') = true) : queuedPrs (queuesOf st.g st.heads) = [] := by
  obtain ⟨hmem, hpw⟩ := devBranches_spec (destsOf_nodup hk) hb
  have hin : ((M', m') : Key) ∈ devBranches casc := (hmem (M', m')).mpr (mem_destsOf.mpr ⟨c', hc'⟩)
  unfold queuedDataCheck at h
  rw [huq] at h
  simp only [Bool.not_true, Bool.false_eq_true, if_false] at h
  split at h
  · cases h
  · next last hl =>
    have hlast : keyLt (M, m) last = true := by
      rcases getLast_max hpw hl _ hin with he | hr
      · rw [← he]; exact hlt
      · exact keyLt_trans hlt hr
    rw [devLt_eq_keyLt, hlast, Bool.true_and] at h
    split at h
    · cases h
    · next he => simpa using he

/-- what a queue job can end with -/
structure DropShape (st : Repo) (r : Result) (queued : List Nat) : Prop where
  cases : (r.outcome ≠ .success ∧ r.ops = [] ∧ r.resubmit = []) ∨
    (r.outcome = .success ∧ allQRefs st.heads = [] ∧ r.ops = [] ∧ r.resubmit = []) ∨
    (r.outcome = .success ∧ allQRefs st.heads ≠ [] ∧
      r.ops = [.ref (.pushAll (delRefs st.heads (allQRefs st.heads)) true)] ∧ r.resubmit = queued)
  outcome : r.outcome = .success ∨ r.outcome = .notMyJob ∨ ∃ e, r.outcome = .raised e

theorem dropShape_idle {st : Repo} {r : Result} {queued : List Nat} (h1 : r.ops = []) (h2 : r.resubmit = [])
    (h3 : r.outcome = .notMyJob ∨ ∃ e, r.outcome = .raised e) : DropShape st r queued :=
  ⟨Or.inl ⟨by rcases h3 with h | ⟨e, h⟩ <;> rw [h] <;> nofun, h1, h2⟩, Or.inr h3⟩

/-- the common end of `rebuild_queues` and `delete_queues` -/
theorem dropShape_tail (st : Repo) (queued : List Nat) :
    DropShape st (match (queueBranches st.heads).head? with
      | none => done .success
      | some first =>
        match moveAway st first with
        | some e => raise e
        | none => { outcome := .success, ops := [.ref (.pushAll (delRefs st.heads (queueBranches st.heads)) true)],
                    resubmit := queued }) queued := by
  unfold queueBranches
  split
  · next hnone => exact ⟨Or.inr (Or.inl ⟨rfl, List.head?_eq_none_iff.mp hnone, rfl, rfl⟩), Or.inl rfl⟩
  · next first hfirst =>
    split
    · exact dropShape_idle rfl rfl (Or.inr ⟨_, rfl⟩)
    · refine ⟨Or.inr (Or.inr ⟨rfl, ?_, rfl, rfl⟩), Or.inl rfl⟩
      intro he
      rw [he] at hfirst
      cases hfirst

theorem rebuildQueues_shape (cfg : Cascade.Cfg) (st : Repo) :
    DropShape st (rebuildQueues cfg st) (queuedPrs (queuesOf st.g st.heads)) := by
  unfold rebuildQueues
  split
  · exact dropShape_idle rfl rfl (Or.inl rfl)
  · split
    · exact dropShape_idle rfl rfl (Or.inr ⟨_, rfl⟩)
    · exact dropShape_tail st _

theorem deleteQueues_shape (st : Repo) : DropShape st (deleteQueues st) [] := by
  unfold deleteQueues
  split
  · exact dropShape_idle rfl rfl (Or.inl rfl)
  · exact dropShape_tail st []

theorem dropShape_ops {st : Repo} {r : Result} {queued : List Nat} (h : DropShape st r queued) :
    r.ops = [] ∨ r.ops = [.ref (.pushAll (delRefs st.heads (allQRefs st.heads)) true)] := by
  rcases h.cases with ⟨_, ho, _⟩ | ⟨_, _, ho, _⟩ | ⟨_, _, ho, _⟩
  · exact Or.inl ho
  · exact Or.inl ho
  · exact Or.inr ho

theorem dropShape_refOps {st : Repo} {r : Result} {queued : List Nat} (h : DropShape st r queued)
    (hs : r.outcome = .success) :
    refOps r.ops = if (allQRefs st.heads).isEmpty then []
      else [.pushAll (delRefs st.heads (allQRefs st.heads)) true] := by
  rcases h.cases with ⟨hne, _⟩ | ⟨_, hq, ho, _⟩ | ⟨_, hq, ho, _⟩
  · exact absurd hs hne
  · rw [ho, hq]; rfl
  · rw [ho, if_neg (by simpa using hq)]; rfl

theorem rebuildQueues_notMyJob {cfg : Cascade.Cfg} {st : Repo} (h : (rebuildQueues cfg st).outcome = .notMyJob) :
    st.useQueue = false := by
  unfold rebuildQueues at h
  split at h
  · next hu => simpa using hu
  · exfalso
    split at h
    · cases h
    · simp only [] at h
      split at h
      · cases h
      · split at h <;> cases h

theorem cascadeBuild_of_check {cfg : Cascade.Cfg} {g : Graph} {heads : RefMap} {tags : Tags}
    (h : cascadeCheck cfg g heads tags = .ok ()) : ∃ c, cascadeBuild cfg (destsOf heads) tags = .ok c := by
  unfold cascadeCheck at h
  split at h
  · cases h
  · next c hb => exact ⟨c, hb⟩

theorem rebuildQueues_eq {cfg : Cascade.Cfg} {st : Repo} {casc : Cascade.Cascade} (huq : st.useQueue = true)
    (hb : cascadeBuild cfg (destsOf st.heads) st.tags = .ok casc) :
    rebuildQueues cfg st =
      match (allQRefs st.heads).head? with
      | none => done .success
      | some first =>
        match moveAway st first with
        | some e => raise e
        | none => { outcome := .success, ops := [.ref (.pushAll (delRefs st.heads (allQRefs st.heads)) true)],
                    resubmit := queuedPrs (queuesOf st.g st.heads) } := by
  unfold rebuildQueues
  rw [huq, hb]
  rfl

theorem rebuildQueues_success {cfg : Cascade.Cfg} {st : Repo} {casc : Cascade.Cascade} (huq : st.useQueue = true)
    (hb : cascadeBuild cfg (destsOf st.heads) st.tags = .ok casc)
    (hd : ∀ r ∈ allQRefs st.heads, ∀ d, qDest r = some d → st.heads.has (.dest d) = true) :
    (rebuildQueues cfg st).outcome = .success := by
  rw [rebuildQueues_eq huq hb]
  split
  · rfl
  · next first hfirst =>
    have hmem := List.mem_of_mem_head? hfirst
    obtain ⟨d, hqd⟩ := Option.isSome_iff_exists.mp (mem_allQRefs.mp hmem).1
    rw [moveAway, hqd]
    simp only [hd first hmem d hqd, Bool.not_true, Bool.false_eq_true, if_false]

theorem classOf_eq_dest {name : Ref} {recognized : Bool} {d : Dest} (h : classOf name recognized = .dest d) :
    name = .dest d := by
  unfold classOf at h
  split at h
  · cases h; rfl
  · split at h <;> cases h
  · cases h

theorem branchingPoint_inl {lits : Lits} {st : Repo} {d : Dest} {devs : List Key} {from_ : Option Rev} {r : Result}
    (h : branchingPoint lits st d devs from_ = .inl r) : r.ops = [] ∧ r.resubmit = [] ∧ r.outcome ≠ .success := by
  unfold branchingPoint at h
  split at h
  · split at h
    · cases h; exact ⟨rfl, rfl, nofun⟩
    · simp only [] at h
      split at h <;> split at h <;> cases h <;> exact ⟨rfl, rfl, nofun⟩
  · split at h
    · split at h <;> cases h
      exact ⟨rfl, rfl, nofun⟩
    · cases h
    · split at h <;> cases h
      exact ⟨rfl, rfl, nofun⟩

theorem queuedDataCheck_some {st : Repo} {d : Dest} {devs : List Key} {r : Result}
    (h : queuedDataCheck st d devs = some r) : r.ops = [] ∧ r.resubmit = [] ∧ r.outcome ≠ .success := by
  unfold queuedDataCheck at h
  split at h
  · split at h
    · cases h
    · split at h
      · cases h; exact ⟨rfl, rfl, nofun⟩
      · split at h <;> cases h
        exact ⟨rfl, rfl, nofun⟩
  · cases h

/-- Every exit of `create_branch`: nothing is done, or every check passed and the first operation
    publishes the requested destination branch. -/
theorem createBranch_inv (cfg : Cascade.Cfg) (lits : Lits) (st : Repo) (name : Ref) (recognized : Bool)
    (from_ : Option Rev) :
    ((createBranch cfg lits st name recognized from_).ops = [] ∧
      (createBranch cfg lits st name recognized from_).resubmit = [] ∧
      (createBranch cfg lits st name recognized from_).outcome ≠ .success) ∨
    ∃ d c casc, name = .dest d ∧ st.heads.has name = false ∧
      (createArchiveTags lits d).find? (hasTag st.tags) = none ∧
      cascadeBuild cfg (destsOf st.heads) st.tags = .ok casc ∧
      queuedDataCheck st d (devBranches casc) = none ∧
      cascadeCheck cfg st.g (st.heads.set (.dest d) c) st.tags = .ok () ∧
      ((!st.useQueue || !d.isDev) = true →
        createBranch cfg lits st name recognized from_ = { outcome := .success, ops := [.ref (.push [(.dest d, c)])] }) ∧
      ((!st.useQueue || !d.isDev) = false →
        createBranch cfg lits st name recognized from_ =
          { outcome := (rebuildQueues cfg { st with heads := st.heads.set (.dest d) c }).outcome,
            ops := .ref (.push [(.dest d, c)]) :: (rebuildQueues cfg { st with heads := st.heads.set (.dest d) c }).ops,
            resubmit := (rebuildQueues cfg { st with heads := st.heads.set (.dest d) c }).resubmit }) := by
  -- the statement mentions the result five times: name it, and take the definition apart once
  generalize hR : createBranch cfg lits st name recognized from_ = R
  unfold createBranch at hR
  simp only [] at hR
  split at hR
  · subst hR; exact Or.inl ⟨rfl, rfl, nofun⟩
  next hex =>
  split at hR
  · subst hR; exact Or.inl ⟨rfl, rfl, nofun⟩
  · subst hR; exact Or.inl ⟨rfl, rfl, nofun⟩
  next d hcl =>
  split at hR
  · subst hR; exact Or.inl ⟨rfl, rfl, nofun⟩
  next htag =>
  split at hR
  · subst hR; exact Or.inl ⟨rfl, rfl, nofun⟩
  next casc hb =>
  split at hR
  · next r hbp => subst hR; exact Or.inl (branchingPoint_inl hbp)
  next src hbp =>
  split at hR
  · next r hq => subst hR; exact Or.inl (queuedDataCheck_some hq)
  next hq =>
  split at hR
  · subst hR; exact Or.inl ⟨rfl, rfl, nofun⟩
  next c =>
  split at hR
  · subst hR; exact Or.inl ⟨rfl, rfl, nofun⟩
  next hcc =>
  refine Or.inr ⟨d, c, casc, classOf_eq_dest hcl, by simpa using hex, htag, hb, hq, hcc, ?_, ?_⟩
  · intro hcond
    rw [← hR, if_pos hcond]
  · intro hcond
    rw [← hR, if_neg (by simp [hcond])]

/-- The nested queue rebuild of `create_branch` can still fail after the publication: when the destination
    branch of the first `q/*` branch (in `ls-remote` order) does not exist, `rebuild_queues` raises
    `CheckoutFailedException` — inside `create_branch` this happens AFTER the new branch was pushed. (Before commit
    3c3a048 this happened whenever the first queue branch was a hotfix or stabilization queue.) -/
theorem createBranch_nested_crash {cfg : Cascade.Cfg} (lits : Lits) (st : Repo) (d : Dest) (recognized : Bool)
    (from_ : Option Rev) (hpub : (createBranch cfg lits st (.dest d) recognized from_).ops ≠ [])
    (huq : st.useQueue = true) (hdev : d.isDev = true) {first : Ref} {d0 : Dest}
    (hfirst : (allQRefs st.heads).head? = some first) (hq : qDest first = some d0) (hne : d0 ≠ d)
    (hmiss : st.heads.has (.dest d0) = false) :
    (createBranch cfg lits st (.dest d) recognized from_).outcome = .raised .checkoutFailed ∧
    ∃ c, (createBranch cfg lits st (.dest d) recognized from_).ops = [.ref (.push [(.dest d, c)])] := by
  rcases createBranch_inv cfg lits st (.dest d) recognized from_ with h | ⟨d', c, casc, hn, _, _, _, _, hcc, _, h2⟩
  · exact absurd h.1 hpub
  · cases Ref.dest.inj hn
    have hc : (!st.useQueue || !d.isDev) = false := by rw [huq, hdev]; rfl
    obtain ⟨c1, hb⟩ := cascadeBuild_of_check hcc
    have hhas : (st.heads.set (.dest d) c).has (.dest d0) = false := by
      unfold RefMap.has at hmiss ⊢
      rwa [RefMap.get_set_ne _ _ (fun he => hne (Ref.dest.inj he))]
    rw [h2 hc, rebuildQueues_eq (st := { st with heads := st.heads.set (.dest d) c }) huq hb]
    simp only [allQRefs_set_dest, hfirst, moveAway, hq, hhas, Bool.not_false, if_true]
    exact ⟨rfl, c, rfl⟩

/-- Every exit of `delete_branch`. A success has passed the two refusals (live stabilization branch, queued pull
    requests) whatever the state of the archive tag; an archive tag that exists is on the tip (the resumed deletion:
    no tag operation), one that does not exist is pushed before the branch is removed. Every other exit has done
    nothing. -/
theorem deleteBranch_inv (cfg : Cascade.Cfg) (lits : Lits) (st : Repo) (name : Ref) (recognized : Bool) :
    ((deleteBranch cfg lits st name recognized).outcome = .success →
      ∃ d tip, name = .dest d ∧ st.heads.get (.dest d) = some tip ∧
        (d.isDev = true → stabAlive st.heads d = false) ∧
        (st.useQueue = true → hasVersionQueuedPrs (queuesOf st.g st.heads) d = false) ∧
        (hasTag st.tags (archiveTag lits d) = true → tagCommit st.tags (archiveTag lits d) = some tip) ∧
        (deleteBranch cfg lits st name recognized).ops =
          (if st.useQueue && st.heads.has (delQueueRef d) then [.ref (.delete (delQueueRef d))] else []) ++
            ((if hasTag st.tags (archiveTag lits d) then [] else [.pushTag (archiveTag lits d) tip]) ++
              [.ref (.delete (.dest d))])) ∧
    ((deleteBranch cfg lits st name recognized).outcome ≠ .success →
      (deleteBranch cfg lits st name recognized).ops = []) ∧
    (deleteBranch cfg lits st name recognized).resubmit = [] := by
  -- the statement mentions the result five times: name it, and take the definition apart once
  generalize hR : deleteBranch cfg lits st name recognized = R
  unfold deleteBranch at hR
  cases hcl : classOf name recognized with
  | unrecognized => rw [hcl] at hR; subst hR; exact ⟨nofun, fun _ => rfl, rfl⟩
  | other => rw [hcl] at hR; subst hR; exact ⟨nofun, fun _ => rfl, rfl⟩
  | dest d =>
  cases classOf_eq_dest hcl
  rw [hcl] at hR
  simp only [] at hR
  cases htip : st.heads.get (.dest d) with
  | none => rw [htip] at hR; subst hR; exact ⟨nofun, fun _ => rfl, rfl⟩
  | some tip =>
  rw [htip] at hR
  simp only [] at hR
  by_cases h1 : (hasTag st.tags (archiveTag lits d) && tagCommit st.tags (archiveTag lits d) != some tip) = true
  · rw [if_pos h1] at hR; subst hR; exact ⟨nofun, fun _ => rfl, rfl⟩
  rw [if_neg h1] at hR
  by_cases h2 : (d.isDev && stabAlive st.heads d) = true
  · rw [if_pos h2] at hR; subst hR; exact ⟨nofun, fun _ => rfl, rfl⟩
  rw [if_neg h2] at hR
  have h1' : hasTag st.tags (archiveTag lits d) = true → tagCommit st.tags (archiveTag lits d) = some tip := by
    intro ht; simpa [ht] using h1
  have h2' : d.isDev = true → stabAlive st.heads d = false := by
    intro hd; simpa [hd] using h2
  -- the queue part: it ends the job, or gives the deletion of the queue branch
  generalize hpre : (if st.useQueue = true then _ else _ : Result ⊕ List AOp) = pre at hR
  have hpre' : (∃ r, pre = .inl r ∧ r.ops = [] ∧ r.resubmit = [] ∧ r.outcome ≠ .success) ∨
      (pre = .inr (if st.useQueue && st.heads.has (delQueueRef d) then [.ref (.delete (delQueueRef d))] else []) ∧
        (st.useQueue = true → hasVersionQueuedPrs (queuesOf st.g st.heads) d = false)) := by
    subst hpre
    cases huq : st.useQueue with
    | false => exact Or.inr ⟨rfl, nofun⟩
    | true =>
      rw [if_pos rfl]
      cases cascadeBuild cfg (destsOf st.heads) st.tags with
      | error e => exact Or.inl ⟨_, rfl, rfl, rfl, nofun⟩
      | ok _ =>
        by_cases h3 : hasVersionQueuedPrs (queuesOf st.g st.heads) d = true
        · exact Or.inl ⟨fail .queuedData, by simp only [if_pos h3], rfl, rfl, nofun⟩
        · exact Or.inr ⟨by simp only [if_neg h3, Bool.true_and], fun _ => by simpa using h3⟩
  rcases hpre' with ⟨r, rfl, hr1, hr2, hr3⟩ | ⟨rfl, hq⟩
  · simp only [] at hR
    subst hR
    exact ⟨fun h => absurd h hr3, fun _ => hr1, hr2⟩
  · simp only [] at hR
    subst hR
    refine ⟨fun _ => ⟨d, tip, rfl, htip, h2', hq, h1', ?_⟩, fun h => ?_, ?_⟩
    · split <;> rfl
    · split at h <;> exact absurd rfl h
    · split <;> rfl

end BertE.Admin
