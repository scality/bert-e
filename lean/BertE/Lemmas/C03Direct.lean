import BertE.Lemmas.C03
/- The direct merge (queue skipped) is a chain of fast-forwards when every integration branch already contains
   its target and its predecessor: no new commit is created and every target ends on an existing tip. -/
namespace BertE.Flow
open BertE.Git

theorem Loc.merge_ff {l : Loc} (hl : l.OK) {r : Ref} {tip : Commit} {srcs : List Commit} {h : Commit}
    (hr : l.refs.get r = some tip) (hmem : h ∈ tip :: srcs) (hall : ∀ x ∈ tip :: srcs, l.g.le x h = true) :
    ∃ n, l.merge r srcs = some { l with refs := l.refs.set r n } ∧ n ∈ tip :: srcs ∧
      l.g.le h n = true ∧ l.g.le n h = true := by
  obtain ⟨n, ht⟩ := topHead_isSome hmem hall
  obtain ⟨hm', hall'⟩ := topHead_spec ht
  exact ⟨n, by simp only [Loc.merge, hr, ht], hm', hall' h hmem, hall n hm'⟩

/-- every remaining integration branch contains its target's tip and the previous integration tip -/
def ffReady (g : Graph) (refs : RefMap) (src : String) (prev : Commit) : List Dest → Prop
  | [] => True
  | d :: ds => ∃ t wc, refs.get (.dest d) = some t ∧ refs.get (.w d src) = some wc ∧
      g.le t wc = true ∧ g.le prev wc = true ∧ ffReady g refs src wc ds

theorem ffReady_of_same {g : Graph} {refs refs' : RefMap} {src : String} : ∀ (ds : List Dest) (p : Commit),
    (∀ d ∈ ds, refs'.get (.dest d) = refs.get (.dest d) ∧ refs'.get (.w d src) = refs.get (.w d src)) →
    ffReady g refs src p ds → ffReady g refs' src p ds
  | [], _, _, _ => trivial
  | d :: ds, _, h, ⟨t, wc, ht, hwc, h1, h2, h3⟩ =>
    ⟨t, wc, (h d List.mem_cons_self).1 ▸ ht, (h d List.mem_cons_self).2 ▸ hwc, h1, h2,
      ffReady_of_same ds wc (fun d' hd' => h d' (List.mem_cons_of_mem _ hd')) h3⟩

theorem ffReady_congr {g : Graph} {refs refs' : RefMap} {src : String}
    (hd : ∀ d, refs'.get (.dest d) = refs.get (.dest d)) (hw : ∀ d, refs'.get (.w d src) = refs.get (.w d src)) :
    ∀ (ds : List Dest) (p : Commit), ffReady g refs src p ds → ffReady g refs' src p ds :=
  fun ds p => ffReady_of_same ds p fun d _ => ⟨hd d, hw d⟩

/-- Under either strategy. With `no_octopus` this needs the integration branch to be merged FIRST
    (`consecutive_merge(dst, w, prev.dst)`): `t` fast-forwards to `wc`, then `prevD` is already contained. (Merged in
    the other order, `prevD` and `t` are incomparable in general and two merge commits appear:
    `C03_direct_consecutive_order_matters`.) -/
theorem Loc.mergeD_ff {l : Loc} (hl : l.OK) (n : Bool) {r : Ref} {t prevD wc : Commit}
    (hr : l.refs.get r = some t) (hwc : wc < l.g.size) (htw : l.g.le t wc = true) (hpw : l.g.le prevD wc = true) :
    ∃ l1 m, l.mergeD n r prevD wc = some l1 ∧ l1.OK ∧ l1.g = l.g ∧ (∀ x, x ≠ r → l1.refs.get x = l.refs.get x) ∧
      l1.refs.get r = some m ∧ m ∈ [t, prevD, wc] ∧ l.g.le wc m = true ∧ l.g.le m wc = true := by
  have hww : l.g.le wc wc = true := le_refl hl.wf hwc
  cases n with
  | false =>
    obtain ⟨m, hm, hmem, hwm, hmw⟩ := Loc.merge_ff hl hr (h := wc) (srcs := [prevD, wc]) (by simp)
      (by simp [htw, hpw, hww])
    exact ⟨_, m, by simpa [Loc.mergeD] using hm, hl.set r (le_size hl.wf hmw).1, rfl,
      fun x hx => RefMap.get_set_ne _ _ hx, RefMap.get_set_eq _ _ _, hmem, hwm, hmw⟩
  | true =>
    -- `t` fast-forwards to `wc` (the branch is then on `n1`), which already contains `prevD` (it stays, as `n2`)
    obtain ⟨n1, hm1, hn1mem, hwn1, hn1w⟩ := Loc.merge_ff hl hr (h := wc) (srcs := [wc]) (by simp) (by simp [htw, hww])
    have hn1lt : n1 < l.g.size := (le_size hl.wf hn1w).1
    have hl1 := hl.set r hn1lt
    obtain ⟨n2, hm2, hn2mem, h12, h21⟩ := Loc.merge_ff hl1 (RefMap.get_set_eq _ _ _) (h := n1) (srcs := [prevD])
      (by simp) (by simp [le_refl hl.wf hn1lt, le_trans hl.wf hpw hwn1])
    have hh : l.refs.has r = true := RefMap.has_of_get hr
    refine ⟨_, n2, by simp [Loc.mergeD, Loc.merge2, hh, Loc.seq2, Loc.merge1, hm1, hm2],
      hl1.set r (le_size hl.wf h21).1, rfl, fun x hx => ?_, RefMap.get_set_eq _ _ _, ?_,
      le_trans hl.wf hwn1 h12, le_trans hl.wf h21 hn1w⟩
    · exact (RefMap.get_set_ne _ _ hx).trans (RefMap.get_set_ne _ _ hx)
    · simp only [List.mem_cons, List.not_mem_nil, or_false] at hn1mem hn2mem ⊢
      rcases hn2mem with rfl | rfl
      · rcases hn1mem with rfl | rfl <;> simp
      · simp

theorem mergeRest_ff {pr : PrInfo} : ∀ (ds : List Dest) {l : Loc} {prevD pw : Commit}, l.OK → ds.Nodup →
    prevD < l.g.size → l.g.le prevD pw = true → ffReady l.g l.refs pr.src pw ds →
    ∃ l', mergeRest l pr prevD ds = some l' ∧ l'.g = l.g ∧
      (∀ x, (∀ d ∈ ds, x ≠ .dest d) → l'.refs.get x = l.refs.get x) ∧
      ∀ d ∈ ds, ∃ n, l'.refs.get (.dest d) = some n ∧
        (n = prevD ∨ ∃ d' ∈ ds, l.refs.get (.w d' pr.src) = some n ∨ l.refs.get (.dest d') = some n)
  | [], l, _, _, _, _, _, _, _ => ⟨l, rfl, rfl, fun _ _ => rfl, fun _ hd => nomatch hd⟩
  | d :: ds, l, prevD, pw, hl, hnd, hp, hpw, ⟨t, wc, ht, hwc, htw, hpww, hrest⟩ => by
    rw [List.nodup_cons] at hnd
    obtain ⟨l1, n, hm, hl1, hg1, hsame1, hn, hnmem, hwn, hnw⟩ :=
      Loc.mergeD_ff hl pr.noOct ht (hl.valid _ _ hwc) htw (le_trans hl.wf hpw hpww)
    -- the tips of the later targets and of their integration branches are those of `l`
    have hsame : ∀ e ∈ ds, l1.refs.get (.dest e) = l.refs.get (.dest e) ∧
        l1.refs.get (.w e pr.src) = l.refs.get (.w e pr.src) :=
      fun e he => ⟨hsame1 _ fun h => hnd.1 (by cases h; exact he), hsame1 _ fun h => nomatch h⟩
    obtain ⟨l', hm', hg', hsame', hres'⟩ := mergeRest_ff ds (l := l1) (prevD := n) (pw := wc) hl1 hnd.2
      (hl1.valid _ _ hn) (hg1 ▸ hnw) (hg1 ▸ ffReady_of_same ds wc hsame hrest)
    -- where `d` itself ends: on its old tip, on `prevD`, or on its integration branch
    have hN : n = prevD ∨ ∃ e ∈ d :: ds, l.refs.get (.w e pr.src) = some n ∨ l.refs.get (.dest e) = some n := by
      simp only [List.mem_cons, List.not_mem_nil, or_false] at hnmem
      rcases hnmem with rfl | rfl | rfl
      · exact Or.inr ⟨d, List.mem_cons_self, Or.inr ht⟩
      · exact Or.inl rfl
      · exact Or.inr ⟨d, List.mem_cons_self, Or.inl hwc⟩
    refine ⟨l', by simp only [mergeRest, hwc, hm, hn, hm'], hg'.trans hg1, fun x hx => ?_, fun e he => ?_⟩
    · rw [hsame' x (fun e he => hx e (List.mem_cons_of_mem _ he))]
      exact hsame1 x (hx d List.mem_cons_self)
    · rcases List.mem_cons.mp he with rfl | he
      · exact ⟨n, (hsame' _ fun e' he' h => hnd.1 (by cases h; exact he')).trans hn, hN⟩
      · obtain ⟨n', hn', rfl | ⟨e', he', h⟩⟩ := hres' e he
        · exact ⟨_, hn', hN⟩
        · rw [(hsame e' he').1, (hsame e' he').2] at h
          exact ⟨n', hn', Or.inr ⟨e', List.mem_cons_of_mem _ he', h⟩⟩

theorem directMerge_ff {s : Sys} {l4 : Loc} (hl : l4.OK) (pr : PrInfo) {sc dc : Commit}
    (d1 : Dest) (ds : List Dest) (hnd : (d1 :: ds).Nodup) (pre : List Op)
    (hdc : l4.refs.get (.dest d1) = some dc) (hsc : sc < l4.g.size) (hle : l4.g.le dc sc = true)
    (hready : ffReady l4.g l4.refs pr.src sc ds) :
    (directMerge s l4 pr sc (d1 :: ds) pre).g = l4.g ∧
    (directMerge s l4 pr sc (d1 :: ds) pre).outcome = "SuccessMessage" ∧
    ∃ loc, (directMerge s l4 pr sc (d1 :: ds) pre).ops.getLast? = some (.pushAll loc true) ∧
      ∀ d ∈ d1 :: ds, ∃ n, loc.get (.dest d) = some n ∧
        (n = sc ∨ ∃ e ∈ d1 :: ds, l4.refs.get (.w e pr.src) = some n ∨ l4.refs.get (.dest e) = some n) := by
  rw [List.nodup_cons] at hnd
  unfold directMerge
  generalize hqs : (if s.useQueue then qOnly l4.refs else []) = qs
  simp only
  have hq : ∀ x, (∀ d, x ≠ .q d) → (delRefs l4.refs qs).get x = l4.refs.get x :=
    fun x hx => get_delRefs_of_not_q (hqs ▸ directMerge_qs s l4) hx
  have hl5 := hl.delRefs qs
  -- the first target fast-forwards to the source (`n1` is `dc` or `sc`)
  obtain ⟨n1, hm1, hn1mem, hsn, hns⟩ := Loc.merge_ff hl5 (r := .dest d1) (tip := dc) (h := sc) (srcs := [sc])
    ((hq (.dest d1) fun _ he => nomatch he).trans hdc) (by simp) (by simp [hle, le_refl hl.wf hsc])
  have hn1lt : n1 < l4.g.size := (le_size hl.wf hns).1
  have hsame : ∀ d ∈ ds, ((delRefs l4.refs qs).set (.dest d1) n1).get (.dest d) = l4.refs.get (.dest d) ∧
      ((delRefs l4.refs qs).set (.dest d1) n1).get (.w d pr.src) = l4.refs.get (.w d pr.src) := by
    intro d hd
    have h1 : Ref.dest d ≠ .dest d1 := fun he => hnd.1 (by cases he; exact hd)
    have h2 : Ref.w d pr.src ≠ .dest d1 := fun he => nomatch he
    rw [RefMap.get_set_ne _ _ h1, RefMap.get_set_ne _ _ h2, hq (.dest d) (fun _ he => nomatch he),
      hq (.w d pr.src) (fun _ he => nomatch he)]
    exact ⟨rfl, rfl⟩
  obtain ⟨l7, hm7, hg7, hsame7, hres7⟩ := mergeRest_ff ds (pr := pr) (prevD := n1) (pw := sc)
    (hl5.set (.dest d1) hn1lt) hnd.2 hn1lt hns (ffReady_of_same ds sc hsame hready)
  have hN1 : n1 = sc ∨ ∃ e ∈ d1 :: ds, l4.refs.get (.w e pr.src) = some n1 ∨ l4.refs.get (.dest e) = some n1 := by
    simp only [List.mem_cons, List.not_mem_nil, or_false] at hn1mem
    rcases hn1mem with rfl | rfl
    · exact Or.inr ⟨d1, List.mem_cons_self, Or.inr hdc⟩
    · exact Or.inl rfl
  rw [hm1]
  simp only [RefMap.get_set_eq, hm7]
  refine ⟨hg7, trivial, delRefs l7.refs (ds.map (fun d => Ref.w d pr.src)), by simp, fun d hd => ?_⟩
  have hloc : (delRefs l7.refs (ds.map (fun d => Ref.w d pr.src))).get (.dest d) = l7.refs.get (.dest d) := by
    rw [get_delRefs, if_neg]
    simp
  rw [hloc]
  rcases List.mem_cons.mp hd with rfl | hd'
  · exact ⟨n1, (hsame7 _ fun e he h => hnd.1 (by cases h; exact he)).trans (RefMap.get_set_eq _ _ _), hN1⟩
  · obtain ⟨n, hn, rfl | ⟨e, he, h⟩⟩ := hres7 d hd'
    · exact ⟨_, hn, hN1⟩
    · simp only at h
      rw [(hsame e he).1, (hsame e he).2] at h
      exact ⟨n, hn, Or.inr ⟨e, List.mem_cons_of_mem _ he, h⟩⟩

end BertE.Flow
