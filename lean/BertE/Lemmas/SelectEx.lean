import BertE.Lemmas.Select
/- A concrete reachable state with two queued pull requests (on development/4.3 and development/5.1), used by the
   non-vacuity examples of the theorems on the computed selection. -/
namespace BertE.Select
open BertE.Git BertE.Flow

def noBuilds : Builds := fun _ => .notStarted

/-- seed commit, development/4.3 and development/5.1 on it, two topic branches, both pull requests queued
    (the first on development/4.3, hence on both branches, the second on development/5.1) -/
def exHistory : List EventB :=
  [.other (.extSet "seed" [] false),
   .other (.createBranch (.dev 4 (some 3)) 0),
   .other (.createBranch (.dev 5 (some 1)) 0),
   .other (.extSet "feature/a" [0] false),
   .pr noBuilds ⟨1, "feature/a", .dev 4 (some 3), false⟩ .final [],
   .other (.extSet "feature/b" [0] false),
   .pr noBuilds ⟨2, "feature/b", .dev 5 (some 1), false⟩ .final []]

def exEmpty : Sys := ⟨Graph.empty, [], [], [], [], true, false⟩

def exSys : Sys := runB exEmpty exHistory

theorem inclOn_const {g : Graph} {m : RefMap} {c0 : Commit} (hle : g.le c0 c0 = true)
    (hall : m.all (fun rc => rc.2 == c0) = true) : InclOn g m := by
  intro a b _ ca cb hca hcb
  have h1 := List.all_eq_true.mp hall _ (RefMap.get_mem hca)
  have h2 := List.all_eq_true.mp hall _ (RefMap.get_mem hcb)
  simp only [beq_iff_eq] at h1 h2
  subst h1; subst h2
  exact hle

theorem exHistory_adm : AdmAllB exEmpty exHistory := by
  refine ⟨?_, ⟨?_, ?_, ?_⟩, ⟨?_, ?_, ?_⟩, ?_, ⟨?_, ?_⟩, ?_, ⟨?_, ?_⟩, trivial⟩
  · intro p hp; cases hp
  · decide +kernel
  · decide +kernel
  · exact inclOn_const (c0 := 0) (by decide +kernel) (by decide +kernel)
  · decide +kernel
  · decide +kernel
  · exact inclOn_const (c0 := 0) (by decide +kernel) (by decide +kernel)
  · show ∀ p ∈ ([0] : List Nat), p < _
    decide +kernel
  · decide +kernel
  · decide +kernel
  · show ∀ p ∈ ([0] : List Nat), p < _
    decide +kernel
  · decide +kernel
  · decide +kernel

theorem exSys_inv : Inv exSys := by
  have h0 : Inv exEmpty := by
    refine ⟨⟨empty_WF, ?_, List.Pairwise.nil, ?_⟩, ?_, QInv.of_empty rfl (fun _ => rfl)⟩
    · intro r c hc; cases hc
    · intro M m c hc; cases hc
    · intro a b _ ca cb hca; cases hca
  exact runB_inv exHistory h0 exHistory_adm

theorem exSys_validated : Validated exSys := by decide +kernel

/-- the first pull request's queue commits (commit 1) are green, the second one's (commit 3) FAILED -/
def exBuilds : Builds := fun c => if c = 1 then .successful else .failed

theorem exSys_queue : exSys.queue.map (·.pr) = [1, 2] ∧
    queuesOfSys exSys = [([4, 4], [1]), ([5, 2], [2, 1])] ∧ pathsOfSys exSys = [[[4, 4], [5, 2]]] := by decide +kernel

theorem exSys_select : selectOf exSys exBuilds false = [1] ∧ selectOf exSys exBuilds true = [1, 2] ∧
    selectOf exSys noBuilds false = [] := by
  rw [selectOf_false_eq exSys_inv exSys_validated, selectOf_true_eq exSys_inv exSys_validated,
    selectOf_false_eq exSys_inv exSys_validated]
  decide +kernel

end BertE.Select
