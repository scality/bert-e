import BertE.Lemmas.Defs
/- Lemmas about the commit graph: `le` is a preorder on existing commits, `addCommit` preserves
   well-formedness and old ancestry, `merge` post-conditions. -/
namespace BertE.Git
open Graph

theorem ancsOf_lt {g : Graph} {c : Commit} (h : c < g.size) : g.ancsOf c = g.ancs[c] := by
  unfold ancsOf size at *
  simp [List.getD, h]

theorem ancsOf_ge {g : Graph} {c : Commit} (h : g.size ≤ c) : g.ancsOf c = [] := by
  unfold ancsOf size at *
  simp [List.getD, h]

theorem le_iff {g : Graph} {a b : Commit} : g.le a b = true ↔ a ∈ g.ancsOf b := by
  unfold le; simp

theorem le_refl {g : Graph} (hg : g.WF) {c : Commit} (hc : c < g.size) : g.le c c = true :=
  le_iff.mpr (hg c hc).1

theorem le_size {g : Graph} (hg : g.WF) {a b : Commit} (h : g.le a b = true) : a < g.size ∧ b < g.size := by
  rw [le_iff] at h
  have hb : b < g.size := Nat.lt_of_not_le fun hn => by
    rw [ancsOf_ge hn] at h; cases h
  exact ⟨((hg b hb).2 a h).1, hb⟩

theorem le_trans {g : Graph} (hg : g.WF) {a b c : Commit} (hab : g.le a b = true) (hbc : g.le b c = true) :
    g.le a c = true := by
  have hc := (le_size hg hbc).2
  rw [le_iff] at *
  exact ((hg c hc).2 b hbc).2 a hab

theorem empty_WF : Graph.empty.WF := by
  intro c hc; simp [Graph.empty, size] at hc

theorem mem_parentsAncs {g : Graph} {ps : List Commit} {a : Commit} :
    a ∈ g.parentsAncs ps ↔ ∃ p ∈ ps, a ∈ g.ancsOf p := by
  induction ps with
  | nil => simp [parentsAncs]
  | cons p ps ih => simp [parentsAncs, ih]

section addCommit
variable {g : Graph} {ps : List Commit}

theorem addCommit_size : (g.addCommit ps).1.size = g.size + 1 := by
  simp [addCommit, size]

theorem addCommit_new : (g.addCommit ps).2 = g.size := rfl

theorem lt_addCommit_size {a : Commit} (h : a < g.size) : a < (g.addCommit ps).1.size := by
  rw [addCommit_size]; exact Nat.lt_succ_of_lt h

theorem new_lt_addCommit_size : g.size < (g.addCommit ps).1.size := by
  rw [addCommit_size]; exact Nat.lt_succ_self _

theorem addCommit_ancsOf_old {c : Commit} (h : c < g.size) :
    (g.addCommit ps).1.ancsOf c = g.ancsOf c := by
  unfold addCommit ancsOf size at *
  simp [List.getD, List.getElem?_append_left h]

theorem addCommit_ancsOf_new :
    (g.addCommit ps).1.ancsOf g.size = g.size :: g.parentsAncs ps := by
  unfold addCommit ancsOf size
  simp [List.getD]

theorem addCommit_le_old {a c : Commit} (h : c < g.size) :
    (g.addCommit ps).1.le a c = g.le a c := by
  unfold le; rw [addCommit_ancsOf_old h]

theorem addCommit_le_parent (hg : g.WF) {p : Commit} (hp : p ∈ ps) (hps : p < g.size) :
    (g.addCommit ps).1.le p (g.addCommit ps).2 = true := by
  rw [addCommit_new, le_iff, addCommit_ancsOf_new]
  exact List.mem_cons_of_mem _ (mem_parentsAncs.mpr ⟨p, hp, (hg p hps).1⟩)

theorem addCommit_WF (hg : g.WF) (hps : ∀ p ∈ ps, p < g.size) : (g.addCommit ps).1.WF := by
  -- an ancestor of an old commit is old: it keeps its ancestor list, which lies inside the old commit's
  have old : ∀ {c a}, c < g.size → a ∈ g.ancsOf c →
      a < (g.addCommit ps).1.size ∧ ∀ b ∈ (g.addCommit ps).1.ancsOf a, b ∈ g.ancsOf c := by
    intro c a hc ha
    obtain ⟨hlt, hcl⟩ := (hg c hc).2 a ha
    exact ⟨lt_addCommit_size hlt, fun b hb => hcl b (addCommit_ancsOf_old hlt ▸ hb)⟩
  intro c hc
  rw [addCommit_size] at hc
  rcases Nat.lt_succ_iff_lt_or_eq.mp hc with hlt | rfl
  · rw [addCommit_ancsOf_old hlt]
    exact ⟨(hg c hlt).1, fun a ha => old hlt ha⟩
  · rw [addCommit_ancsOf_new]
    refine ⟨List.mem_cons_self, fun a ha => ?_⟩
    rcases List.mem_cons.mp ha with rfl | ha
    · exact ⟨new_lt_addCommit_size, fun b hb => addCommit_ancsOf_new ▸ hb⟩
    · obtain ⟨p, hp, hap⟩ := mem_parentsAncs.mp ha
      obtain ⟨hlt, hcl⟩ := old (hps p hp) hap
      exact ⟨hlt, fun b hb => List.mem_cons_of_mem _ (mem_parentsAncs.mpr ⟨p, hp, hcl b hb⟩)⟩

end addCommit

theorem Extends.refl (g : Graph) : Extends g g := ⟨Nat.le_refl _, fun _ _ _ => rfl⟩

theorem Extends.trans {g g' g'' : Graph} (h1 : Extends g g') (h2 : Extends g' g'') : Extends g g'' :=
  ⟨Nat.le_trans h1.1 h2.1, fun a c hc => by
    rw [h2.2 a c (Nat.lt_of_lt_of_le hc h1.1), h1.2 a c hc]⟩

theorem addCommit_extends (g : Graph) (ps : List Commit) : Extends g (g.addCommit ps).1 :=
  ⟨by rw [addCommit_size]; omega, fun _ _ hc => addCommit_le_old hc⟩

theorem Extends.lt {g g' : Graph} (h : Extends g g') {c : Commit} (hc : c < g.size) : c < g'.size :=
  Nat.lt_of_lt_of_le hc h.1

theorem Extends.le {g g' : Graph} (h : Extends g g') {a c : Commit} (hc : c < g.size)
    (hle : g.le a c = true) : g'.le a c = true := by rw [h.2 a c hc]; exact hle

theorem topHead_spec {g : Graph} {hs : List Commit} {h : Commit} (ht : topHead g hs = some h) :
    h ∈ hs ∧ ∀ x ∈ hs, g.le x h = true :=
  ⟨List.mem_of_find?_eq_some ht, by simpa [List.all_eq_true] using List.find?_some ht⟩

theorem topHead_isSome {g : Graph} {hs : List Commit} {h : Commit} (hmem : h ∈ hs)
    (hall : ∀ x ∈ hs, g.le x h = true) : ∃ h', topHead g hs = some h' := by
  apply Option.isSome_iff_exists.mp
  rw [topHead, List.find?_isSome]
  exact ⟨h, hmem, List.all_eq_true.mpr hall⟩

theorem merge_spec {g : Graph} (hg : g.WF) {tip : Commit} {srcs : List Commit} {ok : Bool}
    (htip : tip < g.size) (hsrcs : ∀ s ∈ srcs, s < g.size)
    {g' : Graph} {r : Commit} (hm : merge g tip srcs ok = (g', some r)) :
    g'.WF ∧ Extends g g' ∧ r < g'.size ∧ g'.le tip r = true ∧ ∀ s ∈ srcs, g'.le s r = true := by
  have hps : ∀ p ∈ tip :: srcs, p < g.size := List.forall_mem_cons.mpr ⟨htip, hsrcs⟩
  unfold merge at hm
  split at hm
  · next h ht =>
    cases hm
    obtain ⟨hmem, hall⟩ := topHead_spec ht
    exact ⟨hg, Extends.refl g, hps _ hmem, hall tip List.mem_cons_self,
      fun s hs => hall s (List.mem_cons_of_mem _ hs)⟩
  · split at hm
    · cases hm
      exact ⟨addCommit_WF hg hps, addCommit_extends g _, new_lt_addCommit_size,
        addCommit_le_parent hg List.mem_cons_self htip,
        fun s hs => addCommit_le_parent hg (List.mem_cons_of_mem _ hs) (hsrcs s hs)⟩
    · cases hm

theorem merge_conflict {g : Graph} {tip : Commit} {srcs : List Commit} {ok : Bool} {g' : Graph}
    (hm : merge g tip srcs ok = (g', none)) : g' = g := by
  unfold merge at hm
  split at hm
  · cases hm
  · split at hm <;> cases hm
    rfl

/-- no new commit (fast-forward or up-to-date): this is what makes a direct merge land on the built commit -/
theorem merge_ff {g : Graph} {tip : Commit} {srcs : List Commit} {ok : Bool} {h : Commit}
    (hmem : h ∈ tip :: srcs) (hall : ∀ x ∈ tip :: srcs, g.le x h = true) :
    ∃ h', merge g tip srcs ok = (g, some h') ∧ g.le h h' = true ∧ g.le h' h = true := by
  obtain ⟨h', ht⟩ := topHead_isSome hmem hall
  obtain ⟨hm', hall'⟩ := topHead_spec ht
  exact ⟨h', by rw [merge, ht], hall' h hmem, hall h' hm'⟩

end BertE.Git
