import BertE.Lemmas.PlanExt
/- Lemmas for the convergence clause of C10 over the ref-level model (`Model/Flow.lean`):
   what the remote looks like after the operations of a job, and that a second evaluation finds nothing to do. -/
namespace BertE.Flow
open BertE.Git

theorem filter_has_delRefs (remote : RefMap) (cands : List Ref) :
    cands.filter (fun r => (delRefs remote (cands.filter (fun r => remote.has r))).has r) = [] := by
  rw [List.filter_eq_nil_iff]
  intro r hr
  simp only [RefMap.has, get_delRefs, List.mem_filter, hr, true_and]
  cases remote.get r <;> simp

theorem allQRefs_delRefs (remote : RefMap) : allQRefs (delRefs remote (allQRefs remote)) = [] := by
  unfold allQRefs
  rw [List.map_eq_nil_iff, List.filter_eq_nil_iff]
  intro rc hrc hq
  obtain ⟨hm, hn⟩ := mem_delRefs_iff.mp hrc
  apply hn
  simp only [List.mem_map, List.mem_filter]
  exact ⟨rc, ⟨hm, hq⟩, rfl⟩

theorem targets_congr {s s' : Sys} (h : s'.devs = s.devs) (d : Dest) : s'.targets d = s.targets d := by
  unfold Sys.targets; rw [h]

/-- the integration branches of a pull request that exist on the remote -/
def wsOf (s : Sys) (pr : PrInfo) : List Ref :=
  ((s.targets pr.dst).map (fun d => Ref.w d pr.src)).filter (fun r => s.remote.has r)

theorem cleanup_remote (s : Sys) (rs : List Ref) (c : Bool) (hc : c = true → rs = []) (o o' : String)
    (q : List QEntry) (p : Plan)
    (hp : p = if c then ⟨s.g, [], o, q⟩ else ⟨s.g, [.pushAll (delRefs s.remote rs) true], o', q⟩) :
    applyOps p.g noRej s.remote p.ops = delRefs s.remote rs := by
  rw [hp]
  split
  · next h => rw [hc h]; rfl
  · exact applyOp_pushAll_delRefs_noRej _ _ _

theorem reset_remote (s : Sys) (pr : PrInfo) :
    applyOps (planReset s pr).g noRej s.remote (planReset s pr).ops = delRefs s.remote (wsOf s pr) :=
  cleanup_remote s _ _ List.isEmpty_iff.mp _ _ _ _ rfl

theorem declined_remote (s : Sys) (pr : PrInfo) :
    applyOps (planDeclined s pr false).g noRej s.remote (planDeclined s pr false).ops = delRefs s.remote (wsOf s pr) :=
  cleanup_remote s _ _ (fun h => List.isEmpty_iff.mp ((Bool.and_true _).symm.trans h)) _ _ _ _ rfl

theorem dropQueues_remote (s : Sys) :
    applyOps (planDropQueues s).g noRej s.remote (planDropQueues s).ops = delRefs s.remote (allQRefs s.remote) :=
  cleanup_remote s _ _ List.isEmpty_iff.mp _ _ _ _ rfl

theorem wsOf_after {s s' : Sys} (pr : PrInfo) (hd : s'.devs = s.devs) (hr : s'.remote = delRefs s.remote (wsOf s pr)) :
    wsOf s' pr = [] := by
  unfold wsOf
  rw [targets_congr hd, hr]
  exact filter_has_delRefs _ _

theorem planReset_nil {s : Sys} {pr : PrInfo} (h : wsOf s pr = []) : (planReset s pr).ops = [] := by
  show (if (wsOf s pr).isEmpty then (_ : Plan) else _).ops = []
  rw [h]
  rfl

theorem planDeclined_nil {s : Sys} {pr : PrInfo} (h : wsOf s pr = []) : (planDeclined s pr false).ops = [] := by
  show (if (wsOf s pr).isEmpty && !false then (_ : Plan) else _).ops = []
  rw [h]
  rfl

theorem planDropQueues_nil {s : Sys} (h : allQRefs s.remote = []) : (planDropQueues s).ops = [] := by
  show (if (allQRefs s.remote).isEmpty then (_ : Plan) else _).ops = []
  rw [h]
  rfl

theorem push_same (g : Graph) (rej : Ref → Bool) (remote : RefMap) (ups : List (Ref × Commit))
    (h : ∀ rc ∈ ups, remote.get rc.1 = some rc.2) (x : Ref) :
    (applyOp g rej remote (.push ups)).get x = remote.get x := by
  rcases applyOp_push_cases g rej ups remote x with h1 | ⟨c, hc, h1⟩
  · exact h1
  · exact h1.trans (h (x, c) hc).symm

/-- the shape of `pushWOps` and `conflictPush` -/
theorem pushIf_same (g : Graph) (remote refs : RefMap) (c : Bool) (X : List Ref)
    (h : ∀ x, refs.get x = remote.get x) :
    ∀ x, (applyOps g noRej remote (if c then [] else [Op.push (tipsOf refs X)])).get x = remote.get x := by
  split
  · exact fun _ => rfl
  · exact push_same g noRej remote _ (fun rc hrc => (h rc.1).symm.trans (mem_tipsOf.mp hrc).2)

theorem push_tips (g : Graph) (refs : RefMap) : ∀ (X : List Ref) (remote : RefMap),
    (∀ r ∈ X, ∀ c, refs.get r = some c → g.le c c = true ∧ accepts g remote r c = true) →
    ∀ x, (applyOp g noRej remote (.push (tipsOf refs X))).get x =
      if x ∈ X ∧ refs.get x ≠ none then refs.get x else remote.get x
  | [], _, _, _ => by simp [tipsOf, applyOp]
  | r :: X, remote, h, x => by
    have hX : ∀ r' ∈ X, ∀ c, refs.get r' = some c → g.le c c = true ∧ accepts g remote r' c = true :=
      fun r' hr' => h r' (List.mem_cons_of_mem _ hr')
    cases hr : refs.get r with
    | none =>
      have ht : tipsOf refs (r :: X) = tipsOf refs X := by simp [tipsOf, hr]
      rw [ht, push_tips g refs X remote hX x]
      by_cases hx : x = r
      · subst hx; simp [hr]
      · simp [hx]
    | some c =>
      have ht : tipsOf refs (r :: X) = (r, c) :: tipsOf refs X := by simp [tipsOf, hr]
      obtain ⟨hcc, hacc⟩ := h r List.mem_cons_self c hr
      -- the tip of `r` is accepted; for the rest of the push the remote accepts what it accepted before
      have hstep : applyOp g noRej remote (.push ((r, c) :: tipsOf refs X)) =
          applyOp g noRej (remote.set r c) (.push (tipsOf refs X)) := by
        rw [applyOp_push_cons, if_pos (by rw [hacc]; rfl)]
      have hX' : ∀ r' ∈ X, ∀ c', refs.get r' = some c' →
          g.le c' c' = true ∧ accepts g (remote.set r c) r' c' = true := by
        intro r' hr' c' hc'
        refine ⟨(hX r' hr' c' hc').1, ?_⟩
        by_cases he : r' = r
        · cases he
          cases hr.symm.trans hc'
          rw [accepts_some (RefMap.get_set_eq _ _ _)]
          exact hcc
        · rw [accepts, RefMap.get_set_ne _ _ he]
          exact (hX r' hr' c' hc').2
      rw [ht, hstep, push_tips g refs X _ hX' x, RefMap.get_set]
      by_cases hx : x = r
      · subst hx; simp [hr]
      · simp [hx]

/-- the chain of integration branches of `ds` is merged: every branch contains its destination branch and its
    predecessor (`prev` for the first); the reading stops where `update_integration_branches` stops -/
def Merged (g : Graph) (refs : RefMap) (src : String) : Commit → List Dest → Prop
  | _, [] => True
  | prev, d :: ds =>
    match refs.get (.dest d), refs.get (.w d src) with
    | some t, some c => g.le c c = true ∧ g.le t c = true ∧ g.le prev c = true ∧ Merged g refs src c ds
    | _, _ => True

theorem Merged.congr {g : Graph} {refs refs' : RefMap} {src : String} (h : ∀ x, refs'.get x = refs.get x) :
    ∀ (ds : List Dest) (prev : Commit), Merged g refs src prev ds → Merged g refs' src prev ds
  | [], _, _ => trivial
  | d :: ds, prev, hm => by
    simp only [Merged] at hm ⊢
    rw [h, h]
    cases hd : refs.get (.dest d) with
    | none => trivial
    | some t =>
      cases hw : refs.get (.w d src) with
      | none => trivial
      | some c =>
        rw [hd, hw] at hm
        exact ⟨hm.1, hm.2.1, hm.2.2.1, Merged.congr h ds c hm.2.2.2⟩

theorem topHead_head {g : Graph} {c : Commit} {rest : List Commit} (hc : g.le c c = true)
    (h : ∀ x ∈ rest, g.le x c = true) : topHead g (c :: rest) = some c := by
  exact List.find?_cons_of_pos (p := fun h => (c :: rest).all fun x => g.le x h)
    (List.all_eq_true.mpr (List.forall_mem_cons.mpr ⟨hc, h⟩))

/-- a merge into a branch that already contains every source finds "Already up to date" -/
theorem Loc.merge_uptodate {l : Loc} {r : Ref} {c : Commit} (hw : l.refs.get r = some c) (hcc : l.g.le c c = true)
    {srcs : List Commit} (h : ∀ x ∈ srcs, l.g.le x c = true) :
    l.merge r srcs = some { l with refs := l.refs.set r c } := by
  have htop := topHead_head hcc h
  simp [Loc.merge, hw, htop]

def Loc.Same (l l' : Loc) : Prop := l'.g = l.g ∧ l'.orc = l.orc ∧ ∀ x, l'.refs.get x = l.refs.get x

theorem Loc.Same.trans {a b c : Loc} (h1 : Loc.Same a b) (h2 : Loc.Same b c) : Loc.Same a c :=
  ⟨h2.1.trans h1.1, h2.2.1.trans h1.2.1, fun x => (h2.2.2 x).trans (h1.2.2 x)⟩

theorem Loc.same_set {l : Loc} {r : Ref} {c : Commit} (hw : l.refs.get r = some c) :
    Loc.Same l { l with refs := l.refs.set r c } := by
  refine ⟨rfl, rfl, fun y => ?_⟩
  show (l.refs.set r c).get y = l.refs.get y
  rw [RefMap.get_set]
  split
  · next hy => rw [hy, hw]
  · rfl

theorem Loc.merge1_uptodate {l : Loc} {r : Ref} {c : Commit} (hw : l.refs.get r = some c) (hcc : l.g.le c c = true)
    {x : Commit} (h : l.g.le x c = true) : (l.merge1 r x).2 = true ∧ Loc.Same l (l.merge1 r x).1 := by
  unfold Loc.merge1
  rw [Loc.merge_uptodate hw hcc (List.forall_mem_singleton.mpr h)]
  exact ⟨rfl, Loc.same_set hw⟩

theorem Loc.seq2_uptodate {l : Loc} {r : Ref} {c : Commit} (hw : l.refs.get r = some c) (hcc : l.g.le c c = true)
    {x y : Commit} (hx : l.g.le x c = true) (hy : l.g.le y c = true) :
    (l.seq2 r x y).2 = true ∧ Loc.Same l (l.seq2 r x y).1 := by
  obtain ⟨h1, h1s⟩ := Loc.merge1_uptodate hw hcc hx
  unfold Loc.seq2
  simp only [h1, if_true]
  obtain ⟨h2, h2s⟩ := Loc.merge1_uptodate (l := (l.merge1 r x).1) (r := r) (c := c) (x := y)
    (by rw [h1s.2.2]; exact hw) (by rw [h1s.1]; exact hcc) (by rw [h1s.1]; exact hy)
  exact ⟨h2, h1s.trans h2s⟩

/-- git answers "Already up to date" to every single merge of either strategy -/
theorem Loc.mergeN_uptodate {l : Loc} {r : Ref} {c : Commit} (hw : l.refs.get r = some c) (hcc : l.g.le c c = true)
    (n : Bool) {a b : Commit} (ha : l.g.le a c = true) (hb : l.g.le b c = true) :
    ∃ l', l.mergeN n r a b = some l' ∧ Loc.Same l l' := by
  unfold Loc.mergeN
  cases n with
  | false =>
    exact ⟨_, Loc.merge_uptodate hw hcc (List.forall_mem_cons.mpr ⟨ha, List.forall_mem_singleton.mpr hb⟩),
      Loc.same_set hw⟩
  | true =>
    obtain ⟨h1, h1s⟩ := Loc.seq2_uptodate hw hcc ha hb
    have hh : l.refs.has r = true := (RefMap.has_iff _ _).mpr ⟨c, hw⟩
    refine ⟨(l.seq2 r a b).1, ?_, h1s⟩
    simp [Loc.merge2, hh, h1]

theorem updateW_merged (pr : PrInfo) : ∀ (ds : List Dest) (l : Loc) (prev : Commit) (done : List Ref),
    Merged l.g l.refs pr.src prev ds →
    (updateW l pr prev ds done).1.g = l.g ∧ ∀ x, (updateW l pr prev ds done).1.refs.get x = l.refs.get x
  | [], _, _, _, _ => ⟨rfl, fun _ => rfl⟩
  | d :: ds, l, prev, done, hm => by
    simp only [updateW]
    simp only [Merged] at hm
    cases hd : l.refs.get (.dest d) with
    | none => exact ⟨rfl, fun _ => rfl⟩
    | some t =>
      simp only
      cases hw : l.refs.get (.w d pr.src) with
      | none =>
        have : l.mergeN pr.noOct (.w d pr.src) t prev = none := by
          have hh : l.refs.has (.w d pr.src) = false := by simp [RefMap.has, hw]
          cases pr.noOct <;> simp [Loc.mergeN, Loc.merge2, Loc.merge, hw, hh]
        rw [this]
        exact ⟨rfl, fun _ => rfl⟩
      | some c =>
        rw [hd, hw] at hm
        obtain ⟨hcc, htc, hpc, hrest⟩ := hm
        obtain ⟨l', hmerge, hg, _, hsame⟩ := Loc.mergeN_uptodate hw hcc pr.noOct htc hpc
        rw [hmerge]
        simp only
        rw [hsame, hw]
        simp only
        have ih := updateW_merged pr ds l' c (done ++ [.w d pr.src])
          (by rw [hg]; exact Merged.congr hsame ds c hrest)
        exact ⟨ih.1.trans hg, fun x => (ih.2 x).trans (hsame x)⟩

/-- git's content merges all succeed: the oracle list is empty -/
theorem merge_succeeds {l : Loc} (horc : l.orc = []) {r : Ref} {tip : Commit} (hr : l.refs.get r = some tip)
    (srcs : List Commit) : ∃ l', l.merge r srcs = some l' ∧ l'.orc = [] := by
  unfold Loc.merge
  rw [hr]
  simp only
  cases ht : topHead l.g (tip :: srcs) with
  | some h => exact ⟨_, rfl, horc⟩
  | none =>
    have hask : l.ask = (true, l) := by simp [Loc.ask, horc]
    simp only [hask, BertE.Git.merge, ht]
    exact ⟨_, rfl, horc⟩

theorem Loc.merge1_succeeds {l : Loc} (horc : l.orc = []) {r : Ref} (hr : l.refs.has r = true) (x : Commit) :
    (l.merge1 r x).2 = true ∧ (l.merge1 r x).1.orc = [] := by
  obtain ⟨tip, htip⟩ := (RefMap.has_iff _ _).mp hr
  obtain ⟨l', hm, ho⟩ := merge_succeeds horc htip [x]
  unfold Loc.merge1
  rw [hm]
  exact ⟨rfl, ho⟩

theorem Loc.seq2_succeeds {l : Loc} (horc : l.orc = []) {r : Ref} (hr : l.refs.has r = true) (x y : Commit) :
    (l.seq2 r x y).2 = true ∧ (l.seq2 r x y).1.orc = [] := by
  obtain ⟨h1, h1o⟩ := Loc.merge1_succeeds horc hr x
  unfold Loc.seq2
  simp only [h1, if_true]
  exact Loc.merge1_succeeds h1o (Loc.merge1_kept x hr).1 y

theorem mergeN_succeeds {l : Loc} (horc : l.orc = []) {r : Ref} {tip : Commit} (hr : l.refs.get r = some tip)
    (n : Bool) (a b : Commit) : ∃ l', l.mergeN n r a b = some l' ∧ l'.orc = [] := by
  unfold Loc.mergeN
  cases n with
  | false => exact merge_succeeds horc hr [a, b]
  | true =>
    have hh : l.refs.has r = true := (RefMap.has_iff _ _).mpr ⟨tip, hr⟩
    obtain ⟨h1, h1o⟩ := Loc.seq2_succeeds horc hh a b
    exact ⟨(l.seq2 r a b).1, by simp [Loc.merge2, hh, h1], h1o⟩

theorem updateW_post (pr : PrInfo) : ∀ (ds : List Dest) (l : Loc) (prev : Commit) (done : List Ref),
    l.OK → prev < l.g.size → l.orc = [] → ds.Nodup →
    (∀ d ∈ ds, (l.refs.get (.dest d)).isSome = true ∧ (l.refs.get (.w d pr.src)).isSome = true) →
    ∃ l3, updateW l pr prev ds done = (l3, done ++ ds.map (fun d => Ref.w d pr.src), true) ∧
      l3.OK ∧ Extends l.g l3.g ∧
      (∀ x, (∀ d ∈ ds, x ≠ .w d pr.src) → l3.refs.get x = l.refs.get x) ∧
      (∀ d ∈ ds, ∃ old c, l.refs.get (.w d pr.src) = some old ∧ l3.refs.get (.w d pr.src) = some c ∧
        l3.g.le old c = true) ∧
      Merged l3.g l3.refs pr.src prev ds
  | [], l, _, done, hl, _, _, _, _ =>
    ⟨l, by simp [updateW], hl, Extends.refl _, fun _ _ => rfl, fun _ hd => (nomatch hd), trivial⟩
  | d :: ds, l, prev, done, hl, hp, horc, hnd, hex => by
    obtain ⟨hdd, hdw⟩ := hex d List.mem_cons_self
    obtain ⟨t, ht⟩ := Option.isSome_iff_exists.mp hdd
    obtain ⟨tip, htip⟩ := Option.isSome_iff_exists.mp hdw
    obtain ⟨l', hm, horc'⟩ := mergeN_succeeds horc htip pr.noOct t prev
    obtain ⟨hl', hext, hsame, old, new, hold, hnew, hon, hsrc⟩ := Loc.mergeN_spec hl
      (List.forall_mem_cons.mpr ⟨hl.valid _ _ ht, List.forall_mem_singleton.mpr hp⟩) hm
    have hnewlt : new < l'.g.size := hl'.valid _ _ hnew
    rw [List.nodup_cons] at hnd
    have hne_dest : ∀ d' : Dest, Ref.dest d' ≠ Ref.w d pr.src := fun _ h => nomatch h
    have hne_w : ∀ d' ∈ ds, Ref.w d' pr.src ≠ Ref.w d pr.src := fun d' hd' h => hnd.1 (by cases h; exact hd')
    obtain ⟨l3, hl3, i3, i4, i5, i6, i7⟩ := updateW_post pr ds l' new (done ++ [.w d pr.src]) hl' hnewlt horc' hnd.2
      (fun d' hd' => by
        rw [hsame _ (hne_dest d'), hsame _ (hne_w d' hd')]
        exact hex d' (List.mem_cons_of_mem _ hd'))
    have hwd : l3.refs.get (.w d pr.src) = some new := by
      rw [i5 _ (fun d' hd' h => hne_w d' hd' h.symm), hnew]
    have hdd' : l3.refs.get (.dest d) = some t := by
      rw [i5 (.dest d) (fun _ _ h => nomatch h), hsame _ (hne_dest d), ht]
    refine ⟨l3, ?_, i3, hext.trans i4, ?_, ?_, ?_⟩
    · simp only [updateW, ht, hm, hnew, hl3, List.map_cons, List.append_assoc, List.singleton_append]
    · intro x hx
      rw [i5 x (fun d' hd' => hx d' (List.mem_cons_of_mem _ hd')), hsame x (hx d List.mem_cons_self)]
    · intro d' hd'
      rcases List.mem_cons.mp hd' with rfl | hd'
      · exact ⟨old, new, hold, hwd, i4.le hnewlt hon⟩
      · obtain ⟨o, c, ho, hc, hoc⟩ := i6 d' hd'
        rw [hsame _ (hne_w d' hd')] at ho
        exact ⟨o, c, ho, hc, hoc⟩
    · simp only [Merged, hdd', hwd]
      exact ⟨le_refl i3.wf (i4.lt hnewlt), i4.le hnewlt (hsrc t (by simp)),
        i4.le hnewlt (hsrc prev (by simp)), i7⟩

/-- one step of `create_integration_branches`: `w/d` is created on the tip of `d` unless it exists -/
theorem createW_step (l : Loc) (pr : PrInfo) (d : Dest) (ds : List Dest) :
    ∃ l', createW l pr (d :: ds) = createW l' pr ds ∧ l'.g = l.g ∧ l'.orc = l.orc ∧
      (∀ x, x ≠ .w d pr.src → l'.refs.get x = l.refs.get x) ∧
      (∀ x c, l.refs.get x = some c → l'.refs.get x = some c) ∧
      ((l.refs.get (.dest d)).isSome = true → (l'.refs.get (.w d pr.src)).isSome = true) := by
  simp only [createW]
  cases hw : l.refs.get (.w d pr.src) with
  | some c0 => exact ⟨l, rfl, rfl, rfl, fun _ _ => rfl, fun _ _ h => h, fun _ => by rw [hw]; rfl⟩
  | none =>
    cases ht : l.refs.get (.dest d) with
    | none => exact ⟨l, rfl, rfl, rfl, fun _ _ => rfl, fun _ _ h => h, fun h => nomatch h⟩
    | some t =>
      refine ⟨_, rfl, rfl, rfl, fun x hx => RefMap.get_set_ne _ _ hx, fun x c hc => ?_,
        fun _ => by rw [RefMap.get_set_eq]; rfl⟩
      rw [RefMap.get_set_ne _ _ (fun hx => by rw [hx, hw] at hc; cases hc)]
      exact hc

theorem createW_frame (pr : PrInfo) : ∀ (ds : List Dest) (l : Loc),
    (createW l pr ds).g = l.g ∧ (createW l pr ds).orc = l.orc ∧
    (∀ x, (∀ d ∈ ds, x ≠ .w d pr.src) → (createW l pr ds).refs.get x = l.refs.get x) ∧
    (∀ x c, l.refs.get x = some c → (createW l pr ds).refs.get x = some c) ∧
    (∀ d ∈ ds, (l.refs.get (.dest d)).isSome = true → ((createW l pr ds).refs.get (.w d pr.src)).isSome = true)
  | [], _ => ⟨rfl, rfl, fun _ _ => rfl, fun _ _ h => h, fun _ hd => nomatch hd⟩
  | d :: ds, l => by
    obtain ⟨l', he, s1, s2, s3, s4, s5⟩ := createW_step l pr d ds
    obtain ⟨h1, h2, h3, h4, h5⟩ := createW_frame pr ds l'
    rw [he]
    refine ⟨h1.trans s1, h2.trans s2, fun x hx => ?_, fun x c hc => h4 x c (s4 x c hc), fun d' hd' hdest => ?_⟩
    · exact (h3 x (fun d' hd' => hx d' (List.mem_cons_of_mem _ hd'))).trans (s3 x (hx d List.mem_cons_self))
    · rcases List.mem_cons.mp hd' with rfl | hd'
      · obtain ⟨c, hc⟩ := Option.isSome_iff_exists.mp (s5 hdest)
        rw [h4 _ c hc]; rfl
      · exact h5 d' hd' (by rw [s3 (.dest d') (fun h => nomatch h)]; exact hdest)

theorem createW_noop (pr : PrInfo) : ∀ (ds : List Dest) (l : Loc),
    (∀ d ∈ ds, (l.refs.get (.w d pr.src)).isSome = true) → createW l pr ds = l
  | [], _, _ => rfl
  | d :: ds, l, h => by
    simp only [createW]
    obtain ⟨c, hc⟩ := Option.isSome_iff_exists.mp (h d List.mem_cons_self)
    rw [hc]
    simp only
    exact createW_noop pr ds l (fun d' hd' => h d' (List.mem_cons_of_mem _ hd'))

theorem conflictCheck_nil {l : Loc} (h : l.orc = []) (dc sc : Commit) : conflictCheck l dc sc = (true, l) := by
  unfold conflictCheck
  split
  · rfl
  · simp [Loc.ask, h]

theorem targets_rest_nodup {s : Sys} (hs : s.WF) (d : Dest) : ((s.targets d).drop 1).Nodup :=
  (pairwise_before_nodup (targets_pairwise hs.sorted d)).sublist (List.drop_sublist 1 _)

theorem applyOps_pushWOps (g : Graph) (rej : Ref → Bool) (remote : RefMap) (l : Loc) (pr : PrInfo) (rest : List Dest) :
    applyOps g rej remote (pushWOps l pr rest) =
      applyOp g rej remote (.push (tipsOf l.refs (rest.map (fun d => Ref.w d pr.src)))) := by
  unfold pushWOps
  split
  · next h => rw [List.isEmpty_iff.mp h]; rfl
  · rfl

/-- the chain of a pull request is quiet in a state: merged and complete -/
def Quiet (s : Sys) (pr : PrInfo) (sc : Commit) : Prop :=
  Merged s.g s.remote pr.src sc ((s.targets pr.dst).drop 1) ∧
  ∀ d ∈ (s.targets pr.dst).drop 1, (s.remote.get (.w d pr.src)).isSome = true

theorem prepare_first {s : Sys} (hs : s.WF) (hnq : s.useQueue = false) (pr : PrInfo) {sc : Commit} (dc : Commit)
    (hsc : sc < s.g.size)
    (hd : ∀ d ∈ s.targets pr.dst, (s.remote.get (.dest d)).isSome = true) :
    ∃ l4, prepare s pr sc dc [] = .inr (l4, pushWOps l4 pr ((s.targets pr.dst).drop 1)) ∧
      (∀ x, (applyOps l4.g noRej s.remote (pushWOps l4 pr ((s.targets pr.dst).drop 1))).get x = l4.refs.get x) ∧
      (∀ x, (∀ d ∈ (s.targets pr.dst).drop 1, x ≠ .w d pr.src) → l4.refs.get x = s.remote.get x) ∧
      Merged l4.g l4.refs pr.src sc ((s.targets pr.dst).drop 1) ∧
      (∀ d ∈ (s.targets pr.dst).drop 1, (l4.refs.get (.w d pr.src)).isSome = true) := by
  generalize hrest : (s.targets pr.dst).drop 1 = rest
  have hrsub : ∀ d ∈ rest, d ∈ s.targets pr.dst := fun d h => List.mem_of_mem_drop (hrest ▸ h)
  have hnd : rest.Nodup := hrest ▸ targets_rest_nodup hs pr.dst
  have hl0 : Loc.OK ⟨s.g, s.remote, []⟩ := ⟨hs.g, hs.valid⟩
  obtain ⟨c1, c2, c3, c4, c5⟩ := createW_frame pr rest ⟨s.g, s.remote, []⟩
  have hw1 := createW_wonly pr rest hl0
  generalize hl1 : createW ⟨s.g, s.remote, []⟩ pr rest = l1 at c1 c2 c3 c4 c5 hw1
  simp only at c1 c2 c3 c4 c5
  have hex : ∀ d ∈ rest, (l1.refs.get (.dest d)).isSome = true ∧ (l1.refs.get (.w d pr.src)).isSome = true :=
    fun d hdr => ⟨(congrArg Option.isSome (c3 (.dest d) (fun _ _ h => nomatch h))).trans (hd d (hrsub d hdr)),
      c5 d hdr (hd d (hrsub d hdr))⟩
  have hsc1 : sc < l1.g.size := by rw [c1]; exact hsc
  obtain ⟨l3, hl3, u3, u4, u5, u6, u7⟩ := updateW_post pr rest l1 sc [] hw1.ok hsc1 c2 hnd hex
  have hprep : prepare s pr sc dc [] = .inr (l3, pushWOps l3 pr rest) := by
    unfold prepare
    simp only [hrest, hl1, conflictCheck_nil c2, Bool.not_true, Bool.false_eq_true, ↓reduceIte, hl3,
      settle, hnq, Bool.false_and]
  have hframe : ∀ x, (∀ d ∈ rest, x ≠ .w d pr.src) → l3.refs.get x = s.remote.get x :=
    fun x hx => (u5 x hx).trans (c3 x hx)
  have hhas : ∀ d ∈ rest, (l3.refs.get (.w d pr.src)).isSome = true := by
    intro d hdr
    obtain ⟨_, c, _, hc, _⟩ := u6 d hdr
    rw [hc]; rfl
  refine ⟨l3, hprep, ?_, hframe, u7, hhas⟩
  intro x
  rw [applyOps_pushWOps, push_tips]
  · by_cases hx : x ∈ rest.map (fun d => Ref.w d pr.src)
    · obtain ⟨d, hdr, rfl⟩ := List.mem_map.mp hx
      obtain ⟨c, hc⟩ := Option.isSome_iff_exists.mp (hhas d hdr)
      simp [hx, hc]
    · rw [if_neg (fun h => hx h.1)]
      exact (hframe x (fun d hdr h => hx (List.mem_map.mpr ⟨d, hdr, h.symm⟩))).symm
  · intro r hr c hc
    obtain ⟨d, hdr, rfl⟩ := List.mem_map.mp hr
    obtain ⟨old, c', ho, hc', hle⟩ := u6 d hdr
    rw [hc] at hc'
    cases hc'
    refine ⟨le_refl u3.wf (u3.valid _ _ hc), ?_⟩
    unfold accepts
    cases hrem : s.remote.get (.w d pr.src) with
    | none => rfl
    | some o =>
      have := c4 _ o hrem
      rw [ho] at this
      cases this
      exact hle

/-- the plan of an evaluation stopped at a gate after the integration branches: the preparation's own plan when
    it ends the evaluation (conflict), else the push of the integration branches -/
def gatePlan (s : Sys) : Plan ⊕ (Loc × List Op) → Plan
  | .inl p => p
  | .inr (l4, pushW) => ⟨l4.g, pushW, "gate", s.queue⟩

theorem prepare_second {s : Sys} (hnq : s.useQueue = false) (pr : PrInfo) {sc : Commit} (dc : Commit)
    (hq : Quiet s pr sc) :
    (gatePlan s (prepare s pr sc dc [])).g = s.g ∧
    ∀ x, (applyOps (gatePlan s (prepare s pr sc dc [])).g noRej s.remote (gatePlan s (prepare s pr sc dc [])).ops).get x =
      s.remote.get x := by
  obtain ⟨hm, hw⟩ := hq
  generalize hrest : (s.targets pr.dst).drop 1 = rest at hm hw
  have hl1 : createW ⟨s.g, s.remote, []⟩ pr rest = ⟨s.g, s.remote, []⟩ := createW_noop pr rest _ hw
  obtain ⟨m1, m2⟩ := updateW_merged pr rest ⟨s.g, s.remote, []⟩ sc [] hm
  generalize hl3 : updateW ⟨s.g, s.remote, []⟩ pr sc rest [] = r3 at m1 m2
  simp only at m1 m2
  unfold prepare
  simp only [hrest, hl1, conflictCheck_nil (l := ⟨s.g, s.remote, []⟩) rfl, Bool.not_true, Bool.false_eq_true,
    ↓reduceIte, hl3, settle, hnq, Bool.false_and]
  split
  · exact ⟨m1, pushIf_same _ _ _ _ _ m2⟩
  · exact ⟨m1, pushIf_same _ _ _ _ _ m2⟩

theorem step_evalPr (s : Sys) (pr : PrInfo) (st : Stage) (orc : List Bool) (sel : List Nat) :
    (step s (.evalPr pr st orc sel)).1 =
      { s with g := (planPr s pr st orc sel).g,
               remote := applyOps (planPr s pr st orc sel).g noRej s.remote (planPr s pr st orc sel).ops,
               queue := (planPr s pr st orc sel).queue } := rfl

/-- the evaluation gets to the clone: both branches exist and the source is not merged yet -/
def Active (s : Sys) (pr : PrInfo) (sc dc : Commit) : Prop :=
  s.remote.get (.other pr.src) = some sc ∧ s.remote.get (.dest pr.dst) = some dc ∧ s.g.le sc dc = false

/-- otherwise (source branch gone, destination gone, already merged) no operation is planned -/
theorem planPr_noop {s : Sys} {pr : PrInfo} (stage : Stage) (orc : List Bool) (sel : List Nat)
    (h : ¬ ∃ sc dc, Active s pr sc dc) :
    (planPr s pr stage orc sel).g = s.g ∧ (planPr s pr stage orc sel).ops = [] :=
  planPr_rec (motive := fun p => p.g = s.g ∧ p.ops = []) s pr stage orc sel (fun _ _ => ⟨rfl, rfl⟩)
    fun sc dc hsc hdc hle => absurd ⟨sc, dc, hsc, hdc, hle⟩ h

theorem planPr_integration {s : Sys} {pr : PrInfo} {sc dc : Commit} (orc : List Bool) (sel : List Nat)
    (h : Active s pr sc dc) (hq : alreadyQueued s pr = false) :
    planPr s pr .integration orc sel = gatePlan s (prepare s pr sc dc orc) := by
  unfold planPr
  simp only [reduceCtorEq, ↓reduceIte, h.1, h.2.1, h.2.2, hq, Bool.false_eq_true]
  rcases prepare s pr sc dc orc with p | ⟨l4, pushW⟩ <;> rfl

theorem evalPr_quiet {s : Sys} (hnq : s.useQueue = false) (pr : PrInfo) (sel : List Nat)
    (hq : ∀ sc dc, Active s pr sc dc → Quiet s pr sc) :
    (planPr s pr .integration [] sel).g = s.g ∧
    ∀ x, (applyOps (planPr s pr .integration [] sel).g noRej s.remote (planPr s pr .integration [] sel).ops).get x =
      s.remote.get x := by
  by_cases hex : ∃ sc dc, Active s pr sc dc
  · obtain ⟨sc, dc, hact⟩ := hex
    rw [planPr_integration [] sel hact (by simp [alreadyQueued, hnq])]
    exact prepare_second hnq pr dc (hq sc dc hact)
  · obtain ⟨hg, hops⟩ := planPr_noop .integration [] sel hex
    rw [hg, hops]
    exact ⟨rfl, fun _ => rfl⟩

def QuietState (s : Sys) (pr : PrInfo) : Prop :=
  s.useQueue = false ∧ ∀ sc dc, Active s pr sc dc → Quiet s pr sc

theorem quietState_step {s : Sys} {pr : PrInfo} (h : QuietState s pr) (sel : List Nat) :
    QuietState (step s (.evalPr pr .integration [] sel)).1 pr ∧
    ∀ x, (step s (.evalPr pr .integration [] sel)).1.remote.get x = s.remote.get x := by
  obtain ⟨hg, hr⟩ := evalPr_quiet h.1 pr sel h.2
  rw [step_evalPr]
  generalize planPr s pr .integration [] sel = p at hg hr ⊢
  obtain ⟨pg, pops, po, pq⟩ := p
  simp only at hg hr ⊢
  subst hg
  refine ⟨⟨h.1, fun sc dc hact => ?_⟩, hr⟩
  obtain ⟨q1, q2⟩ := h.2 sc dc ⟨(hr _).symm.trans hact.1, (hr _).symm.trans hact.2.1, hact.2.2⟩
  exact ⟨Merged.congr hr _ _ q1, fun d hd => (congrArg Option.isSome (hr _)).trans (q2 d hd)⟩

theorem evalPr_first {s : Sys} (hs : s.WF) (hnq : s.useQueue = false) (pr : PrInfo) (sel : List Nat)
    (hd : ∀ d ∈ s.targets pr.dst, (s.remote.get (.dest d)).isSome = true) :
    QuietState (step s (.evalPr pr .integration [] sel)).1 pr := by
  rw [step_evalPr]
  refine ⟨hnq, ?_⟩
  by_cases hex : ∃ sc dc, Active s pr sc dc
  · obtain ⟨sc0, dc0, hact⟩ := hex
    obtain ⟨l4, hprep, hrem, hframe, hmerged, hhas⟩ :=
      prepare_first hs hnq pr dc0 (hs.valid _ _ hact.1) hd
    rw [planPr_integration [] sel hact (by simp [alreadyQueued, hnq]), hprep]
    intro sc dc h1
    -- the source branch is where it was
    have hsc : some sc0 = some sc :=
      (hact.1.symm.trans (hframe (.other pr.src) (fun _ _ h => nomatch h)).symm).trans ((hrem _).symm.trans h1.1)
    cases hsc
    exact ⟨Merged.congr hrem _ _ hmerged, fun d hdr => (congrArg Option.isSome (hrem _)).trans (hhas d hdr)⟩
  · -- no operation: the state is as it was, and an evaluation does not get to the clone
    obtain ⟨hg, hops⟩ := planPr_noop .integration [] sel hex
    rw [hg, hops]
    exact fun sc dc hact => absurd ⟨sc, dc, hact⟩ hex

theorem inSync_congr {g g' : Graph} {refs refs' : RefMap} (hext : Extends g g') (hv : RefsValid g refs)
    (hr : ∀ x, refs'.get x = refs.get x) : ∀ (L : List Ref) (prev : Commit),
    inSync g' refs' prev L = inSync g refs prev L
  | [], _ => rfl
  | r :: rs, prev => by
    simp only [inSync]
    rw [hr]
    cases hc : refs.get r with
    | none => rfl
    | some c =>
      simp only
      rw [hext.2 prev c (hv r c hc), inSync_congr hext hv hr rs c]

/-- `branch.reset()` of every integration branch -/
theorem settle_get {s : Sys} (hq : s.useQueue = true) (pr : PrInfo) (rest : List Dest) (l3 : Loc)
    (hw : ∀ d ∈ rest, (s.remote.get (.w d pr.src)).isSome = true)
    (h3 : ∀ x, (∀ d ∈ rest, x ≠ .w d pr.src) → l3.refs.get x = s.remote.get x) :
    ∀ x, (settle s pr rest true l3).refs.get x = s.remote.get x := by
  simp only [settle, hq, Bool.and_self, ↓reduceIte]
  generalize l3.refs = m at h3
  induction rest generalizing m with
  | nil => exact fun x => h3 x (fun _ hd => nomatch hd)
  | cons d rest ih =>
    obtain ⟨c, hc⟩ := Option.isSome_iff_exists.mp (hw d List.mem_cons_self)
    rw [List.foldl_cons, hc]
    refine ih (fun d' hd' => hw d' (List.mem_cons_of_mem _ hd')) _ (fun x hx => ?_)
    rw [RefMap.get_set]
    split
    · next he => rw [he, hc]
    · next he => exact h3 x (List.forall_mem_cons.mpr ⟨he, hx⟩)

/-- In queue mode, when every integration branch exists and the chain is in sync, the preparation merges in the
    clone only: the branches are reset to their remote state and re-pushed unchanged. -/
theorem prepare_insync {s : Sys} (hs : s.WF) (hq : s.useQueue = true) (pr : PrInfo) {sc : Commit} (dc : Commit)
    (hsc : sc < s.g.size)
    (hd : ∀ d ∈ s.targets pr.dst, (s.remote.get (.dest d)).isSome = true)
    (hw : ∀ d ∈ (s.targets pr.dst).drop 1, (s.remote.get (.w d pr.src)).isSome = true)
    (hsync : inSync s.g s.remote sc ((s.targets pr.dst).map (wRef pr pr.dst)) = true) :
    ∀ x, (applyOps (gatePlan s (prepare s pr sc dc [])).g noRej s.remote (gatePlan s (prepare s pr sc dc [])).ops).get x =
      s.remote.get x := by
  generalize hrest : (s.targets pr.dst).drop 1 = rest at hw
  have hrsub : ∀ d ∈ rest, d ∈ s.targets pr.dst := fun d h => List.mem_of_mem_drop (hrest ▸ h)
  have hnd : rest.Nodup := hrest ▸ targets_rest_nodup hs pr.dst
  have hl0 : Loc.OK ⟨s.g, s.remote, []⟩ := ⟨hs.g, hs.valid⟩
  have hl1 : createW ⟨s.g, s.remote, []⟩ pr rest = ⟨s.g, s.remote, []⟩ := createW_noop pr rest _ hw
  have hex : ∀ d ∈ rest, ((Loc.mk s.g s.remote []).refs.get (.dest d)).isSome = true ∧
      ((Loc.mk s.g s.remote []).refs.get (.w d pr.src)).isSome = true :=
    fun d hdr => ⟨hd d (hrsub d hdr), hw d hdr⟩
  obtain ⟨l3, hl3, _, _, u5, _, _⟩ := updateW_post pr rest ⟨s.g, s.remote, []⟩ sc [] hl0 hsc rfl hnd hex
  have hget := settle_get hq pr rest l3 hw u5
  unfold prepare
  simp only [hrest, hl1, hsync, conflictCheck_nil (l := ⟨s.g, s.remote, []⟩) rfl, Bool.not_true, Bool.false_eq_true,
    ↓reduceIte, hl3]
  exact pushIf_same _ _ _ _ _ hget

/-- the steady state of a pull request waiting at a gate in queue mode -/
structure InSyncState (s : Sys) (pr : PrInfo) : Prop where
  wf : s.WF
  queue : s.useQueue = true
  notQueued : alreadyQueued s pr = false
  dests : ∀ d ∈ s.targets pr.dst, (s.remote.get (.dest d)).isSome = true
  ws : ∀ d ∈ (s.targets pr.dst).drop 1, (s.remote.get (.w d pr.src)).isSome = true
  sync : ∀ sc, s.remote.get (.other pr.src) = some sc →
    inSync s.g s.remote sc ((s.targets pr.dst).map (wRef pr pr.dst)) = true

theorem inSyncState_step {s : Sys} {pr : PrInfo} (h : InSyncState s pr) (sel : List Nat) :
    InSyncState (step s (.evalPr pr .integration [] sel)).1 pr ∧
    ∀ x, (step s (.evalPr pr .integration [] sel)).1.remote.get x = s.remote.get x := by
  have hgext := planPr_gext h.wf pr .integration [] sel
  have hr : ∀ x, (applyOps (planPr s pr .integration [] sel).g noRej s.remote
      (planPr s pr .integration [] sel).ops).get x = s.remote.get x := by
    by_cases hex : ∃ sc dc, Active s pr sc dc
    · obtain ⟨sc, dc, hact⟩ := hex
      rw [planPr_integration [] sel hact h.notQueued]
      exact prepare_insync h.wf h.queue pr dc (h.wf.valid _ _ hact.1) h.dests h.ws (h.sync sc hact.1)
    · obtain ⟨hg, hops⟩ := planPr_noop .integration [] sel hex
      rw [hg, hops]
      exact fun _ => rfl
  rw [step_evalPr]
  generalize planPr s pr .integration [] sel = p at hgext hr ⊢
  obtain ⟨pg, pops, po, pq⟩ := p
  simp only at hgext hr ⊢
  refine ⟨⟨⟨hgext.wf, ?_, h.wf.sorted, ?_⟩, h.queue, ?_, ?_, ?_, ?_⟩, hr⟩
  · exact fun r c hc => hgext.ext.lt (h.wf.valid r c ((hr r).symm.trans hc))
  · exact fun M m c hc => h.wf.devsOK M m c ((hr _).symm.trans hc)
  · have := h.notQueued
    simp only [alreadyQueued, RefMap.has] at this ⊢
    simp only [hr]
    exact this
  · exact fun d hd => (congrArg Option.isSome (hr _)).trans (h.dests d hd)
  · exact fun d hd => (congrArg Option.isSome (hr _)).trans (h.ws d hd)
  · exact fun sc hsc => (inSync_congr hgext.ext h.wf.valid hr _ sc).trans (h.sync sc ((hr _).symm.trans hsc))

end BertE.Flow
