import BertE.Lemmas.Queue
/- Operations only carry existing commits and never create destination refs: the remote stays well-formed. -/
namespace BertE.Flow
open BertE.Git

theorem DestSub.refl (m : RefMap) : DestSub m m := fun _ c h => by simp [h]

theorem DestSub.trans {a b c : RefMap} (h1 : DestSub a b) (h2 : DestSub b c) : DestSub a c := by
  intro d x hx
  obtain ⟨y, hy⟩ := Option.isSome_iff_exists.mp (h2 d x hx)
  exact h1 d y hy

theorem applyOp_valid {g : Graph} {remote0 remote : RefMap} (rej : Ref → Bool) {op : Op}
    (hv : RefsValid g remote) (hd : DestSub remote0 remote) (ho : op.Valid g remote0) :
    RefsValid g (applyOp g rej remote op) ∧ DestSub remote0 (applyOp g rej remote op) := by
  cases op with
  | push ups =>
    refine ⟨fun r c hc => ?_, fun d c hc => ?_⟩
    · rcases applyOp_push_cases g rej ups remote r with h | ⟨c', hc', h⟩
      · exact hv r c (h ▸ hc)
      · cases h.symm.trans hc
        exact (ho _ hc').2
    · exact hd d c ((push_fold_dest g rej ups (fun rc h => (ho rc h).1) remote d).symm.trans hc)
  | pushAll loc prune =>
    rcases applyOp_pushAll_cases g rej remote loc prune with he | he <;> rw [he]
    · split
      · exact ho
      · -- without `--prune` a ref is looked up in the content first, then in the old remote
        refine ⟨fun r c hc => ?_, fun d c hc => ?_⟩ <;>
          rcases Option.or_eq_some_iff.mp ((RefMap.get_append _ _ _).symm.trans hc) with h | ⟨_, h⟩
        · exact ho.1 r c h
        · exact hv r c h
        · exact ho.2 d c h
        · exact hd d c h
    · exact ⟨hv, hd⟩
  | delete r =>
    rw [applyOp_delete]
    split
    · exact ⟨hv, hd⟩
    · exact ⟨hv.del r, fun d c hc => hd d c (RefMap.get_del_eq_some.mp hc).2⟩

theorem applyOps_valid {g : Graph} {remote0 : RefMap} (rej : Ref → Bool) : ∀ (ops : List Op) {remote : RefMap},
    RefsValid g remote → DestSub remote0 remote → (∀ op ∈ ops, op.Valid g remote0) →
    RefsValid g (applyOps g rej remote ops) ∧ DestSub remote0 (applyOps g rej remote ops) :=
  fun ops _ hv hd => applyOps_preserves (I := fun m => RefsValid g m ∧ DestSub remote0 m)
    (fun _ _ h ho => applyOp_valid rej h.1 h.2 ho) ops ⟨hv, hd⟩

end BertE.Flow
