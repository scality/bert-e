import BertE.Lemmas.C02RecEnqueueAgain
import BertE.Lemmas.QValidateEval
/- C02, recovery of `add_to_queue`: the evaluation delivered again on the interrupted state, with the `validate()`
   guard (`QV.planPrV`) - which of its branches it takes, and what it may change in each. -/
namespace BertE.Flow
open BertE.Git BertE.QV

theorem close_rec_crash_eq (s : Sys) (p : Plan) (rej : Nat → Ref → Bool) (k : Nat) :
    crashState s p rej k = interrupted s p rej k := rfl

/-- the `validate()` guard of `_handle_pull_request` refuses: the evaluation got as far as `add_to_queue` (source and
    destination exist, no conflict, queueing needed) and the queues of the clone - after the update of the
    integration branches - do not validate -/
def close_rec_outOfOrder (s : Sys) (pr : PrInfo) (orc : List Bool) : Bool :=
  match s.remote.get (.other pr.src), s.remote.get (.dest pr.dst) with
  | some sc, some dc =>
    match prepare s pr sc dc orc with
    | .inr (l4, _) => isNeeded s l4 pr (s.targets pr.dst) && !validated { s with g := l4.g, remote := l4.refs }
    | .inl _ => false
  | _, _ => false

theorem close_rec_planPrV_queued {s : Sys} {pr : PrInfo} {sc dc : Commit}
    (hsrc : s.remote.get (.other pr.src) = some sc) (hdst : s.remote.get (.dest pr.dst) = some dc)
    (hle : s.g.le sc dc = false) (haq : alreadyQueued s pr = true) (orc : List Bool) (sel : List Nat)
    (wgone : List (Dest × String)) :
    planPrV s pr .final orc sel wgone = evalQueues s sel wgone := by
  simp [planPrV, hsrc, hdst, hle, haq]

theorem close_rec_planPrV_fresh {s : Sys} (hs : s.WF) {pr : PrInfo} {sc dc : Commit}
    (hsrc : s.remote.get (.other pr.src) = some sc) (hdst : s.remote.get (.dest pr.dst) = some dc)
    (hle : s.g.le sc dc = false) (hnaq : alreadyQueued s pr = false) (orc : List Bool) (sel : List Nat)
    (wgone : List (Dest × String)) :
    (close_rec_outOfOrder s pr orc = true ∧ ∃ l4, planPrV s pr .final orc sel wgone =
      ⟨l4.g, pushWOps l4 pr ((s.targets pr.dst).drop 1), "QueueOutOfOrder", s.queue⟩) ∨
    (close_rec_outOfOrder s pr orc = false ∧ planPrV s pr .final orc sel wgone = planPr s pr .final orc []) := by
  unfold close_rec_outOfOrder
  rw [hsrc, hdst]
  simp only
  cases hp : prepare s pr sc dc orc with
  | inl p => right; simp [planPrV, planPr, hsrc, hdst, hle, hnaq, hp]
  | inr x =>
    obtain ⟨l4, pushW⟩ := x
    simp only
    by_cases h5 : isNeeded s l4 pr (s.targets pr.dst) = true
    · by_cases h6 : validated { s with g := l4.g, remote := l4.refs } = true
      · right; simp [planPrV, planPr, hsrc, hdst, hle, hnaq, hp, h5, h6]
      · left
        have h6' : validated { s with g := l4.g, remote := l4.refs } = false := by simpa using h6
        obtain ⟨_, rfl⟩ := prepare_inr hs pr (hs.valid _ _ hsrc) hp
        refine ⟨by simp [h5, h6'], l4, ?_⟩
        simp [planPrV, hsrc, hdst, hle, hnaq, hp, h5, h6']
    · right; simp [planPrV, planPr, hsrc, hdst, hle, hnaq, hp, h5]

theorem close_rec_pushW_only (g : Graph) (rej : Nat → Ref → Bool) (l : Loc) (pr : PrInfo) (rest : List Dest)
    (m : RefMap) (j : Nat) (x : Ref) (hx : ∀ d, x ≠ .w d pr.src) :
    (applyOpsAt g rej 0 m ((pushWOps l pr rest).take j)).get x = m.get x := by
  rcases rec_pushes_frame g rej _ 0 m x
    (fun op hop => rec_pushWOps_offers l pr rest op (List.mem_of_mem_take hop)) with h | ⟨_, ⟨d, _, he, _⟩, _⟩
  · exact h
  · exact absurd he (hx d)

theorem close_rec_incl_check {g : Graph} {m : RefMap} (h : m.all (fun a => m.all (fun b =>
      match a.1, b.1 with
      | .dest da, .dest db => !(da.before db) || g.le a.2 b.2
      | _, _ => true)) = true) : InclOn g m := by
  intro a b hab ca cb hca hcb
  have h1 := List.all_eq_true.mp h _ (RefMap.get_mem hca)
  have h2 := List.all_eq_true.mp h1 _ (RefMap.get_mem hcb)
  simp only [hab, Bool.not_true, Bool.false_or] at h2
  exact h2

theorem close_rec_cascade_check {s : Sys} (h : s.remote.all (fun rc => match rc.1 with
      | .dest (.stab M m _) => (s.remote.get (.dest (.dev M (some m)))).isSome
      | _ => true) = true) : CascadeOK s := by
  intro M m u hsome
  cases hg : s.remote.get (.dest (.stab M m u)) with
  | none => rw [hg] at hsome; cases hsome
  | some c =>
    have := List.all_eq_true.mp h _ (RefMap.get_mem hg)
    exact this

end BertE.Flow
