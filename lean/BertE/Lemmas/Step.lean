import BertE.Lemmas.QueueStep
/- A pull-request evaluation preserves the invariant (`planPr_inv`); facts about pruning pushes and queue refs that the
   other events use. -/
namespace BertE.Flow
open BertE.Git

theorem after_wf {s : Sys} (hs : s.WF) {p : Plan} (hg : GExt s.g p.g)
    (hv : ∀ op ∈ p.ops, op.Valid p.g s.remote) : (s.after p).WF := by
  obtain ⟨hval, hsub⟩ := applyOps_valid (g := p.g) (remote0 := s.remote) noRej p.ops
    (hs.valid.mono hg.ext) (DestSub.refl _) hv
  refine ⟨hg.wf, hval, hs.sorted, ?_⟩
  intro M m c hc
  have := hsub _ c hc
  cases hr : s.remote.get (.dest (.dev M m)) with
  | none => rw [hr] at this; cases this
  | some c' => exact hs.devsOK M m c' hr

theorem after_incl {s : Sys} (hs : s.WF) (hincl : s.Incl) {p : Plan} (hext : Extends s.g p.g)
    (hsafe : ∀ op ∈ p.ops, op.Safe p.g) : (s.after p).Incl := by
  unfold Sys.after Sys.Incl
  exact applyOps_incl noRej _ (InclOn.extends hincl hs.valid hext) hsafe

theorem after_qinv_wonly {s : Sys} (hs : s.WF) (hq : QInv s) {p : Plan} (hg : GExt s.g p.g)
    (hqueue : p.queue = s.queue)
    (hw : ∀ x, (∀ d src, x ≠ .w d src) → (applyOps p.g noRej s.remote p.ops).get x = s.remote.get x) :
    QInv (s.after p) := by
  refine QInv.transport hs hq ?_ ?_ ?_ ?_ ?_ ?_ ?_
  · exact hqueue
  · rfl
  · exact hg.wf
  · exact hg.ext
  · intro d; left; exact hw _ (fun _ _ he => by cases he)
  · intro e _ d; exact hw _ (fun _ _ he => by cases he)
  · intro d; left; exact hw _ (fun _ _ he => by cases he)

theorem pushAll_apply (g : Graph) (remote loc : RefMap) :
    applyOp g noRej remote (.pushAll loc true) = loc ∨ applyOp g noRej remote (.pushAll loc true) = remote :=
  applyOp_pushAll_cases g noRej remote loc true

theorem applyOps_deletes_eq (g : Graph) : ∀ (rs : List Ref) (m : RefMap),
    applyOps g noRej m (rs.map Op.delete) = delRefs m rs
  | [], _ => rfl
  | r :: rs, m => applyOps_deletes_eq g rs (m.del r)

theorem applyOps_deletes (g : Graph) (rs : List Ref) (m : RefMap) (x : Ref) :
    (applyOps g noRej m (rs.map Op.delete)).get x = if x ∈ rs then none else m.get x := by
  rw [applyOps_deletes_eq, get_delRefs]

theorem qOnly_mem {m : RefMap} {d : Dest} {c : Commit} (h : m.get (.q d) = some c) : Ref.q d ∈ qOnly m := by
  rw [mem_qOnly]; unfold qRaw
  simp only [List.mem_map, List.mem_filter]
  exact ⟨(.q d, c), ⟨RefMap.get_mem h, rfl⟩, rfl⟩

theorem allQRefs_mem_q {m : RefMap} {d : Dest} {c : Commit} (h : m.get (.q d) = some c) : Ref.q d ∈ allQRefs m := by
  unfold allQRefs
  simp only [List.mem_map, List.mem_filter]
  exact ⟨(.q d, c), ⟨RefMap.get_mem h, rfl⟩, rfl⟩

theorem allQRefs_isq {m : RefMap} {x : Ref} (h : x ∈ allQRefs m) : (∃ d, x = .q d) ∨ (∃ pr d src, x = .qw pr d src) := by
  unfold allQRefs at h
  simp only [List.mem_map, List.mem_filter] at h
  obtain ⟨⟨r, c⟩, ⟨_, hr⟩, rfl⟩ := h
  cases r <;> simp at hr
  · exact Or.inl ⟨_, rfl⟩
  · exact Or.inr ⟨_, _, _, rfl⟩

theorem conflictPush_other (g : Graph) (l : Loc) (pr : PrInfo) (updated : List Ref)
    (hu : ∀ r ∈ updated, ∃ d, r = .w d pr.src) (m : RefMap) (x : Ref) (hx : ∀ d src, x ≠ .w d src) :
    (applyOps g noRej m (conflictPush l updated)).get x = m.get x := by
  unfold conflictPush
  split
  · rfl
  · refine applyOp_push_get_of_not_mem g noRej (fun rc hrc he => ?_) m
    obtain ⟨d, hd⟩ := hu _ (tipsOf_mem hrc)
    exact hx d pr.src (he ▸ hd)

theorem pushAll_delRefs (g : Graph) (m : RefMap) (rs : List Ref) :
    applyOp g noRej m (.pushAll (delRefs m rs) true) = delRefs m rs :=
  applyOp_pushAll_delRefs_noRej g m rs

theorem dropW_other (g : Graph) (remote : RefMap) (ws : List Ref) (hws : ∀ r ∈ ws, ∃ d src, r = .w d src)
    (x : Ref) (hx : ∀ d src, x ≠ .w d src) :
    (applyOps g noRej remote [.pushAll (delRefs remote ws) true]).get x = remote.get x := by
  rw [applyOps_single, applyOp_pushAll_delRefs_noRej, get_delRefs, if_neg]
  intro hm
  obtain ⟨d, src, hd⟩ := hws x hm
  exact hx d src hd

theorem isNeeded_false {s : Sys} {l : Loc} {pr : PrInfo} {ts : List Dest} (h : isNeeded s l pr ts = false) :
    s.useQueue = false ∨ s.queue = [] := by
  unfold isNeeded at h
  cases hu : s.useQueue with
  | false => exact Or.inl rfl
  | true =>
    rw [hu] at h
    simp only [Bool.not_true, Bool.false_eq_true, if_false] at h
    split at h
    · cases h
    · rename_i hc
      simp only [Bool.or_eq_true, not_or] at hc
      exact Or.inr (List.isEmpty_iff.mp (by simpa using hc.2))

theorem isNeeded_true {s : Sys} {l : Loc} {pr : PrInfo} {ts : List Dest} (h : isNeeded s l pr ts = true) :
    s.useQueue = true := by
  unfold isNeeded at h
  cases hu : s.useQueue
  · simp [hu] at h
  · rfl

/-- after a direct merge no queue branch is left on the remote -/
theorem directMerge_noq {s : Sys} {l4 : Loc} (pr : PrInfo) {sc : Commit} (ts : List Dest) {pre : List Op}
    (hnoq : s.useQueue = false → ∀ d, l4.refs.get (.q d) = none)
    (m : RefMap) (hm : ∀ d, m.get (.q d) = l4.refs.get (.q d))
    (hpre : ∀ (g : Graph) (m : RefMap) (x : Ref), (∀ d src, x ≠ .w d src) → (applyOps g noRej m pre).get x = m.get x) :
    ∀ d, (applyOps (directMerge s l4 pr sc ts pre).g noRej m (directMerge s l4 pr sc ts pre).ops).get (.q d) = none := by
  obtain ⟨qs, l5, hqs, rfl, hcase⟩ := directMerge_shape s l4 pr sc ts pre
  have hq5 : ∀ d, (delRefs l4.refs qs).get (.q d) = none := by
    intro d
    cases hc : l4.refs.get (.q d) with
    | none => rw [get_delRefs, hc, ite_self]
    | some c =>
      cases hu : s.useQueue with
      | false => rw [hnoq hu d] at hc; cases hc
      | true => rw [hqs, hu, if_pos rfl, get_delRefs, if_pos (qOnly_mem hc)]
  have hbase : ∀ (g : Graph) d, (applyOps g noRej m (pre ++ qs.map Op.delete)).get (.q d) = none := by
    intro g d
    rw [applyOps_append, applyOps_deletes_eq, get_delRefs, hpre g m _ (fun _ _ he => by cases he), hm d,
      ← get_delRefs]
    exact hq5 d
  rcases hcase with ⟨l, _, he⟩ | ⟨d1, ds, l6, n1, l7, rfl, _, _, _, hsame, he⟩ <;> rw [he]
  · exact hbase _
  · intro d
    rw [applyOps_append, applyOps_single]
    -- the final pruning push publishes the clone, in which the merges have not touched the queue refs
    rcases applyOp_pushAll_cases l7.g noRej (applyOps l7.g noRej m (pre ++ qs.map Op.delete))
      (delRefs l7.refs (ds.map (fun d => Ref.w d pr.src))) true with h | h
    · rw [h, if_pos rfl, get_delRefs]
      split
      · rfl
      · rw [hsame (.q d) (fun _ _ he => nomatch he)]
        exact hq5 d
    · rw [h]
      exact hbase l7.g d

/-- the `Conflict` exits of `prepare` only push `w/` refs -/
theorem prepare_inl_frame {s : Sys} (hs : s.WF) (pr : PrInfo) {sc dc : Commit} (hsc : sc < s.g.size) {orc : List Bool}
    {p : Plan} (hp : prepare s pr sc dc orc = .inl p) : GExt s.g p.g ∧ p.queue = s.queue ∧
      ∀ (g : Graph) (m : RefMap) (x : Ref), (∀ d src, x ≠ .w d src) → (applyOps g noRej m p.ops).get x = m.get x := by
  obtain ⟨l, _, hw, hu, rfl⟩ := prepare_inl hs pr hsc hp
  exact ⟨hw.gext, rfl, fun g m x hx => conflictPush_other g _ pr _ hu m x hx⟩

theorem planPr_inv {s : Sys} (h : Inv s) (pr : PrInfo) (stage : Stage) (orc : List Bool) (sel : List Nat)
    (hdown : DownClosed s sel) (hidq : pr.id ∈ s.queue.map (·.pr) → alreadyQueued s pr = true) :
    Inv (s.after (planPr s pr stage orc sel)) := by
  have hs := h.wf
  have hq := h.q
  refine ⟨after_wf hs (planPr_gext hs pr stage orc sel)
      (planPr_valid hs pr stage orc sel (planQueues_valid hs h.incl hq.base sel)),
    after_incl hs h.incl (planPr_gext hs pr stage orc sel).ext
      (planPr_safe hs h.incl pr stage orc sel (planQueues_safe hs h.incl hq.base sel)), ?_⟩
  refine planPr_elim (motive := fun p => QInv (s.after p)) s pr stage orc sel (fun _ => hq)
    (fun _ => planQueues_qinv hs h.incl hq sel hdown) ?_ ?_
  · intro sc dc p hsc _ hpe
    obtain ⟨hg, hqueue, hpw⟩ := prepare_inl_frame hs pr (hs.valid _ _ hsc) hpe
    exact after_qinv_wonly hs hq hg hqueue (fun x hx => hpw _ _ x hx)
  · intro sc dc l4 pushW hsc _ hpe hnaq
    have hsclt : sc < s.g.size := hs.valid _ _ hsc
    obtain ⟨hw, rfl⟩ := prepare_inr hs pr hsclt hpe
    have hpw : ∀ (g : Graph) (m : RefMap) (x : Ref), (∀ d src, x ≠ .w d src) →
        (applyOps g noRej m (pushWOps l4 pr ((s.targets pr.dst).drop 1))).get x = m.get x :=
      fun g m x hx => pushWOps_other g noRej _ pr _ m x hx
    refine ⟨after_qinv_wonly hs hq hw.gext rfl (fun x hx => hpw _ _ x hx), fun hneed => ?_, fun _ hneed => ?_⟩
    · have huq := isNeeded_true hneed
      apply enqueue_qinv hs hq huq hw pr hpw
      · intro d hd
        rw [alreadyQueued, huq, Bool.true_and, List.any_eq_false] at hnaq
        exact RefMap.has_eq_false.mp (Bool.eq_false_iff.mpr (hnaq d hd))
      · intro hin
        rw [hidq hin] at hnaq; cases hnaq
    · -- the queue is not needed: nothing is queued, and no queue branch survives the direct merge
      have hqe : s.queue = [] := by
        rcases isNeeded_false hneed with hu | hqe
        · exact (hq.noq hu).1
        · exact hqe
      have h4q : ∀ d, l4.refs.get (.q d) = s.remote.get (.q d) :=
        fun d => hw.dests _ (fun _ _ he => by cases he)
      apply QInv.of_empty
      · exact (directMerge_queue s l4 pr sc _ _).trans hqe
      · exact directMerge_noq (s := s) pr (sc := sc) (s.targets pr.dst)
          (fun hu d => by rw [h4q]; exact (hq.noq hu).2 d) s.remote (fun d => (h4q d).symm) hpw

end BertE.Flow
