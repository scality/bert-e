import BertE.Lemmas.C02Content
/- C02, recovery of the jobs whose plan is ONE atomic pruning push or nothing (queue merge, declined pull request,
   reset, rebuild / delete queues): interrupted anywhere, anything refused, the remote is where it was (same plan
   again) or what the uninterrupted job leaves (the event delivered again changes nothing). -/
namespace BertE.Flow
open BertE.Git

/-- the uninterrupted, unrefused application of a plan -/
def rec_done (s : Sys) (p : Plan) : RefMap := applyOps p.g noRej s.remote p.ops

theorem rec_single_push (g : Graph) (rej : Nat → Ref → Bool) (k : Nat) (remote loc : RefMap) :
    applyOpsAt g rej 0 remote ([Op.pushAll loc true].take k) = remote ∨
    (applyOpsAt g rej 0 remote ([Op.pushAll loc true].take k) = loc ∧
      applyOps g noRej remote [Op.pushAll loc true] = loc) := by
  cases k with
  | zero => exact Or.inl rfl
  | succ k =>
    simp only [List.take_succ_cons, List.take_nil, applyOpsAt, applyOp, applyOps, List.foldl_cons, List.foldl_nil]
    split
    · rename_i hc
      -- what the server accepts with some refs refused, it accepts with none refused
      refine Or.inr ⟨rfl, if_pos ?_⟩
      simp only [Bool.and_eq_true, Bool.or_eq_true, List.all_eq_true, noRej] at hc ⊢
      exact ⟨fun rc h => (hc.1 rc h).imp id (And.imp_right fun _ => rfl), Or.inr fun _ _ => Or.inr rfl⟩
    · exact Or.inl rfl

def rec_Single (ops : List Op) : Prop := ops = [] ∨ ∃ loc, ops = [Op.pushAll loc true]

theorem rec_single_observable {s : Sys} {p : Plan} (hp : rec_Single p.ops) (rej : Nat → Ref → Bool) (k : Nat) :
    observableAt s p rej k = s.remote ∨ observableAt s p rej k = rec_done s p := by
  unfold observableAt rec_done
  rcases hp with h | ⟨loc, h⟩
  · rw [h, List.take_nil]; exact Or.inl rfl
  · rw [h]
    rcases rec_single_push p.g rej k s.remote loc with h1 | ⟨h1, h2⟩
    · exact Or.inl h1
    · exact Or.inr (h1.trans h2.symm)

theorem rec_interrupted_self {s : Sys} {p : Plan} (hg : p.g = s.g) {rej : Nat → Ref → Bool} {k : Nat}
    (h : observableAt s p rej k = s.remote) : interrupted s p rej k = s := by
  unfold interrupted
  rw [h, hg]

theorem rec_planQueues_single (s : Sys) (sel : List Nat) : rec_Single (planQueues s sel).ops := by
  unfold planQueues
  simp only
  split
  · exact Or.inl rfl
  · exact Or.inr ⟨_, rfl⟩

/-- the pull requests that a queue merge has merged are not selected again -/
theorem rec_planQueues_again (s : Sys) (sel : List Nat) (g : Graph) (m : RefMap) :
    (planQueues { s with g := g, remote := m, queue := (planQueues s sel).queue } sel).ops = [] := by
  have hq : ((planQueues s sel).queue.filter (fun e => sel.contains e.pr)) = [] := by
    unfold planQueues
    simp only
    split
    · next h => exact List.isEmpty_iff.mp h
    · simp [List.filter_filter]
  generalize (planQueues s sel).queue = q at hq
  unfold planQueues
  simp only [hq, List.isEmpty_nil, if_true]

theorem rec_mem_delRefs (rs : List Ref) (m : RefMap) (rc : Ref × Commit) (h : rc ∈ delRefs m rs) :
    rc ∈ m ∧ rc.1 ∉ rs :=
  mem_delRefs_iff.mp h

theorem rec_allQRefs_gone (m : RefMap) : allQRefs (delRefs m (allQRefs m)) = [] := by
  unfold allQRefs
  simp only [List.map_eq_nil_iff, List.filter_eq_nil_iff]
  intro rc hrc hq
  obtain ⟨h1, h2⟩ := rec_mem_delRefs _ m rc hrc
  apply h2
  simp only [List.mem_map, List.mem_filter]
  exact ⟨rc, ⟨h1, hq⟩, rfl⟩

theorem rec_wRefs_gone (m : RefMap) (rs : List Ref) :
    rs.filter (fun r => (delRefs m (rs.filter (fun r => m.has r))).has r) = [] := by
  rw [List.filter_eq_nil_iff]
  intro r hr hh
  obtain ⟨c, hc⟩ := (RefMap.has_iff _ _).mp hh
  obtain ⟨hnot, hm⟩ := get_delRefs_eq_some.mp hc
  exact hnot (List.mem_filter.mpr ⟨hr, RefMap.has_of_get hm⟩)

theorem rec_push_self (g : Graph) (m : RefMap) : applyOps g noRej m [Op.pushAll m true] = m :=
  applyOp_pushAll_noRej g fun _ _ h => Or.inl h

/-- the operations of a clean-up job as a function of the remote alone -/
def rec_cleanOps (s : Sys) (ev : Event) (m : RefMap) : List Op := (plan { s with remote := m } ev).ops

theorem rec_cleanup_ops (s : Sys) (ev : Event)
    (hev : (∃ pr cd, ev = .evalDeclined pr cd) ∨ (∃ pr, ev = .reset pr) ∨ ev = .dropQueues)
    (m : RefMap) (q : List QEntry) :
    (plan { s with remote := m, queue := q } ev).ops = rec_cleanOps s ev m ∧
    (plan { s with remote := m, queue := q } ev).g = s.g := by
  unfold rec_cleanOps
  rcases hev with ⟨pr, cd, rfl⟩ | ⟨pr, rfl⟩ | rfl
  · simp only [plan, planDeclined]
    have ht : ∀ q', Sys.targets { s with remote := m, queue := q' } pr.dst = s.targets pr.dst := fun _ => rfl
    simp only [ht]
    split <;> exact ⟨rfl, rfl⟩
  · simp only [plan, planReset]
    have ht : ∀ q', Sys.targets { s with remote := m, queue := q' } pr.dst = s.targets pr.dst := fun _ => rfl
    simp only [ht]
    split <;> exact ⟨rfl, rfl⟩
  · simp only [plan, planDropQueues]
    split <;> simp

theorem rec_cleanOps_shape (s : Sys) (ev : Event)
    (hev : (∃ pr cd, ev = .evalDeclined pr cd) ∨ (∃ pr, ev = .reset pr) ∨ ev = .dropQueues) (m : RefMap) :
    rec_cleanOps s ev m = [] ∨ ∃ loc, rec_cleanOps s ev m = [Op.pushAll loc true] ∧
      (rec_cleanOps s ev loc = [] ∨ rec_cleanOps s ev loc = [Op.pushAll loc true]) := by
  unfold rec_cleanOps
  rcases hev with ⟨pr, cd, rfl⟩ | ⟨pr, rfl⟩ | rfl
  · simp only [plan, planDeclined]
    have ht : ∀ m', Sys.targets { s with remote := m' } pr.dst = s.targets pr.dst := fun _ => rfl
    simp only [ht]
    split
    · exact Or.inl rfl
    · right
      refine ⟨_, rfl, ?_⟩
      simp only [rec_wRefs_gone, List.isEmpty_nil, Bool.true_and]
      split
      · exact Or.inl rfl
      · exact Or.inr rfl
  · simp only [plan, planReset]
    have ht : ∀ m', Sys.targets { s with remote := m' } pr.dst = s.targets pr.dst := fun _ => rfl
    simp only [ht]
    split
    · exact Or.inl rfl
    · right
      refine ⟨_, rfl, ?_⟩
      simp [rec_wRefs_gone]
  · simp only [plan, planDropQueues]
    split
    · exact Or.inl rfl
    · right
      refine ⟨_, rfl, ?_⟩
      simp [rec_allQRefs_gone]

theorem rec_cleanup_single (s : Sys) (ev : Event)
    (hev : (∃ pr cd, ev = .evalDeclined pr cd) ∨ (∃ pr, ev = .reset pr) ∨ ev = .dropQueues) :
    rec_Single (plan s ev).ops ∧ (plan s ev).g = s.g := by
  obtain ⟨h1, h2⟩ := rec_cleanup_ops s ev hev s.remote s.queue
  refine ⟨?_, h2⟩
  rw [show (plan s ev).ops = _ from h1]
  rcases rec_cleanOps_shape s ev hev s.remote with h | ⟨loc, h, _⟩
  · exact Or.inl h
  · exact Or.inr ⟨loc, h⟩

theorem rec_again_generic (g : Graph) (opsOf : RefMap → List Op) (m : RefMap)
    (h1 : opsOf m = [] ∨ ∃ loc, opsOf m = [Op.pushAll loc true] ∧
      (opsOf loc = [] ∨ opsOf loc = [Op.pushAll loc true])) :
    applyOps g noRej (applyOps g noRej m (opsOf m)) (opsOf (applyOps g noRej m (opsOf m))) =
      applyOps g noRej m (opsOf m) := by
  rcases h1 with h | ⟨loc, h, h2⟩
  · have : applyOps g noRej m (opsOf m) = m := by rw [h]; rfl
    rw [this, this]
  · have hm2 : applyOps g noRej m (opsOf m) = loc ∨ applyOps g noRej m (opsOf m) = m := by
      rw [h]
      exact applyOp_pushAll_cases g noRej m loc true
    rcases hm2 with h3 | h3
    · rw [h3]
      rcases h2 with h4 | h4
      · rw [h4]; rfl
      · rw [h4]; exact rec_push_self g loc
    · rw [h3, h3]

/-- delivered again, a clean-up job plans nothing, or - declined pull request whose integration pull requests were
    declined - a push of exactly what the remote has -/
theorem rec_cleanup_again (s : Sys) (ev : Event)
    (hev : (∃ pr cd, ev = .evalDeclined pr cd) ∨ (∃ pr, ev = .reset pr) ∨ ev = .dropQueues) (q : List QEntry) :
    rec_done { s with remote := rec_done s (plan s ev), queue := q }
      (plan { s with remote := rec_done s (plan s ev), queue := q } ev) = rec_done s (plan s ev) := by
  have h0 : (plan s ev).ops = rec_cleanOps s ev s.remote ∧ (plan s ev).g = s.g :=
    rec_cleanup_ops s ev hev s.remote s.queue
  have h1 := rec_cleanup_ops s ev hev (rec_done s (plan s ev)) q
  unfold rec_done at h1 ⊢
  rw [h1.1, h1.2, h0.1, h0.2]
  exact rec_again_generic s.g (rec_cleanOps s ev) s.remote (rec_cleanOps_shape s ev hev s.remote)

end BertE.Flow
