import BertE.Lemmas.StepAdmin
/- Every event of the model preserves the invariant; histories. -/
namespace BertE.Flow
open BertE.Git

/-- What an event needs of the state it is applied to.
    * a queue selection is closed downwards (a prefix per independent queue: what `QueueCollection` selects, C05);
    * a pull request that is recorded as queued has its queue branches (so that it is found "already queued");
    * `create_branch`: the branching point exists, the branch does not, and `BranchCascade.validate()` accepted the
      clone including the new branch (its inclusion checks are literally `InclOn`);
    * `delete_branch`: no queued pull request targets the branch (`has_version_queued_prs`);
    * third-party pushes only mention existing commits. -/
def Adm (s : Sys) : Event → Prop
  | .evalPr pr _ _ sel => DownClosed s sel ∧ (pr.id ∈ s.queue.map (·.pr) → alreadyQueued s pr = true)
  | .evalQueues sel => DownClosed s sel
  | .createBranch d c => c < s.g.size ∧ s.remote.get (.dest d) = none ∧ InclOn s.g (s.remote.set (.dest d) c)
  | .deleteBranch d => ∀ e ∈ s.queue, d ∉ e.targets
  | .extSet _ ps _ => ∀ p ∈ ps, p < s.g.size
  | .extPoint _ c => c < s.g.size
  | _ => True

theorem step_inv {s : Sys} (h : Inv s) (ev : Event) (hadm : Adm s ev) : Inv (step s ev).1 := by
  cases ev with
  | evalPr pr stage orc sel =>
    exact planPr_inv h pr stage orc sel hadm.1 hadm.2
  | evalDeclined pr cd => exact planDeclined_inv h pr cd
  | reset pr => exact planReset_inv h pr
  | evalQueues sel => exact planQueues_inv h sel hadm
  | dropQueues => exact planDropQueues_inv h
  | createBranch d c =>
    obtain ⟨hc, habs, hincl1⟩ := hadm
    cases d with
    | dev M m =>
      exact createBranch_inv h (.dev M m) c hc habs hincl1 (insertKey (M, m) s.devs) s.stabs
        (sorted_insertKey _ h.wf.sorted) (fun k hk => mem_insertKey.mpr (Or.inr hk))
        (fun M' m' he => by
          simp only [Dest.dev.injEq] at he
          rw [← he.1, ← he.2]; exact mem_insertKey.mpr (Or.inl rfl))
    | stab M m u =>
      exact createBranch_inv h (.stab M m u) c hc habs hincl1 s.devs ((M, m, u) :: s.stabs)
        h.wf.sorted (fun k hk => hk) (fun M' m' he => by cases he)
    | hotfix M m u =>
      exact createBranch_inv h (.hotfix M m u) c hc habs hincl1 s.devs s.stabs
        h.wf.sorted (fun k hk => hk) (fun M' m' he => by cases he)
  | deleteBranch d =>
    cases d with
    | dev M m =>
      exact deleteBranch_inv h (.dev M m) hadm (s.devs.filter (· != (M, m))) s.stabs
        (List.Pairwise.sublist List.filter_sublist h.wf.sorted)
        (fun k hk hne => List.mem_filter.mpr ⟨hk, by simpa using hne M m rfl⟩)
    | stab M m u =>
      exact deleteBranch_inv h (.stab M m u) hadm s.devs (s.stabs.filter (· != (M, m, u)))
        h.wf.sorted (fun k hk _ => hk)
    | hotfix M m u =>
      exact deleteBranch_inv h (.hotfix M m u) hadm s.devs s.stabs h.wf.sorted (fun k hk _ => hk)
  | extSet n ps t => exact extSet_inv h n ps t hadm
  | extW d src => exact extW_inv h d src
  | extDelete n => exact extDelete_inv h n
  | extPoint n c => exact extPoint_inv h n c hadm

def run (s : Sys) : List Event → Sys
  | [] => s
  | ev :: evs => run (step s ev).1 evs

def AdmAll (s : Sys) : List Event → Prop
  | [] => True
  | ev :: evs => Adm s ev ∧ AdmAll (step s ev).1 evs

theorem admAll_take : ∀ (evs : List Event) (s : Sys), AdmAll s evs → ∀ k, AdmAll s (evs.take k)
  | [], _, _, k => by simp [AdmAll]
  | ev :: evs, s, hadm, k => by
    cases k with
    | zero => simp [AdmAll]
    | succ k => exact ⟨hadm.1, admAll_take evs _ hadm.2 k⟩

theorem run_inv : ∀ (evs : List Event) {s : Sys}, Inv s → AdmAll s evs → Inv (run s evs)
  | [], _, h, _ => h
  | ev :: evs, _, h, hadm => run_inv evs (step_inv h ev hadm.1) hadm.2

end BertE.Flow
