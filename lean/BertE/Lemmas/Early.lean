import BertE.Model.Early
import BertE.Lemmas.RefMap
import BertE.Lemmas.Flow
import BertE.Lemmas.Reactor
/- The pre-clone decision (`Model/Early.lean`), what the queue merge and the reset do to the refs, who enters the
   queue. -/
namespace BertE.Early
open BertE.Reactor BertE.Flow

theorem raise_isProceed (t : Tbl) (cls : String) : (raise_ t cls).isProceed = false := by
  unfold raise_
  split <;> rfl

theorem raise_ne_command (t : Tbl) (cls n : String) (a : List String) : raise_ t cls ≠ .command n a := by
  unfold raise_
  split <;> exact fun h => nomatch h

theorem raise_message {t : Tbl} {cls c : String} (h : raise_ t cls = .message c) :
    c = cls ∧ t.kind cls = some "template" := by
  unfold raise_ at h
  split at h
  · cases h
  · next hk => cases h; exact ⟨rfl, hk⟩
  · cases h

theorem raise_silent {t : Tbl} {cls : String} (h : t.kind cls = some "silent") : raise_ t cls = .silent cls := by
  simp [raise_, h]

theorem earlyChecks_none_iff (t : Tbl) (i : Input) :
    earlyChecks t i = none ↔
      t.handled.contains i.status = true ∧ isProducer t i.src = .ok true ∧ isConsumer t i.dst = .ok true ∧
      i.dstExists = true := by
  fun_cases earlyChecks t i <;> simp_all

theorem earlyChecks_stop_or {t : Tbl} {i : Input} {d : Decision} (h : earlyChecks t i = some d) :
    d = raise_ t "NothingToDo" ∨ d = raise_ t "NotMyJob" ∨ d = raise_ t "WrongDestination" ∨ ∃ e, d = .crash e := by
  revert h
  fun_cases earlyChecks t i
  all_goals
    intro h
    cases h
  all_goals simp

theorem earlyChecks_isProceed {t : Tbl} {i : Input} {d : Decision} (h : earlyChecks t i = some d) :
    d.isProceed = false := by
  rcases earlyChecks_stop_or h with rfl | rfl | rfl | ⟨e, rfl⟩
  · exact raise_isProceed _ _
  · exact raise_isProceed _ _
  · exact raise_isProceed _ _
  · rfl

theorem earlyChecks_stop {t : Tbl} {i : Input}
    (h : ¬ (t.handled.contains i.status = true ∧ isProducer t i.src = .ok true ∧ isConsumer t i.dst = .ok true)) :
    ∃ d, earlyChecks t i = some d ∧
      (d = raise_ t "NothingToDo" ∨ d = raise_ t "NotMyJob" ∨ ∃ e, d = .crash e) := by
  fun_cases earlyChecks t i
  case case6 hs hp hc _ => exact absurd ⟨by simpa using hs, hp, hc⟩ h
  case case7 hs hp hc _ => exact absurd ⟨by simpa using hs, hp, hc⟩ h
  all_goals simp

theorem checkDependencies_some {t : Tbl} {prs : List (Nat × String)} {st : State} {d : Decision}
    (h : checkDependencies t prs st = some d) :
    d = raise_ t "NothingToDo" ∨ d = raise_ t "IncorrectPullRequestNumber" ∨ d = raise_ t "AfterPullRequest" ∨
      ∃ e, d = .crash e := by
  revert h
  fun_cases checkDependencies t prs st
  all_goals
    intro h
    cases h
  all_goals simp

theorem checkDependencies_isProceed {t : Tbl} {prs : List (Nat × String)} {st : State} {d : Decision}
    (h : checkDependencies t prs st = some d) : d.isProceed = false := by
  rcases checkDependencies_some h with rfl | rfl | rfl | ⟨e, rfl⟩
  · exact raise_isProceed _ _
  · exact raise_isProceed _ _
  · exact raise_isProceed _ _
  · rfl

theorem lookupAll_of_all {prs : List (Nat × String)} : ∀ {ids : List String},
    (∀ id ∈ ids, (prs.lookup (pyIntVal id)).isSome = true) →
    ∃ sts, lookupAll prs ids = some sts
  | [], _ => ⟨[], rfl⟩
  | id :: ids, h => by
    obtain ⟨rest, hr⟩ := lookupAll_of_all (fun x hx => h x (List.mem_cons_of_mem _ hx))
    have h1 := h id List.mem_cons_self
    cases hl : prs.lookup (pyIntVal id) with
    | none => rw [hl] at h1; cases h1
    | some s => exact ⟨s :: rest, by simp [lookupAll, hl, hr]⟩

/-- the test `len(after_prs) != len(merged)` of `check_dependencies`, with `p` for "counts as merged" -/
theorem lookupAll_count {prs : List (Nat × String)} (p : String → Bool) : ∀ {ids sts : List String},
    lookupAll prs ids = some sts →
      (sts.filter p).length ≤ ids.length ∧
      (ids.length = (sts.filter p).length ↔ ∀ id ∈ ids, ∃ s, prs.lookup (pyIntVal id) = some s ∧ p s = true)
  | [], sts, h => by
    simp only [lookupAll, Option.some.injEq] at h
    subst h
    simp
  | id :: ids, sts, h => by
    unfold lookupAll at h
    cases hl : prs.lookup (pyIntVal id) with
    | none => rw [hl] at h; cases h
    | some s =>
      cases hr : lookupAll prs ids with
      | none => rw [hl, hr] at h; cases h
      | some rest =>
        rw [hl, hr] at h
        simp only [Option.some.injEq] at h
        subst h
        obtain ⟨hle, ih⟩ := lookupAll_count p hr
        simp only [List.filter_cons, List.length_cons, List.mem_cons, forall_eq_or_imp, hl, Option.some.injEq,
          exists_eq_left']
        cases hp : p s
        · simp only [Bool.false_eq_true, if_false, false_and, iff_false]
          omega
        · simp only [if_true, List.length_cons, Nat.add_right_cancel_iff, true_and]
          exact ⟨by omega, ih⟩

theorem flagOf_classified {t : Tbl} {f : BertE.Names.Kind → Option Bool} {name : List Char} {b : Bool}
    (h : flagOf t f name = .ok b) : ∃ p, BertE.Names.classify t.names name = some p := by
  unfold flagOf at h
  cases hc : BertE.Names.classify t.names name with
  | none => rw [hc] at h; cases h
  | some p => exact ⟨p, rfl⟩

theorem handleInner_stopped {t : Tbl} {i : Input} {d : Decision} (h : earlyChecks t i = some d) :
    handleInner t i = ⟨d, false⟩ := by
  unfold handleInner; rw [h]

/-- once `early_checks` passed, the two `branch_factory` calls cannot fail -/
theorem handleInner_passed {t : Tbl} {i : Input} (h : earlyChecks t i = none) :
    handleInner t i =
      match i.comments with
      | .error e => ⟨raise_ t (errClass e), !i.greeted⟩
      | .crash w => ⟨.crash w, !i.greeted⟩
      | .command _ name args => ⟨.command name args, !i.greeted⟩
      | .ok st =>
        match checkDependencies t i.prs st with
        | some d => ⟨d, !i.greeted⟩
        | none => ⟨.proceed st, !i.greeted⟩ := by
  obtain ⟨_, hp, hc, _⟩ := (earlyChecks_none_iff t i).mp h
  obtain ⟨ps, hps⟩ := flagOf_classified hp
  obtain ⟨pd, hpd⟩ := flagOf_classified hc
  unfold handleInner
  rw [h]
  simp only [hps, hpd]
  cases i.comments <;> rfl

/-- the exits of `handle_pull_request` before `clone_git_repo`, in the order of the code -/
theorem handlePr_cases (t : Tbl) (i : Input) :
    (i.authorIsRobot = true ∧ handlePr t i = ⟨.redirect, false⟩) ∨
    (i.authorIsRobot = false ∧
      ((∃ d, earlyChecks t i = some d ∧ handlePr t i = ⟨d, false⟩) ∨
       (earlyChecks t i = none ∧
         ((∃ e, i.comments = .error e ∧ handlePr t i = ⟨raise_ t (errClass e), !i.greeted⟩) ∨
          (∃ w, i.comments = .crash w ∧ handlePr t i = ⟨.crash w, !i.greeted⟩) ∨
          (∃ st n a, i.comments = .command st n a ∧ handlePr t i = ⟨.command n a, !i.greeted⟩) ∨
          (∃ st, i.comments = .ok st ∧
            ((∃ d, checkDependencies t i.prs st = some d ∧ handlePr t i = ⟨d, !i.greeted⟩) ∨
             (checkDependencies t i.prs st = none ∧ handlePr t i = ⟨.proceed st, !i.greeted⟩))))))) := by
  cases hr : i.authorIsRobot
  · have hin : handlePr t i = handleInner t i := by simp [handlePr, hr]
    refine Or.inr ⟨rfl, ?_⟩
    rw [hin]
    cases hec : earlyChecks t i with
    | some d => exact Or.inl ⟨d, rfl, handleInner_stopped hec⟩
    | none =>
      refine Or.inr ⟨rfl, ?_⟩
      rw [handleInner_passed hec]
      cases i.comments with
      | error e => exact Or.inl ⟨e, rfl, rfl⟩
      | crash w => exact Or.inr (Or.inl ⟨w, rfl, rfl⟩)
      | command st n a => exact Or.inr (Or.inr (Or.inl ⟨st, n, a, rfl, rfl⟩))
      | ok st =>
        refine Or.inr (Or.inr (Or.inr ⟨st, rfl, ?_⟩))
        dsimp only
        cases checkDependencies t i.prs st with
        | some d => exact Or.inl ⟨d, rfl, rfl⟩
        | none => exact Or.inr ⟨rfl, rfl⟩
  · exact Or.inl ⟨rfl, by simp [handlePr, hr]⟩

theorem handlePr_proceed_iff {t : Tbl} {i : Input} {st : State} :
    (handlePr t i).decision = .proceed st ↔
      i.authorIsRobot = false ∧ earlyChecks t i = none ∧ i.comments = .ok st ∧
        checkDependencies t i.prs st = none := by
  constructor
  · intro hd
    rcases handlePr_cases t i with ⟨_, h⟩ | ⟨hr, ⟨d, hec, h⟩ | ⟨hec, ⟨e, _, h⟩ | ⟨w, _, h⟩ | ⟨st', n, a, _, h⟩ |
      ⟨st', hc, ⟨d, hcd, h⟩ | ⟨hcd, h⟩⟩⟩⟩
    all_goals
      rw [h] at hd
      dsimp only at hd
    · cases hd
    · have := earlyChecks_isProceed hec
      rw [hd] at this; cases this
    · have := raise_isProceed t (errClass e)
      rw [hd] at this; cases this
    · cases hd
    · cases hd
    · have := checkDependencies_isProceed hcd
      rw [hd] at this; cases this
    · cases hd
      exact ⟨hr, hec, hc, hcd⟩
  · rintro ⟨hr, hec, hc, hcd⟩
    simp [handlePr, hr, handleInner_passed hec, hc, hcd]

theorem handlePr_message {t : Tbl} {i : Input} {c : String} (hd : (handlePr t i).decision = .message c) :
    earlyChecks t i = some (.message c) ∨
    (∃ e, i.comments = .error e ∧ raise_ t (errClass e) = .message c) ∨
    (∃ st, i.comments = .ok st ∧ checkDependencies t i.prs st = some (.message c)) := by
  rcases handlePr_cases t i with ⟨_, h⟩ | ⟨_, ⟨d, hec, h⟩ | ⟨_, ⟨e, hc, h⟩ | ⟨w, _, h⟩ | ⟨st, n, a, _, h⟩ |
    ⟨st, hc, ⟨d, hcd, h⟩ | ⟨_, h⟩⟩⟩⟩
  all_goals
    rw [h] at hd
    dsimp only at hd
  · cases hd
  · exact Or.inl (hd ▸ hec)
  · exact Or.inr (Or.inl ⟨e, hc, hd⟩)
  · cases hd
  · cases hd
  · exact Or.inr (Or.inr ⟨st, hc, hd ▸ hcd⟩)
  · cases hd

theorem mem_notified {r : Result} {c : String} (h : c ∈ r.notified) :
    c = "InitMessage" ∨ r.decision = .message c := by
  unfold Result.notified at h
  rcases List.mem_append.mp h with h | h
  · split at h
    · simp only [List.mem_cons, List.not_mem_nil, or_false] at h; exact Or.inl h
    · cases h
  · split at h
    · next c' hd => simp only [List.mem_cons, List.not_mem_nil, or_false] at h; subst h; exact Or.inr hd
    · cases h

theorem notified_length (r : Result) : r.notified.length ≤ 2 := by
  unfold Result.notified
  cases r.greeting <;> cases r.decision <;> simp

theorem notified_of_not_message {r : Result} (hg : r.greeting = false) (hm : ∀ c, r.decision ≠ .message c) :
    r.notified = [] := by
  rcases r with ⟨d, g⟩
  simp only at hg hm
  subst hg
  cases d with
  | message c => exact absurd rfl (hm c)
  | _ => rfl

theorem handlePr_command {t : Tbl} {i : Input} {n : String} {a : List String}
    (hd : (handlePr t i).decision = .command n a) : ∃ st, i.comments = .command st n a := by
  rcases handlePr_cases t i with ⟨_, h⟩ | ⟨_, ⟨d, hec, h⟩ | ⟨_, ⟨e, _, h⟩ | ⟨w, _, h⟩ | ⟨st, n', a', hc, h⟩ |
    ⟨st, _, ⟨d, hcd, h⟩ | ⟨_, h⟩⟩⟩⟩
  all_goals
    rw [h] at hd
    dsimp only at hd
  · cases hd
  · rcases earlyChecks_stop_or hec with rfl | rfl | rfl | ⟨e, rfl⟩
    · exact absurd hd (raise_ne_command _ _ _ _)
    · exact absurd hd (raise_ne_command _ _ _ _)
    · exact absurd hd (raise_ne_command _ _ _ _)
    · cases hd
  · exact absurd hd (raise_ne_command _ _ _ _)
  · cases hd
  · cases hd
    exact ⟨st, hc⟩
  · rcases checkDependencies_some hcd with rfl | rfl | rfl | ⟨e, rfl⟩
    · exact absurd hd (raise_ne_command _ _ _ _)
    · exact absurd hd (raise_ne_command _ _ _ _)
    · exact absurd hd (raise_ne_command _ _ _ _)
    · cases hd
  · cases hd

theorem mergeTargets_get (pr : Nat) (src : String) (ts : List Dest) (m : RefMap) (x : Ref) :
    (mergeTargets pr src m ts).get x = m.get x ∨
      ∃ d ∈ ts, x = .dest d ∧ (mergeTargets pr src m ts).get x = m.get (.qw pr d src) :=
  (mergeTargets_cases pr src ts m x).imp_right fun ⟨d, hd, _, hx, hc, h⟩ => ⟨d, hd, hx, h.trans hc.symm⟩

theorem mergeEntries_get (m0 : RefMap) : ∀ (es : List QEntry) (m : RefMap),
    (∀ pr d src, m.get (.qw pr d src) = m0.get (.qw pr d src)) →
    (∀ pr d src, (es.foldl mergeEntry m).get (.qw pr d src) = m0.get (.qw pr d src)) ∧
    ∀ d, (es.foldl mergeEntry m).get (.dest d) = m.get (.dest d) ∨
      ∃ e ∈ es, d ∈ e.targets ∧ (es.foldl mergeEntry m).get (.dest d) = m0.get (.qw e.pr d e.src)
  | [], m, hq => ⟨hq, fun _ => Or.inl rfl⟩
  | e :: es, m, hq => by
    simp only [List.foldl_cons]
    have hq' : ∀ pr d src, (mergeEntry m e).get (.qw pr d src) = m0.get (.qw pr d src) := by
      intro pr d src
      rcases mergeTargets_get e.pr e.src e.targets m (.qw pr d src) with h | ⟨_, _, hx, _⟩
      · exact h.trans (hq pr d src)
      · cases hx
    obtain ⟨h1, h2⟩ := mergeEntries_get m0 es (mergeEntry m e) hq'
    refine ⟨h1, ?_⟩
    intro d
    rcases h2 d with h | ⟨e', he', hd, h⟩
    · rw [h]
      simp only [mergeEntry]
      rcases mergeTargets_get e.pr e.src e.targets m (.dest d) with h' | ⟨d', hd, hx, h'⟩
      · exact Or.inl h'
      · cases hx
        exact Or.inr ⟨e, List.mem_cons_self, hd, h'.trans (hq _ _ _)⟩
    · exact Or.inr ⟨e', List.mem_cons_of_mem _ he', hd, h⟩

theorem planQueues_dest (s : Sys) (sel : List Nat) (d : Dest) :
    (applyOps (planQueues s sel).g noRej s.remote (planQueues s sel).ops).get (.dest d) = s.remote.get (.dest d) ∨
    ∃ e ∈ s.queue, sel.contains e.pr = true ∧ d ∈ e.targets ∧
      (applyOps (planQueues s sel).g noRej s.remote (planQueues s sel).ops).get (.dest d)
        = s.remote.get (.qw e.pr d e.src) := by
  unfold planQueues
  simp only
  split
  · left; rfl
  · simp only [applyOps, List.foldl_cons, List.foldl_nil, applyOp]
    split
    · simp only [if_true]
      rw [get_delRefs]
      have hnot : Ref.dest d ∉ (s.queue.filter (fun e => sel.contains e.pr)).flatMap (fun e =>
          e.targets.flatMap (fun d => [Ref.qw e.pr d e.src, Ref.w d e.src])) := by
        simp only [List.mem_flatMap, List.mem_cons, List.not_mem_nil, or_false, not_exists, not_and]
        intro e _ d' _ h
        rcases h with h | h <;> cases h
      rw [if_neg hnot]
      rcases (mergeEntries_get s.remote (s.queue.filter (fun e => sel.contains e.pr)) s.remote
          (fun _ _ _ => rfl)).2 d with h | ⟨e, he, hd, h⟩
      · exact Or.inl h
      · obtain ⟨hmem, hsel⟩ := List.mem_filter.mp he
        exact Or.inr ⟨e, hmem, hsel, hd, h⟩
    · left; rfl

theorem planQueues_queue (s : Sys) (sel : List Nat) : ∀ e ∈ (planQueues s sel).queue, e ∈ s.queue := by
  intro e
  fun_cases planQueues s sel
  · exact id
  · exact fun he => (List.mem_filter.mp he).1

theorem enqueue_queue (s : Sys) (l4 : Loc) (pr : PrInfo) (ts : List Dest) (pre : List Op) :
    ∀ e ∈ (enqueue s l4 pr ts pre).queue, e ∈ s.queue ∨ e.pr = pr.id := by
  intro e
  fun_cases enqueue s l4 pr ts pre
  case case6 =>
    intro he
    rcases List.mem_append.mp he with h | h
    · exact Or.inl h
    · exact Or.inr (by rw [List.mem_singleton.mp h])
  all_goals exact Or.inl

theorem directMerge_queue (s : Sys) (l4 : Loc) (pr : PrInfo) (sc : BertE.Git.Commit) (ts : List Dest) (pre : List Op) :
    (directMerge s l4 pr sc ts pre).queue = s.queue :=
  BertE.Flow.directMerge_queue s l4 pr sc ts pre

theorem prepare_queue (s : Sys) (pr : PrInfo) (sc dc : BertE.Git.Commit) (orc : List Bool) (p : Plan)
    (h : prepare s pr sc dc orc = .inl p) : p.queue = s.queue := by
  revert h
  fun_cases prepare s pr sc dc orc
  all_goals
    intro h
    cases h
  all_goals rfl

theorem planPr_queue (s : Sys) (pr : PrInfo) (stage : Stage) (orc : List Bool) (sel : List Nat) :
    ∀ e ∈ (planPr s pr stage orc sel).queue, e ∈ s.queue ∨ (e.pr = pr.id ∧ stage = .final) := by
  intro e
  fun_cases planPr s pr stage orc sel
  case case5 => exact fun he => Or.inl (planQueues_queue s sel e he)
  case case6 p hp => exact fun he => Or.inl (prepare_queue s pr _ _ orc p hp ▸ he)
  case case8 hne _ _ _ _ _ _ _ _ _ hni _ =>
    intro he
    have hfin : stage = .final := by
      cases stage
      · exact absurd rfl hne
      · exact absurd rfl hni
      · rfl
    exact (enqueue_queue _ _ _ _ _ e he).imp_right fun h => ⟨h, hfin⟩
  case case9 => exact fun he => Or.inl (directMerge_queue .. ▸ he)
  all_goals exact Or.inl

theorem step_queue (s : Sys) (ev : Event) : (step s ev).1.queue = (plan s ev).queue := by
  cases ev with
  | extW d src => simp only [step]; split <;> rfl
  | createBranch d c => cases d <;> rfl
  | deleteBranch d => cases d <;> rfl
  | _ => rfl

theorem step_keeps_out (s : Sys) (p : Nat) (ev : Event) (h0 : ∀ e ∈ s.queue, e.pr ≠ p)
    (hev : ∀ pr st orc sel, ev = .evalPr pr st orc sel → pr.id = p → st ≠ .final) :
    ∀ e ∈ (step s ev).1.queue, e.pr ≠ p := by
  intro e he
  rw [step_queue] at he
  cases ev with
  | evalPr pr st orc sel =>
    rcases planPr_queue s pr st orc sel e he with h | ⟨h1, h2⟩
    · exact h0 e h
    · exact fun hep => hev pr st orc sel rfl (by rw [← h1, hep]) h2
  | evalDeclined pr cd =>
    simp only [plan, planDeclined] at he
    split at he <;> exact h0 e he
  | reset pr =>
    simp only [plan, planReset] at he
    split at he <;> exact h0 e he
  | evalQueues sel => exact h0 e (planQueues_queue s sel e he)
  | dropQueues =>
    simp only [plan, planDropQueues] at he
    split at he <;> cases he
  | createBranch d c =>
    simp only [plan, planCreateBranch] at he
    split at he
    · cases he
    · exact h0 e he
  | _ => exact h0 e he

def SettingsOK (st : State) : Prop :=
  (∃ w, st.get "wait" = some w) ∧ ∃ ids, st.get "after_pull_request" = some (.set ids)

def RegOK (reg : Registry) : Prop :=
  HandlersOK reg ∧ (reg.findOpt "wait").isSome = true ∧ (reg.findOpt "after_pull_request").isSome = true

instance (reg : Registry) : Decidable (RegOK reg) := by unfold RegOK; infer_instance

theorem initState_settingsOK {reg : Registry} (h : RegOK reg) : SettingsOK (initState reg) := by
  obtain ⟨hok, hw, ha⟩ := h
  constructor
  · rw [initState_get]
    cases hf : reg.findOpt "wait" with
    | none => rw [hf] at hw; cases hw
    | some o => exact ⟨o.dflt, rfl⟩
  · cases hf : reg.findOpt "after_pull_request" with
    | none => rw [hf] at ha; cases ha
    | some o =>
      obtain ⟨hmem, hn⟩ := Registry.findOpt_some hf
      have hh := (hok.apr o hmem hn).1
      exact initState_aprTyped hok ⟨o, hmem, hh⟩

theorem applyOption_settingsOK {reg : Registry} (hok : HandlersOK reg) {o : OptSpec} (ho : o ∈ reg.options)
    {st st' : State} {args : List String} (ht : SettingsOK st) (h : applyOption o st args = .ok st') :
    SettingsOK st' := by
  obtain ⟨⟨w, hw⟩, ⟨ids, hids⟩⟩ := ht
  rcases applyOption_ok h with ⟨hh, v, rfl⟩ | ⟨_, rfl | ⟨xs, rfl⟩⟩
  · refine ⟨?_, ids, by rw [State.get_set_ne _ _ _ _ (hok.setOpt_ne ho hh)]; exact hids⟩
    by_cases hn : "wait" = o.name
    · exact ⟨v, by rw [hn]; exact State.get_set_self _ _ _⟩
    · exact ⟨w, by rw [State.get_set_ne _ _ _ _ hn]; exact hw⟩
  · exact ⟨⟨w, hw⟩, ⟨ids, hids⟩⟩
  · exact ⟨⟨w, by rw [State.get_set_ne _ _ _ _ (by decide)]; exact hw⟩, ⟨_, State.get_set_self _ _ _⟩⟩

theorem handleComments_settingsOK {tok : OptTok} {ctok : CmdTok} {reg : Registry} (h : RegOK reg) {env : Env}
    {cs : List Comment} {st : State} (hs : (handleCommentsWith tok ctok reg env cs).state? = some st) :
    SettingsOK st :=
  optionPass_invariant (fun _ ho _ _ _ ht hap => applyOption_settingsOK h.1 ho ht hap) cs (initState reg) st
    (initState_settingsOK h) (handleCommentsWith_state hs)

variable {t : Tbl}

/-- what the theorems need of the source's data: the handled statuses are OPEN and DECLINED, only MERGED counts
    as merged, NothingToDo and NotMyJob are silent -/
structure TblOK (t : Tbl) : Prop where
  handled_sub : ∀ x ∈ t.handled, x ∈ ["OPEN", "DECLINED"]
  handled_sup : ∀ x ∈ ["OPEN", "DECLINED"], x ∈ t.handled
  merged_sub : ∀ x ∈ t.merged, x = "MERGED"
  merged_sup : "MERGED" ∈ t.merged
  nothing_silent : t.kind "NothingToDo" = some "silent"
  notmine_silent : t.kind "NotMyJob" = some "silent"

instance (t : Tbl) : Decidable (TblOK t) :=
  decidable_of_iff
    ((∀ x ∈ t.handled, x ∈ ["OPEN", "DECLINED"]) ∧ (∀ x ∈ ["OPEN", "DECLINED"], x ∈ t.handled) ∧
     (∀ x ∈ t.merged, x = "MERGED") ∧ "MERGED" ∈ t.merged ∧
     t.kind "NothingToDo" = some "silent" ∧ t.kind "NotMyJob" = some "silent")
    ⟨fun ⟨a, b, c, d, e, f⟩ => ⟨a, b, c, d, e, f⟩,
     fun h => ⟨h.handled_sub, h.handled_sup, h.merged_sub, h.merged_sup, h.nothing_silent, h.notmine_silent⟩⟩

theorem handled_iff (hT : TblOK t) (i : Input) : t.handled.contains i.status = true ↔ finished i = false := by
  unfold finished
  simp only [List.contains_iff_mem, Bool.not_eq_false']
  exact ⟨fun h => hT.handled_sub _ h, fun h => hT.handled_sup _ h⟩

theorem depMerged_iff (hT : TblOK t) (prs : List (Nat × String)) (id : String) :
    depMerged prs id = true ↔ ∃ s, prs.lookup (pyIntVal id) = some s ∧ t.merged.contains s = true := by
  unfold depMerged
  cases prs.lookup (pyIntVal id) with
  | none => simp
  | some s => simpa using ⟨fun h => h ▸ hT.merged_sup, hT.merged_sub s⟩

theorem earlyChecks_none (hT : TblOK t) (i : Input) :
    earlyChecks t i = none ↔
      finished i = false ∧ srcForeign t i = false ∧ dstForeign t i = false ∧ i.dstExists = true := by
  rw [earlyChecks_none_iff, handled_iff hT]
  unfold srcForeign dstForeign
  constructor
  · rintro ⟨h1, h2, h3, h4⟩
    rw [h2, h3]; exact ⟨h1, rfl, rfl, h4⟩
  · rintro ⟨h1, h2, h3, h4⟩
    refine ⟨h1, ?_, ?_, h4⟩
    · split at h2
      · assumption
      · cases h2
    · split at h3
      · assumption
      · cases h3

theorem checkDependencies_none (hT : TblOK t) (prs : List (Nat × String)) (st : State) (w : Val) (ids : List String)
    (hw : st.get "wait" = some w) (ha : st.get "after_pull_request" = some (.set ids)) :
    checkDependencies t prs st = none ↔ w.truthy = false ∧ ∀ id ∈ ids, depMerged prs id = true := by
  unfold checkDependencies
  rw [hw]
  simp only [ha]
  cases w.truthy
  · simp only [Bool.false_eq_true, if_false, true_and]
    cases hids : ids.isEmpty
    · simp only [Bool.false_eq_true, if_false]
      cases hl : lookupAll prs ids with
      | none =>
        simp only [reduceCtorEq, false_iff]
        intro hall
        obtain ⟨sts, hs⟩ := lookupAll_of_all (prs := prs) (ids := ids) (fun id hid => by
          obtain ⟨s, hs, _⟩ := (depMerged_iff hT prs id).mp (hall id hid)
          simp [hs])
        rw [hs] at hl; cases hl
      | some sts =>
        simp only [depMerged_iff hT, ← (lookupAll_count (fun s => t.merged.contains s) hl).2]
        split <;> simp_all
    · simp only [if_true, true_iff]
      intro id hid
      rw [List.isEmpty_iff.mp hids] at hid
      cases hid
  · simp

theorem waitSet_ok {i : Input} {st : State} (hc : i.comments = .ok st) :
    waitSet i = ((st.get "wait").map Val.truthy).getD false := by
  simp [waitSet, settingsOf, hc, Outcome.state?]

theorem checkDependencies_none_holds (hT : TblOK t) {i : Input} {st : State} (hc : i.comments = .ok st)
    (hcd : checkDependencies t i.prs st = none) : waitSet i = false ∧ depUnmet i = false := by
  unfold depUnmet depIds settingsOf
  rw [waitSet_ok hc, hc]
  simp only [Outcome.state?]
  unfold checkDependencies at hcd
  cases hw : st.get "wait" with
  | none => rw [hw] at hcd; cases hcd
  | some w =>
    cases ha : st.get "after_pull_request" with
    | none =>
      simp only [hw, ha] at hcd
      split at hcd <;> cases hcd
    | some v =>
      cases v with
      | set ids =>
        obtain ⟨hwt, hall⟩ := (checkDependencies_none hT i.prs st w ids hw ha).mp (by unfold checkDependencies; exact hcd)
        exact ⟨hwt, List.any_eq_false.mpr fun id hid => by simp [hall id hid]⟩
      | _ =>
        simp only [hw, ha] at hcd
        split at hcd
        · cases hcd
        · exact ⟨by simpa using ‹¬ w.truthy = true›, rfl⟩

theorem event_stopped {r : Result} {status : String} {pr : PrInfo} {stage : Stage} {orc : List Bool} {sel : List Nat}
    {cd rr : Bool} {ev : Event} (hp : r.decision.isProceed = false)
    (hev : event r status pr stage orc sel cd rr = some ev) :
    ev = .evalPr pr .early orc sel ∨ (ev = .reset pr ∧ ∃ n a, r.decision = .command n a) := by
  unfold event at hev
  cases hd : r.decision with
  | redirect => rw [hd] at hev; cases hev
  | proceed st => rw [hd] at hp; cases hp
  | command n a =>
    rw [hd] at hev
    simp only at hev
    split at hev
    · exact Or.inr ⟨(Option.some.inj hev).symm, n, a, rfl⟩
    · exact Or.inl (Option.some.inj hev).symm
  | _ => rw [hd] at hev; exact Or.inl (Option.some.inj hev).symm

theorem planPr_early_nil (s : Sys) (pr : PrInfo) (orc : List Bool) (sel : List Nat) :
    (planPr s pr .early orc sel).ops = [] ∧ (planPr s pr .early orc sel).queue = s.queue := by
  simp [planPr]

theorem step_early (s : Sys) (pr : PrInfo) (orc : List Bool) (sel : List Nat) :
    (step s (.evalPr pr .early orc sel)).1 = s := by
  simp [step, plan, planPr, applyOps]

end BertE.Early
