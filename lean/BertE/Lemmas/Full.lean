import BertE.Model.Full
import BertE.Lemmas.StepAll
import BertE.Lemmas.Select
import BertE.Lemmas.Eval
import BertE.Lemmas.Admin
import BertE.Lemmas.Full2Inv
/- The closed system (`Model/Full.lean`): every event preserves the invariant. -/
namespace BertE.Full
open BertE.Git BertE.Flow BertE.Select BertE.Close BertE.Full2

/-- a queued pull request is a pull request of the host, with the source and the destination it was queued with -/
def Link (cfg : Cfg) (h : BertE.Eval.Host) (queue : List QEntry) : Prop :=
  ∀ e ∈ queue, ∃ p d, h.pr e.pr = some p ∧ p.src = e.src ∧
    (BertE.Names.classify cfg.eval.early.names p.dst.toList).bind BertE.Eval.destOf = some d ∧ d ∈ e.targets

/-- pull-request ids are positive (they are on every git host; the host of the model numbers from 1: `nextId`) -/
def HostPos (h : BertE.Eval.Host) : Prop := ∀ p ∈ h.prs, p.id ≠ 0

/-- The invariant of the closed system. `Select.Validated` is a CONSEQUENCE of `sys` (`Full2.SysInv` holds Close's `VX`),
    so the guard of a queue evaluation is the modelled `validate()` alone; `cascadeStd`: the cascade settings are those
    of the source (`C20_table`). -/
structure FullInv (w : World) : Prop where
  sys : SysInv w.sys
  link : Link w.cfg w.host w.sys.queue
  hostPos : HostPos w.host
  cascadeStd : w.cfg.cascade = BertE.Cascade.Cfg.std

theorem FullInv.inv {w : World} (h : FullInv w) : Inv w.sys := h.sys.inv

theorem FullInv.validated {w : World} (h : FullInv w) : Validated w.sys := h.sys.validated

/-- The ONE exit of an admin job that leaves the repository outside the queue invariant (forward-port inclusion is
    not affected: the job only deletes): `delete_branch hotfix/x.y.z` succeeds while `q/x.y.z` — the queue of
    stabilization/x.y.z — exists, and the job deletes that queue branch, whatever is queued on it (known finding D19
    `delete-hotfix-branch-deletes-the-stabilization-queue`, observed on the real code by every C20 check).
    ("create_branch publishes, then its nested rebuild raises" is unreachable under the invariant:
    `createBranch_success_of_inv`; "Unable to push new tag" after the deletion of a queue branch is gone with the
    repair f819c35 of `delete_branch`.) -/
def AdminAnomaly (w : World) : FullEvent → Prop
  | .deleteBranch name =>
    (BertE.Admin.deleteBranch w.cfg.cascade w.cfg.lits (repoOf w) name (recognized w name)).outcome = .success ∧
     ∃ M m u, name = .dest (.hotfix M m u) ∧ w.sys.useQueue = true ∧ w.sys.remote.has (.q (.stab M m u)) = true
  | _ => False

structure HostExt (h h' : BertE.Eval.Host) : Prop where
  ext : ∀ id p, h.pr id = some p → ∃ p', h'.pr id = some p' ∧ p'.src = p.src ∧ p'.dst = p.dst
  pos : HostPos h → HostPos h'

theorem HostExt.refl (h : BertE.Eval.Host) : HostExt h h := ⟨fun _ p hp => ⟨p, hp, rfl, rfl⟩, id⟩

theorem HostExt.trans {a b c : BertE.Eval.Host} (h1 : HostExt a b) (h2 : HostExt b c) : HostExt a c := by
  refine ⟨fun id p hp => ?_, h2.pos ∘ h1.pos⟩
  obtain ⟨p', hp', hs, hd⟩ := h1.ext id p hp
  obtain ⟨p'', hp'', hs', hd'⟩ := h2.ext id p' hp'
  exact ⟨p'', hp'', hs'.trans hs, hd'.trans hd⟩

theorem HostExt.of_map (h : BertE.Eval.Host) (g : BertE.Eval.Pr → BertE.Eval.Pr)
    (hg : ∀ p, (g p).id = p.id ∧ (g p).src = p.src ∧ (g p).dst = p.dst) (b : _) (i : _) :
    HostExt h ⟨h.prs.map g, b, i⟩ := by
  refine ⟨fun id p hp => ⟨g p, ?_, (hg p).2.1, (hg p).2.2⟩, fun hpos p hpm => ?_⟩
  · have hf : ((fun p => p.id == id) ∘ g) = fun p => p.id == id := funext fun p => by simp [(hg p).1]
    unfold BertE.Eval.Host.pr at hp ⊢
    simp only
    rw [List.find?_map, hf, hp]; rfl
  · obtain ⟨q, hq, rfl⟩ := List.mem_map.mp hpm
    rw [(hg q).1]; exact hpos q hq

theorem HostExt.of_append (h : BertE.Eval.Host) (l : List BertE.Eval.Pr) (hl : ∀ p ∈ l, p.id ≠ 0) (b : _) (i : _) :
    HostExt h ⟨h.prs ++ l, b, i⟩ := by
  refine ⟨fun id p hp => ⟨p, ?_, rfl, rfl⟩, fun hpos p hpm => (List.mem_append.mp hpm).elim (hpos p) (hl p)⟩
  unfold BertE.Eval.Host.pr at hp ⊢
  simp only
  rw [List.find?_append, hp]; rfl

theorem hostExt_foldl {σ α : Type} (f : σ → α → σ) (host : σ → BertE.Eval.Host)
    (hf : ∀ a x, HostExt (host a) (host (f a x))) : ∀ (l : List α) (a : σ), HostExt (host a) (host (l.foldl f a))
  | [], _ => HostExt.refl _
  | x :: l, a => (hf a x).trans (hostExt_foldl f host hf l (f a x))

theorem Link.mono {cfg : Cfg} {h h' : BertE.Eval.Host} {q q' : List QEntry} (hl : Link cfg h q) (hh : HostExt h h')
    (hq : ∀ e ∈ q', e ∈ q) : Link cfg h' q' := by
  intro e he
  obtain ⟨p, d, hp, hs, hd, ht⟩ := hl e (hq e he)
  obtain ⟨p', hp', hs', hd'⟩ := hh.ext _ p hp
  exact ⟨p', d, hp', hs'.trans hs, by rw [hd']; exact hd, ht⟩

theorem hostExt_mapPr (h : BertE.Eval.Host) (id : Nat) (f : BertE.Eval.Pr → BertE.Eval.Pr)
    (hf : ∀ p, (f p).id = p.id ∧ (f p).src = p.src ∧ (f p).dst = p.dst) : HostExt h (mapPr h id f) := by
  apply HostExt.of_map
  intro p
  split
  · exact hf p
  · exact ⟨rfl, rfl, rfl⟩

theorem hostExt_postAll (w : World) (h : BertE.Eval.Host) (id : Nat) (cs : List String) : HostExt h (postAll w h id cs) :=
  hostExt_mapPr h id _ (fun _ => ⟨rfl, rfl, rfl⟩)

theorem hostExt_postMerged (w : World) (ids : List Nat) (h : BertE.Eval.Host) : HostExt h (postMerged w h ids) :=
  hostExt_foldl _ id (fun h i => hostExt_postAll w h i _) ids h

theorem hostExt_postFailed (w : World) (ids : List Nat) (h : BertE.Eval.Host) : HostExt h (postFailed w h ids) :=
  hostExt_foldl _ id (fun h i => hostExt_postAll w h i _) ids h

theorem nextId_ne_zero (h : BertE.Eval.Host) : nextId h ≠ 0 := by unfold nextId; omega

theorem hostExt_newChildren (w : World) (h : BertE.Eval.Host) (pr : PrInfo) (ds : List Dest) :
    HostExt h (newChildren w h pr ds).1 := by
  refine hostExt_foldl (childStep w pr) (·.1) (fun acc d => ?_) ds (h, [])
  unfold childStep
  split
  · exact HostExt.refl _
  · refine HostExt.of_append acc.1 _ (fun p hp => ?_) _ _
    rw [List.mem_singleton.mp hp]
    exact nextId_ne_zero _

theorem hostExt_declineChildren (h : BertE.Eval.Host) (pr : PrInfo) (ds : List Dest) : HostExt h (declineChildren h pr ds) := by
  apply HostExt.of_map
  intro p
  split <;> exact ⟨rfl, rfl, rfl⟩

theorem hostExt_refresh (w : World) : HostExt w.host (refresh w).host := by
  apply HostExt.of_map
  intro p
  unfold refreshPr
  repeat' split
  all_goals exact ⟨rfl, rfl, rfl⟩

theorem FullInv.host {w : World} (h : FullInv w) {h' : BertE.Eval.Host} (hh : HostExt w.host h') :
    FullInv { w with host := h' } :=
  ⟨h.sys, h.link.mono hh (fun _ he => he), hh.pos h.hostPos, h.cascadeStd⟩

theorem FullInv.refresh {w : World} (h : FullInv w) : FullInv (refresh w) := h.host (hostExt_refresh w)

theorem FullInv.job {w : World} (h : FullInv w) {s' : Sys} (hs : SysInv s') (hl : Link w.cfg w.host s'.queue)
    {h' : BertE.Eval.Host} (hh : HostExt w.host h') (tags : BertE.Admin.Tags) (parents : List (Nat × Nat)) :
    FullInv (Full.refresh ⟨s', h', tags, parents, w.cfg⟩) :=
  FullInv.refresh ⟨hs, hl.mono hh (fun _ he => he), hh.pos h.hostPos, h.cascadeStd⟩

theorem enqueue_queue_mem (s : Sys) (l4 : Loc) (pr : PrInfo) (ts : List Dest) (pre : List Op) :
    ∀ e ∈ (enqueue s l4 pr ts pre).queue, e ∈ s.queue ∨ e = ⟨pr.id, pr.src, ts⟩ := by
  intro e he
  rcases enqueue_shape s l4 pr ts pre with ⟨g, o, h⟩ | ⟨l8, h⟩ <;> rw [h] at he
  · exact .inl he
  · exact (List.mem_append.mp he).imp_right List.mem_singleton.mp

theorem planPr_queue_mem (s : Sys) (pr : PrInfo) (stage : Stage) (orc : List Bool) (sel : List Nat) :
    ∀ e ∈ (planPr s pr stage orc sel).queue, e ∈ s.queue ∨ e = ⟨pr.id, pr.src, s.targets pr.dst⟩ := by
  refine planPr_elim (motive := fun p => ∀ e ∈ p.queue, e ∈ s.queue ∨ e = ⟨pr.id, pr.src, s.targets pr.dst⟩)
    s pr stage orc sel (fun _ _ he => .inl he) (fun _ e he => .inl (BertE.Early.planQueues_queue s sel e he))
    (fun _ _ _ _ _ hp _ he => .inl (BertE.Early.prepare_queue _ _ _ _ _ _ hp ▸ he)) ?_
  intro sc _ l4 pushW _ _ _ _
  exact ⟨fun _ he => .inl he, fun _ => enqueue_queue_mem s l4 pr _ pushW,
    fun _ _ _ he => .inl (BertE.Early.directMerge_queue s l4 pr sc _ pushW ▸ he)⟩

theorem planDeclined_queue (s : Sys) (pr : PrInfo) (cd : Bool) : (planDeclined s pr cd).queue = s.queue := by
  unfold planDeclined
  simp only
  split <;> rfl

theorem step_queue_queues (s : Sys) (sel : List Nat) :
    (Flow.step s (.evalQueues sel)).1.queue = (planQueues s sel).queue := rfl

theorem createBranch_queue_mem (s : Sys) (d : Dest) (c : Commit) :
    ∀ e ∈ (Flow.step s (.createBranch d c)).1.queue, e ∈ s.queue := by
  intro e he
  rw [BertE.Early.step_queue] at he
  simp only [plan, planCreateBranch] at he
  split at he
  · cases he
  · exact he

theorem dropQueues_queue (s : Sys) : (Flow.step s .dropQueues).1.queue = [] := by
  show (planDropQueues s).queue = []
  unfold planDropQueues
  simp only
  split <;> rfl

theorem downClosed_selOf {w : World} (h : FullInv w) (force : Bool) : DownClosed w.sys (selOf w force) := by
  unfold selOf
  split
  · exact downClosed_selectOf h.inv h.validated _ force
  · exact downClosed_nil _

theorem pr_id {h : BertE.Eval.Host} {id : Nat} {p : BertE.Eval.Pr} (hp : h.pr id = some p) : p.id = id := by
  unfold BertE.Eval.Host.pr at hp
  simpa using List.find?_some hp

theorem useQueue_of_queued {s : Sys} (h : Inv s) {e : QEntry} (he : e ∈ s.queue) : s.useQueue = true := by
  cases hu : s.useQueue with
  | true => rfl
  | false => rw [(h.q.noq hu).1] at he; cases he

theorem link_queued {w : World} (h : FullInv w) {p : BertE.Eval.Pr} {id : Nat} (hp : w.host.pr id = some p)
    {dst : Dest}
    (hd : (BertE.Names.classify w.cfg.eval.early.names p.dst.toList).bind BertE.Eval.destOf = some dst) (n : Bool)
    (hin : p.id ∈ w.sys.queue.map (·.pr)) : alreadyQueued w.sys ⟨p.id, p.src, dst, n⟩ = true := by
  obtain ⟨e, he, hep⟩ := List.mem_map.mp hin
  obtain ⟨p', d, hp', hs, hd', ht⟩ := h.link e he
  rw [hep, pr_id hp, hp] at hp'
  cases hp'
  rw [hd] at hd'
  cases hd'
  obtain ⟨c, t, hc, _, _⟩ := h.inv.q.base.entry e he dst ht
  unfold alreadyQueued
  rw [useQueue_of_queued h.inv he]
  simp only [Bool.true_and, List.any_eq_true]
  refine ⟨dst, dst_mem_targets _ _, ?_⟩
  unfold qwOf at hc
  rw [hep, ← hs] at hc
  exact RefMap.has_of_get hc

/-- the event of the repository model that the evaluation of pull request `id` is: the event of `Eval.evalPr`, or —
    when `validate()` fails before `add_to_queue` (`QueueOutOfOrder`) — the same evaluation stopped after the push of
    the integration branches -/
def evalEvent (w : World) (id : Nat) (orc : List Bool) : Event :=
  let r := BertE.Eval.evalPr w.cfg.eval w.host w.sys id orc (selOf w false)
  if r.stage == .final && !r.declined && !alreadyQueued w.sys r.pr && outOfOrder w.sys r.pr orc
  then .evalPr r.pr .integration orc (selOf w false) else r.event orc (selOf w false)

theorem evalOne_sys (w : World) (id : Nat) (orc : List Bool) :
    (evalOne w id orc).1.sys = (Flow.step w.sys (evalEvent w id orc)).1 := rfl

/-- what an evaluation is for the repository: nothing (stopped before the clone), `handle_declined_pull_request`, or
    `planPr` for a pull request of the host with the destination its name parses to -/
theorem evalEvent_cases (w : World) (id : Nat) (orc : List Bool) :
    (Flow.step w.sys (evalEvent w id orc)).1 = w.sys ∨
    (∃ pr cd, evalEvent w id orc = .evalDeclined pr cd) ∨
    ∃ p st dst stg, w.host.pr id = some p ∧
      (BertE.Names.classify w.cfg.eval.early.names p.dst.toList).bind BertE.Eval.destOf = some dst ∧
      evalEvent w id orc = .evalPr ⟨p.id, p.src, dst, BertE.Eval.opt st "no_octopus"⟩ stg orc (selOf w false) ∧
      (BertE.Eval.evalPr w.cfg.eval w.host w.sys id orc (selOf w false)).declined = false ∧
      (BertE.Eval.evalPr w.cfg.eval w.host w.sys id orc (selOf w false)).pr =
        ⟨p.id, p.src, dst, BertE.Eval.opt st "no_octopus"⟩ ∧
      (stg = .final → (BertE.Eval.evalPr w.cfg.eval w.host w.sys id orc (selOf w false)).stage = .final) := by
  unfold evalEvent
  simp only
  rcases BertE.Eval.evalPr_cases w.cfg.eval w.host w.sys id orc (selOf w false) with
    ⟨hnd, hst, _⟩ | ⟨p, st, src, dst, _, _, hdec, _, _⟩ | ⟨p, st, src, dst, hat, _, heq⟩
  · left
    simp only [hst, hnd, BertE.Eval.Result.event, Bool.false_eq_true, if_false, Bool.false_and,
      show (Stage.early == Stage.final) = false from rfl, BertE.Early.step_early]
  · right; left
    simp only [hdec, BertE.Eval.Result.event, Bool.not_true, Bool.and_false, Bool.false_and, Bool.false_eq_true,
      if_false, if_true]
    exact ⟨_, _, rfl⟩
  · right; right
    obtain ⟨hpr, hdecl⟩ := BertE.Eval.afterClone_pr w.cfg.eval w.host w.sys p
      ⟨p.id, p.src, dst, BertE.Eval.opt st "no_octopus"⟩ src st (BertE.Eval.greetingOf w.cfg.eval w.host w.sys p) orc
      (selOf w false)
    rw [← heq] at hpr hdecl
    refine ⟨p, st, dst, ?_⟩
    split
    · exact ⟨.integration, hat.found, hat.dstName, by rw [hpr], hdecl, hpr, fun h => nomatch h⟩
    · exact ⟨_, hat.found, hat.dstName, by simp only [BertE.Eval.Result.event, hdecl, hpr, Bool.false_eq_true, if_false],
        hdecl, hpr, fun h => h⟩

/-- `Flow.Adm` / `Close.AdmC` of the event are discharged from the computed decision: the selection is closed
    downwards, a pull request held as queued is found already queued (`link_queued`), ids are positive -/
theorem evalEvent_inv {w : World} (h : FullInv w) (id : Nat) (orc : List Bool) :
    SysInv (Flow.step w.sys (evalEvent w id orc)).1 ∧ Link w.cfg w.host (Flow.step w.sys (evalEvent w id orc)).1.queue := by
  rcases evalEvent_cases w id orc with he | ⟨pr, cd, he⟩ | ⟨p, st, dst, stg, hfound, hdst, he, _⟩
  · rw [he]; exact ⟨h.sys, h.link⟩
  · rw [he]
    refine ⟨full2_step_sysInv h.sys _ trivial trivial, ?_⟩
    show Link _ _ (planDeclined w.sys pr cd).queue
    rw [planDeclined_queue]
    exact h.link
  · rw [he]
    have hid0 : p.id ≠ 0 := by
      unfold BertE.Eval.Host.pr at hfound
      exact h.hostPos p (List.mem_of_find?_eq_some hfound)
    refine ⟨full2_step_sysInv h.sys _ ⟨downClosed_selOf h false, link_queued h hfound hdst _⟩ hid0, fun e he => ?_⟩
    rcases planPr_queue_mem _ _ _ _ _ e he with h1 | rfl
    · exact h.link e h1
    · exact ⟨p, dst, by rw [← pr_id hfound] at hfound; exact hfound, rfl, hdst, dst_mem_targets _ _⟩

theorem hostExt_children (w : World) {h x : BertE.Eval.Host} (hx : HostExt h x) (b : Bool) (pr : PrInfo) (ds : List Dest) :
    HostExt h (if b then newChildren w x pr ds else (x, [])).1 := by
  cases b
  · exact hx
  · exact hx.trans (hostExt_newChildren w x pr ds)

theorem hostExt_declined {h x : BertE.Eval.Host} (hx : HostExt h x) (b : Bool) (pr : PrInfo) (ds : List Dest) :
    HostExt h (if b then declineChildren x pr ds else x) := by
  cases b
  · exact hx
  · exact hx.trans (hostExt_declineChildren x pr ds)

theorem evalOne_inv {w : World} (h : FullInv w) (id : Nat) (orc : List Bool) : FullInv (evalOne w id orc).1 :=
  h.job (evalEvent_inv h id orc).1 (evalEvent_inv h id orc).2
    (hostExt_declined (hostExt_children w (((hostExt_postAll w _ _ _).trans (hostExt_postMerged w _ _)).trans
      (hostExt_postFailed w _ _)) _ _ _) _ _ _) _ _

theorem prJob_inv {w : World} (h : FullInv w) (id : Nat) (orc : List Bool) : FullInv (prJob w id orc).1 := by
  unfold prJob
  split
  · exact evalOne_inv h _ orc
  · exact h

theorem resubmit_inv (orc : List Bool) : ∀ (ids : List Nat) (k : Nat) {w : World}, FullInv w →
    FullInv (resubmit orc ids k w).1
  | [], _, _, h => h
  | id :: ids, k, w, h => by
    unfold resubmit
    exact resubmit_inv orc ids (k + 1) (prJob_inv h id _)

theorem queuesJob_inv {w : World} (h : FullInv w) (force : Bool) : FullInv (queuesJob w force).1 := by
  unfold queuesJob
  split
  · exact h
  · dsimp only
    exact h.job (full2_step_sysInv h.sys (.evalQueues _) (downClosed_selectOf h.inv h.validated _ force) trivial)
      (h.link.mono (HostExt.refl _) (BertE.Early.planQueues_queue w.sys _))
      ((hostExt_postMerged w _ _).trans (hostExt_postFailed w _ _)) _ _

theorem cloneHeads_get : ∀ (m : RefMap) (r : Ref), (cloneHeads m).get r = m.get r
  | [], _ => rfl
  | rc :: m, r => by
    show ((cloneHeads m).set rc.1 rc.2).get r = _
    rw [RefMap.get_cons]
    by_cases hr : r = rc.1
    · subst hr; rw [RefMap.get_set_eq]; simp
    · rw [RefMap.get_set_ne _ _ hr, cloneHeads_get m r]; simp [hr]

theorem cloneHeads_has (m : RefMap) (r : Ref) : (cloneHeads m).has r = m.has r := by
  unfold RefMap.has
  rw [cloneHeads_get]

theorem cloneHeads_nodup : ∀ (m : RefMap), BertE.Admin.KeysNodup (cloneHeads m)
  | [] => List.nodup_nil
  | rc :: m => BertE.Admin.keysNodup_set (cloneHeads_nodup m) rc.1 rc.2

theorem inclOn_of_get {g : Graph} {m m' : RefMap} (h : InclOn g m) (hg : ∀ r, m'.get r = m.get r) : InclOn g m' := by
  intro a b hab ca cb hca hcb
  rw [hg] at hca hcb
  exact h a b hab ca cb hca hcb

/-- a queue branch exists only beside its destination branch: `q/<v>` by the queue invariant (`QInv.qdest`);
    `q/w/<pr>/<v>/…` belongs to a queued pull request that targets `<v>` (`VX.qwE`), whose targets have their
    destination branch (`QueueInv.entry`) -/
theorem qref_has_dest {w : World} (h : FullInv w) {r : Ref} {d0 : Dest} (hr : (w.sys.remote.get r).isSome = true)
    (hd : BertE.Admin.qDest r = some d0) : (w.sys.remote.get (.dest d0)).isSome = true := by
  cases r with
  | q d' =>
    cases hd
    exact h.inv.q.qdest _ hr
  | qw pr d' src =>
    cases hd
    obtain ⟨e, he, _, _, hd'⟩ := h.sys.vx.qwE pr d0 src hr
    obtain ⟨_, t, _, ht, _⟩ := h.inv.q.base.entry e he d0 hd'
    rw [ht]; rfl
  | _ => cases hd

/-- The nested queue rebuild of `create_branch` cannot die after the publication in a world that satisfies the
    invariant: `rebuild_queues` raises (`CheckoutFailedException`, `Admin.createBranch_nested_crash`) only when the
    destination branch of the first `q/*` head does not exist, and a queue branch only exists beside its destination
    (`qref_has_dest`). So a job that published the new branch ends with JobSuccess. -/
theorem createBranch_success_of_inv {w : World} (h : FullInv w) (name : Ref) (from_ : Option BertE.Admin.Rev)
    (hops : (BertE.Admin.createBranch w.cfg.cascade w.cfg.lits (repoOf w) name (recognized w name) from_).ops ≠ []) :
    (BertE.Admin.createBranch w.cfg.cascade w.cfg.lits (repoOf w) name (recognized w name) from_).outcome = .success := by
  rcases BertE.Admin.createBranch_inv w.cfg.cascade w.cfg.lits (repoOf w) name (recognized w name) from_ with
    h0 | ⟨d, c, casc, hn, hex, _, _, _, hcc, h1, h2⟩
  · exact absurd h0.1 hops
  · cases hcond : (!(repoOf w).useQueue || !d.isDev) with
    | true => rw [h1 hcond]
    | false =>
      rw [h2 hcond]
      have huq : (repoOf w).useQueue = true := by
        simp only [Bool.or_eq_false_iff, Bool.not_eq_false'] at hcond
        exact hcond.1
      obtain ⟨c1, hb⟩ := BertE.Admin.cascadeBuild_of_check hcc
      refine BertE.Admin.rebuildQueues_success (st := { repoOf w with heads := (repoOf w).heads.set (.dest d) c }) huq hb
        fun r hr d0 hqd => ?_
      -- a queue head of the clone is one of the remote; its destination is the new branch or was there
      rw [BertE.Admin.allQRefs_set_dest] at hr
      obtain ⟨_, c0, hc0⟩ := BertE.Admin.mem_allQRefs.mp hr
      obtain ⟨c0, hget⟩ := BertE.Admin.get_of_mem hc0
      have hget' : w.sys.remote.get r = some c0 := (cloneHeads_get _ _).symm.trans hget
      show (((cloneHeads w.sys.remote).set (.dest d) c).get (.dest d0)).isSome = true
      rw [RefMap.get_set]
      split
      · rfl
      · rw [cloneHeads_get]
        exact qref_has_dest h (RefMap.has_of_get hget') hqd

theorem createBranch_published {w : World} {name : Ref} {from_ : Option BertE.Admin.Rev} {d : Dest} {c : Commit}
    {rest : List BertE.Admin.AOp}
    (heq : (BertE.Admin.createBranch w.cfg.cascade w.cfg.lits (repoOf w) name (recognized w name) from_).ops =
      .ref (.push [(.dest d, c)]) :: rest) :
    w.sys.remote.get (.dest d) = none ∧
    BertE.Admin.cascadeCheck w.cfg.cascade w.sys.g ((cloneHeads w.sys.remote).set (.dest d) c) w.tags = .ok () := by
  rcases BertE.Admin.createBranch_inv w.cfg.cascade w.cfg.lits (repoOf w) name (recognized w name) from_ with
    h0 | ⟨d', c', casc, hn, hex, _, _, _, hcc, h1, h2⟩
  · rw [h0.1] at heq; cases heq
  · have hops : ∃ rest', (BertE.Admin.createBranch w.cfg.cascade w.cfg.lits (repoOf w) name (recognized w name) from_).ops =
        .ref (.push [(.dest d', c')]) :: rest' := by
      cases hcond : (!(repoOf w).useQueue || !d'.isDev) with
      | true => rw [h1 hcond]; exact ⟨_, rfl⟩
      | false => rw [h2 hcond]; exact ⟨_, rfl⟩
    obtain ⟨rest', hops⟩ := hops
    rw [hops] at heq
    cases heq
    subst hn
    have hex' : (cloneHeads w.sys.remote).has (.dest d) = false := hex
    rw [cloneHeads_has] at hex'
    exact ⟨RefMap.has_eq_false.mp hex', hcc⟩

/-- `create_branch`: each conjunct of `Adm` comes from what `Admin.createBranch` checked: the branch does not exist,
    `BranchCascade.validate()` accepted the clone that holds it (`cascadeCheck_spec`: literally `InclOn`, and a
    stabilization branch has its development branch — `Close.AdmC`), the branching point exists. -/
theorem createJob_inv {w : World} (h : FullInv w) (name : Ref) (from_ : Option BertE.Admin.Rev) (orc : List Bool) :
    FullInv (createJob w name from_ orc).1 := by
  unfold createJob
  simp only
  split
  · rename_i d c rest heq
    split
    · rename_i hc
      split
      · obtain ⟨hnone, hcc⟩ := createBranch_published heq
        rw [h.cascadeStd] at hcc
        have hspec := BertE.Admin.cascadeCheck_spec h.inv.wf.g
          (BertE.Admin.keysNodup_set (cloneHeads_nodup w.sys.remote) (.dest d) c) hcc
        have hincl : InclOn w.sys.g (w.sys.remote.set (.dest d) c) := by
          refine inclOn_of_get hspec.1 fun r => ?_
          rw [RefMap.get_set, RefMap.get_set, cloneHeads_get]
        -- a stabilization branch is created beside its development branch
        have hadc : AdmC w.sys (.createBranch d c) := by
          cases d with
          | dev M m => trivial
          | hotfix M m u => trivial
          | stab M m u =>
            obtain ⟨cd, hcd⟩ := BertE.Admin.mem_branchesOf.mp (hspec.2.hasDev M m u
              (BertE.Admin.mem_branchesOf.mpr ⟨c, RefMap.get_set_eq _ _ _⟩))
            have hcd' : ((cloneHeads w.sys.remote).set (.dest (.stab M m u)) c).get (.dest (.dev M (some m))) = some cd := hcd
            rw [RefMap.get_set_ne _ _ (by intro he; cases he), cloneHeads_get] at hcd'
            exact h.inv.wf.devsOK M (some m) cd hcd'
        exact resubmit_inv orc _ 0 (h.job (full2_step_sysInv h.sys (.createBranch d c) ⟨hc, hnone, hincl⟩ hadc)
          (h.link.mono (HostExt.refl _) (createBranch_queue_mem _ _ _)) (HostExt.refl _) _ _)
      · rename_i hns
        exact absurd (by rw [createBranch_success_of_inv h name from_ (by rw [heq]; exact List.cons_ne_nil _ _)]; rfl) hns
    · exact h
  · exact h

theorem step_deleteBranch_get (s : Sys) (d : Dest) (x : Ref) :
    (Flow.step s (.deleteBranch d)).1.remote.get x = if x = .dest d ∨ x = .q d then none else s.remote.get x := by
  rw [← deleteBranch_remote]
  cases d <;> rfl

/-- `delete_branch` is refused while `has_version_queued_prs`: no queued pull request targets the branch -/
theorem deleteJob_adm {w : World} (h : FullInv w) {d : Dest}
    (hq : w.sys.useQueue = true →
      BertE.Admin.hasVersionQueuedPrs (BertE.Admin.queuesOf w.sys.g (cloneHeads w.sys.remote)) d = false) :
    Adm w.sys (.deleteBranch d) := by
  intro e he hd
  obtain ⟨c, _, hc, _, _⟩ := h.inv.q.base.entry e he d hd
  have hk : d ∈ BertE.Admin.queueKeys (cloneHeads w.sys.remote) :=
    BertE.Admin.mem_queueKeys.mpr ⟨_, c, RefMap.get_mem (by rw [cloneHeads_get]; exact hc), rfl⟩
  rw [← BertE.Admin.hasVersionQueuedPrs_iff (g := w.sys.g), hq (useQueue_of_queued h.inv he)] at hk
  cases hk

theorem step_deleteBranch_has (s : Sys) (d : Dest) (x : Ref) :
    (Flow.step s (.deleteBranch d)).1.remote.has x = if x = .dest d ∨ x = .q d then false else s.remote.has x := by
  unfold RefMap.has
  rw [step_deleteBranch_get]
  split <;> rfl

/-- what a successful `delete_branch` deletes besides the branch and its own queue: the `q/` branch the job looks for
    (`delQueueRef`) when it is still there after the event of the repository model — never for a development or
    stabilization branch (it is the queue the event deletes), for hotfix/x.y.z the queue of stabilization/x.y.z -/
theorem deleteJob_clobbered {w : World} {d : Dest}
    (hs : (BertE.Admin.deleteBranch w.cfg.cascade w.cfg.lits (repoOf w) (.dest d) (recognized w (.dest d))).outcome = .success) :
    (qDeletions (BertE.Admin.deleteBranch w.cfg.cascade w.cfg.lits (repoOf w) (.dest d) (recognized w (.dest d))).ops).filter
      (fun q => (Flow.step w.sys (.deleteBranch d)).1.remote.has q) =
    if w.sys.useQueue && (Flow.step w.sys (.deleteBranch d)).1.remote.has (BertE.Admin.delQueueRef d)
    then [BertE.Admin.delQueueRef d] else [] := by
  obtain ⟨d', tip, hn, _, _, _, _, hops⟩ :=
    (BertE.Admin.deleteBranch_inv w.cfg.cascade w.cfg.lits (repoOf w) (.dest d) (recognized w (.dest d))).1 hs
  cases hn
  have hqd : qDeletions (BertE.Admin.deleteBranch w.cfg.cascade w.cfg.lits (repoOf w) (.dest d) (recognized w (.dest d))).ops =
      if w.sys.useQueue && w.sys.remote.has (BertE.Admin.delQueueRef d) then [BertE.Admin.delQueueRef d] else [] := by
    rw [hops, show (repoOf w).heads = cloneHeads w.sys.remote from rfl, cloneHeads_has,
      show (repoOf w).useQueue = w.sys.useQueue from rfl]
    cases w.sys.useQueue && w.sys.remote.has (BertE.Admin.delQueueRef d) <;>
      cases BertE.Admin.hasTag (repoOf w).tags (BertE.Admin.archiveTag w.cfg.lits d) <;>
      cases d <;> rfl
  rw [hqd]
  cases hS : (Flow.step w.sys (.deleteBranch d)).1.remote.has (BertE.Admin.delQueueRef d)
  · cases w.sys.useQueue <;> cases w.sys.remote.has (BertE.Admin.delQueueRef d) <;> simp [hS]
  · have hh : w.sys.remote.has (BertE.Admin.delQueueRef d) = true := by
      rw [step_deleteBranch_has] at hS
      split at hS
      · cases hS
      · exact hS
    cases w.sys.useQueue <;> simp [hS, hh]

/-- `delete_branch`: `Adm` from `deleteJob_adm`; `Close.AdmC`: a development branch is deleted only when no
    stabilization branch of it is alive (`stabAlive`) -/
theorem deleteJob_inv {w : World} (h : FullInv w) (name : Ref)
    (hna : ¬ AdminAnomaly w (.deleteBranch name)) : FullInv (deleteJob w name).1 := by
  have hinv := BertE.Admin.deleteBranch_inv w.cfg.cascade w.cfg.lits (repoOf w) name (recognized w name)
  unfold deleteJob
  simp only
  by_cases hs : (BertE.Admin.deleteBranch w.cfg.cascade w.cfg.lits (repoOf w) name (recognized w name)).outcome = .success
  · obtain ⟨d, tip, hn, _, hstab, hq, _, _⟩ := hinv.1 hs
    subst hn
    have hclob := deleteJob_clobbered hs
    simp only [hs, beq_self_eq_true]
    rw [hclob]
    have hnone : (w.sys.useQueue && (Flow.step w.sys (.deleteBranch d)).1.remote.has (BertE.Admin.delQueueRef d)) = false := by
      rw [step_deleteBranch_has]
      cases d with
      | hotfix M m u =>
        cases hc : w.sys.useQueue && w.sys.remote.has (.q (.stab M m u)) with
        | false => simpa [BertE.Admin.delQueueRef] using hc
        | true =>
          simp only [Bool.and_eq_true] at hc
          exact absurd ⟨hs, M, m, u, rfl, hc.1, hc.2⟩ hna
      | dev M m => simp [BertE.Admin.delQueueRef]
      | stab M m u => simp [BertE.Admin.delQueueRef]
    rw [hnone]
    simp only [Bool.false_eq_true, if_false]
    have hadc : AdmC w.sys (.deleteBranch d) := by
      cases d with
      | stab M m u => trivial
      | hotfix M m u => trivial
      | dev M m =>
        rintro m' u rfl
        cases hg : w.sys.remote.get (.dest (.stab M m' u)) with
        | none => rfl
        | some c =>
          have halive : BertE.Admin.stabAlive (repoOf w).heads (.dev M (some m')) = true :=
            BertE.Admin.stabAlive_of_stab (u := u) (c := c) ((cloneHeads_get _ _).trans hg)
          rw [hstab rfl] at halive
          cases halive
    exact h.job (full2_step_sysInv h.sys (.deleteBranch d) (deleteJob_adm h hq) hadc)
      (h.link.mono (HostExt.refl _) (fun e he => by cases d <;> exact he)) (HostExt.refl _) _ _
  · -- a refusal: nothing was done
    have hb := beq_eq_false_iff_ne.mpr hs
    rw [hinv.2.1 hs]
    simp only [hb, qDeletions, List.filterMap_nil, List.filter_nil, delRefs, List.foldl_nil]
    exact h.job h.sys h.link (HostExt.refl _) _ _

theorem dropWorld_inv {w : World} (h : FullInv w) : FullInv (refresh { w with sys := (Flow.step w.sys .dropQueues).1 }) :=
  h.job (full2_step_sysInv h.sys .dropQueues trivial trivial) (by rw [dropQueues_queue]; exact fun _ he => nomatch he)
    (HostExt.refl _) _ _

theorem dropJob_inv {w : World} (h : FullInv w) (rebuild : Bool) (orc : List Bool) : FullInv (dropJob w rebuild orc).1 := by
  unfold dropJob
  generalize (if rebuild then BertE.Admin.rebuildQueues w.cfg.cascade (repoOf w) else BertE.Admin.deleteQueues (repoOf w)) = r
  dsimp only
  split
  · exact resubmit_inv orc _ 0 (dropWorld_inv h)
  · exact h

theorem external_inv {w : World} (h : FullInv w) (ok : Bool) (ev : Event) (hadm : ok = true → Adm w.sys ev)
    (hc : AdmC w.sys ev) (hq : (Flow.step w.sys ev).1.queue = w.sys.queue) : FullInv (external w ok ev).1 := by
  unfold external
  split
  · rename_i hok
    exact h.job (full2_step_sysInv h.sys ev (hadm hok) hc) (by rw [hq]; exact h.link) (HostExt.refl _) _ _
  · exact h

end BertE.Full
