import BertE.Lemmas.Git
import BertE.Lemmas.RefMap
import BertE.Lemmas.Order
/- The clone-side computations (`Loc.merge`, the merge chains), inclusion along the cascade and the operations that
   cannot break it, and what the direct merge and `add_to_queue` plan (`directMerge_spec`, `enqueue_spec`). -/
namespace BertE.Flow
open BertE.Git

theorem forall_mem_pair {α : Type} {P : α → Prop} {a b : α} : (∀ x ∈ [a, b], P x) ↔ P a ∧ P b := by simp

theorem forall_mem_ite_nil {α : Type} {c : Prop} [Decidable c] {x : α} {P : α → Prop} (h : P x) :
    ∀ y ∈ (if c then [] else [x]), P y := by
  split
  · exact fun _ hy => nomatch hy
  · exact List.forall_mem_singleton.mpr h

theorem RefsValid.mono {g g' : Graph} {m : RefMap} (h : RefsValid g m) (he : Extends g g') : RefsValid g' m :=
  fun r c hc => he.lt (h r c hc)

theorem RefsValid.set {g : Graph} {m : RefMap} (h : RefsValid g m) {r : Ref} {c : Commit} (hc : c < g.size) :
    RefsValid g (m.set r c) := by
  intro x y hy
  rw [RefMap.get_set] at hy
  split at hy
  · cases hy; exact hc
  · exact h x y hy

theorem RefsValid.del {g : Graph} {m : RefMap} (h : RefsValid g m) (r : Ref) : RefsValid g (m.del r) :=
  fun x y hy => h x y (RefMap.get_del_eq_some.mp hy).2

theorem RefsValid.delRefs {g : Graph} {m : RefMap} (h : RefsValid g m) (rs : List Ref) :
    RefsValid g (delRefs m rs) :=
  fun x y hy => h x y (get_delRefs_eq_some.mp hy).2

theorem mem_insBefore {α : Type} (lt : α → α → Bool) (x y : α) : ∀ (l : List α),
    y ∈ insBefore lt x l ↔ y = x ∨ y ∈ l
  | [] => by simp [insBefore]
  | z :: zs => by
    simp only [insBefore]
    split
    · exact List.mem_cons
    · rw [List.mem_cons, mem_insBefore lt x y zs, List.mem_cons, or_left_comm]

theorem mem_stableSort_aux {α : Type} (lt : α → α → Bool) (y : α) : ∀ (l acc : List α),
    y ∈ l.foldl (fun acc x => insBefore lt x acc) acc ↔ y ∈ acc ∨ y ∈ l
  | [], acc => by simp
  | x :: xs, acc => by
    rw [List.foldl_cons, mem_stableSort_aux lt y xs, mem_insBefore, List.mem_cons, or_comm (a := y = x), or_assoc]

theorem mem_stableSort {α : Type} (lt : α → α → Bool) (y : α) (l : List α) : y ∈ stableSort lt l ↔ y ∈ l := by
  simp [stableSort, mem_stableSort_aux]

theorem mem_qOnly (m : RefMap) (r : Ref) :
    r ∈ qOnly m ↔ r ∈ qRaw m := by
  rw [qOnly, mem_stableSort, mem_stableSort]

theorem eq_q_of_mem_qOnly {m : RefMap} {r : Ref} (h : r ∈ qOnly m) : ∃ d, r = .q d := by
  rw [mem_qOnly, qRaw, List.mem_map] at h
  obtain ⟨⟨r', c⟩, hrc, rfl⟩ := h
  cases r' <;> simp at hrc
  exact ⟨_, rfl⟩

theorem directMerge_qs (s : Sys) (l : Loc) : ∀ r ∈ (if s.useQueue then qOnly l.refs else []), ∃ d, r = .q d := by
  intro r hr
  split at hr
  · exact eq_q_of_mem_qOnly hr
  · cases hr

theorem get_delRefs_of_not_q {m : RefMap} {qs : List Ref} (hqs : ∀ r ∈ qs, ∃ d, r = .q d) {x : Ref}
    (hx : ∀ d, x ≠ .q d) : (delRefs m qs).get x = m.get x := by
  rw [get_delRefs, if_neg]
  intro hmem
  obtain ⟨d, rfl⟩ := hqs x hmem
  exact hx d rfl

theorem Loc.OK.set {l : Loc} (h : l.OK) (r : Ref) {c : Commit} (hc : c < l.g.size) :
    Loc.OK { l with refs := l.refs.set r c } :=
  ⟨h.wf, h.valid.set hc⟩

theorem Loc.OK.delRefs {l : Loc} (h : l.OK) (rs : List Ref) : Loc.OK { l with refs := delRefs l.refs rs } :=
  ⟨h.wf, h.valid.delRefs rs⟩

theorem Loc.ask_g (l : Loc) : l.ask.2.g = l.g ∧ l.ask.2.refs = l.refs := by
  unfold Loc.ask
  cases l.orc <;> simp

/-- `Loc.merge` is git's merge on the tip of the branch, with the answer git gives if it is asked -/
theorem Loc.merge_eq_some {l l' : Loc} {r : Ref} {srcs : List Commit} (h : l.merge r srcs = some l') :
    ∃ tip c ok, l.refs.get r = some tip ∧ BertE.Git.merge l.g tip srcs ok = (l'.g, some c) ∧
      l'.refs = l.refs.set r c := by
  unfold Loc.merge at h
  split at h
  · cases h
  · next tip hr =>
    split at h
    · next hd ht =>
      cases h
      exact ⟨tip, hd, true, hr, by rw [BertE.Git.merge, ht], rfl⟩
    · obtain ⟨hag, har⟩ := l.ask_g
      generalize l.ask = a at h hag har
      obtain ⟨ok, la⟩ := a
      simp only at h hag har
      split at h
      · next g' c hmm =>
        cases h
        exact ⟨tip, c, ok, hr, hag ▸ hmm, by rw [har]⟩
      · cases h

theorem Loc.merge_spec {l l' : Loc} (hl : l.OK) {r : Ref} {srcs : List Commit}
    (hs : ∀ s ∈ srcs, s < l.g.size) (hm : l.merge r srcs = some l') :
    l'.OK ∧ Extends l.g l'.g ∧ (∀ x, x ≠ r → l'.refs.get x = l.refs.get x) ∧
    ∃ old new, l.refs.get r = some old ∧ l'.refs.get r = some new ∧
      l'.g.le old new = true ∧ ∀ s ∈ srcs, l'.g.le s new = true := by
  obtain ⟨tip, c, ok, hr, hmm, hrefs⟩ := Loc.merge_eq_some hm
  obtain ⟨hwf', hext, hc, hle, hsrc⟩ := BertE.Git.merge_spec hl.wf (hl.valid r tip hr) hs hmm
  rw [hrefs]
  exact ⟨⟨hwf', hrefs ▸ (hl.valid.mono hext).set hc⟩, hext, fun x hx => RefMap.get_set_ne _ _ hx,
    tip, c, hr, RefMap.get_set_eq _ _ _, hle, hsrc⟩

theorem Loc.merge1_eq (l : Loc) (r : Ref) (c : Commit) :
    (∃ l', l.merge r [c] = some l' ∧ l.merge1 r c = (l', true)) ∨
    (l.merge r [c] = none ∧ l.merge1 r c = (l.ask.2, false)) := by
  unfold Loc.merge1
  cases h : l.merge r [c] with
  | some l' => exact Or.inl ⟨l', rfl, rfl⟩
  | none => exact Or.inr ⟨rfl, rfl⟩

theorem Loc.Kept.trans {l l1 l2 : Loc} {r : Ref} (h1 : Loc.Kept l l1 r) (h2 : Loc.Kept l1 l2 r) : Loc.Kept l l2 r :=
  ⟨h2.1, fun x hx => (h2.2 x hx).trans (h1.2 x hx)⟩

theorem Loc.merge_kept {l l' : Loc} {r : Ref} {srcs : List Commit} (h : l.merge r srcs = some l') :
    Loc.Kept l l' r := by
  obtain ⟨_, c, _, _, _, hrefs⟩ := Loc.merge_eq_some h
  rw [Loc.Kept, hrefs]
  exact ⟨RefMap.has_of_get (RefMap.get_set_eq _ _ _), fun x hx => RefMap.get_set_ne _ _ hx⟩

theorem Loc.merge1_kept {l : Loc} {r : Ref} (c : Commit) (hr : l.refs.has r = true) :
    Loc.Kept l (l.merge1 r c).1 r := by
  rcases l.merge1_eq r c with ⟨l', hm, he⟩ | ⟨_, he⟩
  · rw [he]; exact Loc.merge_kept hm
  · rw [he, Loc.Kept, l.ask_g.2]
    exact ⟨hr, fun _ _ => rfl⟩

theorem Loc.seq2_kept {l : Loc} {r : Ref} (x y : Commit) (hr : l.refs.has r = true) :
    Loc.Kept l (l.seq2 r x y).1 r := by
  unfold Loc.seq2
  have h1 := Loc.merge1_kept (l := l) x hr
  simp only
  split
  · exact h1.trans (Loc.merge1_kept y h1.1)
  · exact h1

theorem Loc.merge2_kept {l l' : Loc} {r : Ref} {a b : Commit} (h : l.merge2 r a b = some l') : Loc.Kept l l' r := by
  unfold Loc.merge2 at h
  split at h
  · cases h
  · next hr =>
    have h1 := Loc.seq2_kept (l := l) a b (by simpa using hr)
    simp only at h
    split at h
    · cases h; exact h1
    · split at h
      · cases h; exact h1.trans (Loc.seq2_kept b a h1.1)
      · cases h

theorem Loc.mergeN_refs {l l' : Loc} {n : Bool} {r : Ref} {a b : Commit} (h : l.mergeN n r a b = some l') :
    l'.refs.has r = true ∧ ∀ x, x ≠ r → l'.refs.get x = l.refs.get x := by
  unfold Loc.mergeN at h
  cases n with
  | true => exact Loc.merge2_kept h
  | false => exact Loc.merge_kept h

theorem Loc.mergeN_other {l l' : Loc} {n : Bool} {r : Ref} {a b : Commit} (hm : l.mergeN n r a b = some l') :
    ∀ x, x ≠ r → l'.refs.get x = l.refs.get x := (Loc.mergeN_refs hm).2

theorem Loc.mergeD_refs {l l' : Loc} {n : Bool} {r : Ref} {a b : Commit} (h : l.mergeD n r a b = some l') :
    l'.refs.has r = true ∧ ∀ x, x ≠ r → l'.refs.get x = l.refs.get x := by
  unfold Loc.mergeD at h
  cases n with
  | true => exact Loc.merge2_kept h
  | false => exact Loc.merge_kept h

theorem Loc.mergeD_other {l l' : Loc} {n : Bool} {r : Ref} {a b : Commit} (hm : l.mergeD n r a b = some l') :
    ∀ x, x ≠ r → l'.refs.get x = l.refs.get x := (Loc.mergeD_refs hm).2

theorem Loc.Step.has {l l' : Loc} {r : Ref} (h : Loc.Step l l' r) : l'.refs.has r = true := by
  obtain ⟨_, n, _, hn, _⟩ := h.grow
  exact RefMap.has_of_get hn

theorem Loc.Step.trans {l l1 l2 : Loc} {r : Ref} (h1 : Loc.Step l l1 r) (h2 : Loc.Step l1 l2 r) : Loc.Step l l2 r := by
  obtain ⟨o, n, ho, hn, hon⟩ := h1.grow
  obtain ⟨o', n', ho', hn', hon'⟩ := h2.grow
  cases hn.symm.trans ho'
  exact ⟨h2.ok, h1.ext.trans h2.ext, fun x hx => (h2.same x hx).trans (h1.same x hx), o, n', ho, hn',
    le_trans h2.ok.wf (h2.ext.le (h1.ok.valid _ _ hn) hon) hon'⟩

theorem Loc.Has.step {l1 l2 : Loc} {r : Ref} {c : Commit} (hl1 : l1.OK) (h : l1.Has r c) (h2 : Loc.Step l1 l2 r) :
    l2.Has r c := by
  obtain ⟨n, hn, hcn⟩ := h
  obtain ⟨o', n', ho', hn', hon'⟩ := h2.grow
  cases hn.symm.trans ho'
  exact ⟨n', hn', le_trans h2.ok.wf (h2.ext.le (hl1.valid _ _ hn) hcn) hon'⟩

theorem Loc.Step.spec {l l' : Loc} {r : Ref} {srcs : List Commit} (hst : Loc.Step l l' r)
    (hh : ∀ s ∈ srcs, l'.Has r s) :
    l'.OK ∧ Extends l.g l'.g ∧ (∀ x, x ≠ r → l'.refs.get x = l.refs.get x) ∧
    ∃ old new, l.refs.get r = some old ∧ l'.refs.get r = some new ∧
      l'.g.le old new = true ∧ ∀ s ∈ srcs, l'.g.le s new = true := by
  obtain ⟨o, n, ho, hn, hon⟩ := hst.grow
  refine ⟨hst.ok, hst.ext, hst.same, o, n, ho, hn, hon, fun s hs => ?_⟩
  obtain ⟨n', hn', hle⟩ := hh s hs
  cases hn.symm.trans hn'
  exact hle

theorem Loc.merge1_step {l : Loc} (hl : l.OK) {r : Ref} {c : Commit} (hc : c < l.g.size)
    (hr : l.refs.has r = true) :
    Loc.Step l (l.merge1 r c).1 r ∧ ((l.merge1 r c).2 = true → (l.merge1 r c).1.Has r c) := by
  rcases l.merge1_eq r c with ⟨l', hm, he⟩ | ⟨_, he⟩
  · rw [he]
    obtain ⟨hl', hext, hsame, old, new, ho, hn, hon, hsrc⟩ :=
      Loc.merge_spec hl (List.forall_mem_singleton.mpr hc) hm
    exact ⟨⟨hl', hext, hsame, old, new, ho, hn, hon⟩, fun _ => ⟨new, hn, hsrc c List.mem_cons_self⟩⟩
  · rw [he]
    obtain ⟨t, ht⟩ := (RefMap.has_iff _ _).mp hr
    obtain ⟨hg, hrf⟩ := l.ask_g
    refine ⟨⟨⟨hg ▸ hl.wf, hg ▸ hrf ▸ hl.valid⟩, hg ▸ Extends.refl _, fun x _ => by rw [hrf], t, t, ht, hrf ▸ ht, ?_⟩,
      fun h => nomatch h⟩
    rw [hg]
    exact le_refl hl.wf (hl.valid _ _ ht)

theorem Loc.seq2_step {l : Loc} (hl : l.OK) {r : Ref} {x y : Commit} (hx : x < l.g.size) (hy : y < l.g.size)
    (hr : l.refs.has r = true) :
    Loc.Step l (l.seq2 r x y).1 r ∧
      ((l.seq2 r x y).2 = true → (l.seq2 r x y).1.Has r x ∧ (l.seq2 r x y).1.Has r y) := by
  unfold Loc.seq2
  obtain ⟨h1, h1c⟩ := Loc.merge1_step hl hx hr
  simp only
  split
  · next hok =>
    obtain ⟨h2, h2c⟩ := Loc.merge1_step (l := (l.merge1 r x).1) h1.ok (h1.ext.lt hy) h1.has
    exact ⟨h1.trans h2, fun h => ⟨(h1c hok).step h1.ok h2, h2c h⟩⟩
  · next hok => exact ⟨h1, fun h => absurd h hok⟩

/-- the post-condition of `Loc.merge_spec`, whichever of the two attempts of `consecutive_merge` went through -/
theorem Loc.merge2_spec {l l' : Loc} (hl : l.OK) {r : Ref} {a b : Commit}
    (hs : ∀ s ∈ [a, b], s < l.g.size) (hm : l.merge2 r a b = some l') :
    l'.OK ∧ Extends l.g l'.g ∧ (∀ x, x ≠ r → l'.refs.get x = l.refs.get x) ∧
    ∃ old new, l.refs.get r = some old ∧ l'.refs.get r = some new ∧
      l'.g.le old new = true ∧ ∀ s ∈ [a, b], l'.g.le s new = true := by
  obtain ⟨ha, hb⟩ : a < l.g.size ∧ b < l.g.size := by simpa using hs
  unfold Loc.merge2 at hm
  split at hm
  · cases hm
  · next hr =>
    obtain ⟨h1, h1c⟩ := Loc.seq2_step hl ha hb (by simpa using hr)
    simp only at hm
    split at hm
    · next hok =>
      cases hm
      exact h1.spec (by simpa using h1c hok)
    · obtain ⟨h2, h2c⟩ := Loc.seq2_step (l := (l.seq2 r a b).1) h1.ok (h1.ext.lt hb) (h1.ext.lt ha) h1.has
      split at hm
      · next hok =>
        cases hm
        exact (h1.trans h2).spec (by simpa [and_comm] using h2c hok)
      · cases hm

theorem Loc.mergeN_spec {l l' : Loc} (hl : l.OK) {n : Bool} {r : Ref} {a b : Commit}
    (hs : ∀ s ∈ [a, b], s < l.g.size) (hm : l.mergeN n r a b = some l') :
    l'.OK ∧ Extends l.g l'.g ∧ (∀ x, x ≠ r → l'.refs.get x = l.refs.get x) ∧
    ∃ old new, l.refs.get r = some old ∧ l'.refs.get r = some new ∧
      l'.g.le old new = true ∧ ∀ s ∈ [a, b], l'.g.le s new = true := by
  unfold Loc.mergeN at hm
  cases n with
  | true => exact Loc.merge2_spec hl hs hm
  | false => exact Loc.merge_spec hl hs hm

/-- the order in which `consecutive_merge` takes the two sources does not matter for the post-condition -/
theorem Loc.mergeD_spec {l l' : Loc} (hl : l.OK) {n : Bool} {r : Ref} {a b : Commit}
    (hs : ∀ s ∈ [a, b], s < l.g.size) (hm : l.mergeD n r a b = some l') :
    l'.OK ∧ Extends l.g l'.g ∧ (∀ x, x ≠ r → l'.refs.get x = l.refs.get x) ∧
    ∃ old new, l.refs.get r = some old ∧ l'.refs.get r = some new ∧
      l'.g.le old new = true ∧ ∀ s ∈ [a, b], l'.g.le s new = true := by
  unfold Loc.mergeD at hm
  cases n with
  | false => exact Loc.merge_spec hl hs hm
  | true =>
    obtain ⟨h1, h2, h3, o, nw, ho, hn, hon, hsrc⟩ := Loc.merge2_spec hl (by simpa [and_comm] using hs) hm
    exact ⟨h1, h2, h3, o, nw, ho, hn, hon, by simpa [and_comm] using hsrc⟩

theorem pairwise_pick {α : Type} {R : α → α → Prop} {l : List α} (h : l.Pairwise R) {a b : α}
    (ha : a ∈ l) (hb : b ∈ l) (hne : a ≠ b) : R a b ∨ R b a := by
  induction l with
  | nil => cases ha
  | cons x xs ih =>
    rw [List.pairwise_cons] at h
    rcases List.mem_cons.mp ha with rfl | ha' <;> rcases List.mem_cons.mp hb with rfl | hb'
    · exact absurd rfl hne
    · exact Or.inl (h.1 b hb')
    · exact Or.inr (h.1 a ha')
    · exact ih h.2 ha' hb'

theorem incl_of_destUpdate {g g' : Graph} {m m' : RefMap} {ts : List Dest}
    (hg' : g'.WF) (hv : RefsValid g m) (hincl : InclOn g m) (hu : DestUpdate g g' m m' ts)
    (hord : ts.Pairwise (fun a b => a.before b = true))
    (hclosed : ∀ t ∈ ts, ∀ b, t.before b = true → (m.get (.dest b)).isSome = true → b ∈ ts) :
    InclOn g' m' := by
  intro a b hab ca cb hca hcb
  by_cases hb : b ∈ ts
  · by_cases ha : a ∈ ts
    · -- both updated: the chain, read in the order of the list
      have hne : a ≠ b := fun he => by rw [he, Dest.before_irrefl] at hab; cases hab
      rcases pairwise_pick (List.pairwise_and_iff.mpr ⟨hord, hu.chain⟩) ha hb hne with h | h
      · exact h.2 ca cb hca hcb
      · rw [Dest.before_asymm hab] at h; cases h.1
    · -- only the later one: it grew from a tip that contained `a`
      obtain ⟨o, n, ho, hn, hle⟩ := hu.grow b hb
      cases hn.symm.trans hcb
      rw [hu.same a ha] at hca
      exact le_trans hg' (hu.ext.le (hv _ _ ho) (hincl a b hab ca o hca ho)) hle
  · rw [hu.same b hb] at hcb
    by_cases ha : a ∈ ts
    · exact absurd (hclosed a ha b hab (by rw [hcb]; rfl)) hb
    · rw [hu.same a ha] at hca
      exact hu.ext.le (hv _ _ hcb) (hincl a b hab ca cb hca hcb)

theorem mergeRest_spec {pr : PrInfo} : ∀ (ds : List Dest) {l l' : Loc} {prevD : Commit}, l.OK →
    prevD < l.g.size → ds.Nodup → mergeRest l pr prevD ds = some l' →
    l'.OK ∧ Extends l.g l'.g ∧
    (∀ x, (∀ d ∈ ds, x ≠ .dest d) → l'.refs.get x = l.refs.get x) ∧
    (∀ d ∈ ds, ∃ o n, l.refs.get (.dest d) = some o ∧ l'.refs.get (.dest d) = some n ∧
        l'.g.le o n = true ∧ l'.g.le prevD n = true) ∧
    ds.Pairwise (fun a b => ∀ na nb, l'.refs.get (.dest a) = some na → l'.refs.get (.dest b) = some nb →
        l'.g.le na nb = true)
  | [], l, l', prevD, hl, _, _, hm => by
    cases hm
    exact ⟨hl, Extends.refl _, fun _ _ => rfl, (fun d hd => nomatch hd), List.Pairwise.nil⟩
  | d :: ds, l, l', prevD, hl, hp, hnd, hm => by
    rw [List.nodup_cons] at hnd
    rw [mergeRest] at hm
    split at hm
    · cases hm
    · next wc hw =>
      split at hm
      · cases hm
      · next l1 hm1 =>
        obtain ⟨hl1, hext1, hsame1, o, n, ho, hn, hon, hsn⟩ :=
          Loc.mergeD_spec hl (forall_mem_pair.mpr ⟨hp, hl.valid _ _ hw⟩) hm1
        rw [hn] at hm
        have hnlt : n < l1.g.size := hl1.valid _ _ hn
        obtain ⟨hl', hext2, hsame2, hgrow2, hchain2⟩ := mergeRest_spec ds hl1 hnlt hnd.2 hm
        -- the later merges leave `d` alone; what they produce contains its new tip `n`
        have hdn : l'.refs.get (.dest d) = some n :=
          (hsame2 _ fun d' hd' he => hnd.1 (by cases he; exact hd')).trans hn
        have hpn : l'.g.le prevD n = true := hext2.le hnlt (hsn prevD List.mem_cons_self)
        refine ⟨hl', hext1.trans hext2, ?_, ?_, List.pairwise_cons.mpr ⟨?_, hchain2⟩⟩
        · intro x hx
          rw [hsame2 x (fun d' hd' => hx d' (List.mem_cons_of_mem _ hd'))]
          exact hsame1 x (hx d List.mem_cons_self)
        · intro d' hd'
          rcases List.mem_cons.mp hd' with rfl | hd''
          · exact ⟨o, n, ho, hdn, hext2.le hnlt hon, hpn⟩
          · obtain ⟨o', n', ho', hn', hon', hpn'⟩ := hgrow2 d' hd''
            have hne : Ref.dest d' ≠ .dest d := fun he => hnd.1 (by cases he; exact hd'')
            exact ⟨o', n', hsame1 _ hne ▸ ho', hn', hon', le_trans hl'.wf hpn hpn'⟩
        · intro b hb na nb hna hnb
          obtain ⟨_, n', _, hn', _, hpn'⟩ := hgrow2 b hb
          cases hdn.symm.trans hna
          cases hn'.symm.trans hnb
          exact hpn'

theorem InclOn.of_same {g : Graph} {m m' : RefMap} (h : InclOn g m)
    (hs : ∀ d, m'.get (.dest d) = m.get (.dest d)) : InclOn g m' := by
  intro a b hab ca cb hca hcb
  rw [hs] at hca hcb
  exact h a b hab ca cb hca hcb

theorem InclOn.of_sub {g : Graph} {m m' : RefMap} (h : InclOn g m)
    (hs : ∀ d c, m'.get (.dest d) = some c → m.get (.dest d) = some c) : InclOn g m' :=
  fun a b hab ca cb hca hcb => h a b hab ca cb (hs _ _ hca) (hs _ _ hcb)

theorem InclOn.extends {g g' : Graph} {m : RefMap} (h : InclOn g m) (hv : RefsValid g m)
    (he : Extends g g') : InclOn g' m :=
  fun a b hab ca cb hca hcb => he.le (hv _ _ hcb) (h a b hab ca cb hca hcb)

theorem InclOn.delRefs {g : Graph} {m : RefMap} (h : InclOn g m) (rs : List Ref) : InclOn g (delRefs m rs) :=
  h.of_sub fun _ _ hc => (get_delRefs_eq_some.mp hc).2

theorem push_fold_dest (g : Graph) (rej : Ref → Bool) (ups : List (Ref × Commit))
    (hups : ∀ rc ∈ ups, rc.1.isDest = false) (m : RefMap) (d : Dest) :
    (ups.foldl (fun m rc => if accepts g m rc.1 rc.2 && !rej rc.1 then m.set rc.1 rc.2 else m) m).get (.dest d)
      = m.get (.dest d) :=
  applyOp_push_get_of_not_mem g rej (fun rc hrc he => by have := hups rc hrc; rw [he] at this; cases this) m

/-- whether the remote accepts the operation, rejects it in part (non-atomic push) or as a whole -/
theorem applyOp_incl {g : Graph} {remote : RefMap} (rej : Ref → Bool) {op : Op}
    (h : InclOn g remote) (hs : op.Safe g) : InclOn g (applyOp g rej remote op) := by
  cases op with
  | push ups => exact h.of_same (push_fold_dest g rej ups hs remote)
  | pushAll loc prune =>
    obtain ⟨rfl, hl⟩ := hs
    rcases applyOp_pushAll_cases g rej remote loc true with he | he <;> rw [he]
    · exact hl
    · exact h
  | delete r =>
    rw [applyOp_delete]
    split
    · exact h
    · exact h.of_sub fun _ _ hc => (RefMap.get_del_eq_some.mp hc).2

theorem applyOps_incl {g : Graph} (rej : Ref → Bool) : ∀ (ops : List Op) {remote : RefMap},
    InclOn g remote → (∀ op ∈ ops, op.Safe g) → InclOn g (applyOps g rej remote ops) :=
  fun ops _ => applyOps_preserves (fun _ _ h hs => applyOp_incl rej h hs) ops

theorem mergeRest_frame (pr : PrInfo) : ∀ (ds : List Dest) {l l' : Loc} {prevD : Commit},
    mergeRest l pr prevD ds = some l' → ∀ x, (∀ d ∈ ds, x ≠ .dest d) → l'.refs.get x = l.refs.get x
  | [], l, l', _, hm, _, _ => by
    cases hm
    rfl
  | d :: ds, l, l', prevD, hm, x, hx => by
    rw [mergeRest] at hm
    split at hm
    · cases hm
    · split at hm
      · cases hm
      · next l1 hm1 =>
        split at hm
        · cases hm
        · rw [mergeRest_frame pr ds hm x (fun d' hd' => hx d' (List.mem_cons_of_mem _ hd')),
            Loc.mergeD_other hm1 x (hx d List.mem_cons_self)]

theorem directMerge_shape (s : Sys) (l4 : Loc) (pr : PrInfo) (sc : Commit) (ts : List Dest) (pre : List Op) :
    ∃ qs l5, qs = (if s.useQueue then qOnly l4.refs else []) ∧ l5 = { l4 with refs := delRefs l4.refs qs } ∧
      ((∃ l : Loc, (l = l5 ∨ ∃ d1 ds, ts = d1 :: ds ∧ l5.merge (.dest d1) [sc] = some l) ∧
          directMerge s l4 pr sc ts pre = ⟨l.g, pre ++ qs.map Op.delete, "crash", s.queue⟩) ∨
       ∃ d1 ds l6 n1 l7, ts = d1 :: ds ∧ l5.merge (.dest d1) [sc] = some l6 ∧ l6.refs.get (.dest d1) = some n1 ∧
          mergeRest l6 pr n1 ds = some l7 ∧
          (∀ x, (∀ d ∈ ts, x ≠ .dest d) → l7.refs.get x = l5.refs.get x) ∧
          directMerge s l4 pr sc ts pre = ⟨l7.g, pre ++ qs.map Op.delete ++
            [.pushAll (delRefs l7.refs (ds.map (fun d => Ref.w d pr.src))) true], "SuccessMessage", s.queue⟩) := by
  refine ⟨_, _, rfl, rfl, ?_⟩
  unfold directMerge
  simp only
  generalize (if s.useQueue then qOnly l4.refs else []) = qs
  cases ts with
  | nil => exact Or.inl ⟨_, Or.inl rfl, rfl⟩
  | cons d1 ds =>
    simp only
    split
    · exact Or.inl ⟨_, Or.inl rfl, rfl⟩
    · next l6 hm1 =>
      split
      · exact Or.inl ⟨l6, Or.inr ⟨d1, ds, rfl, hm1⟩, rfl⟩
      · next n1 hn1 =>
        split
        · exact Or.inl ⟨l6, Or.inr ⟨d1, ds, rfl, hm1⟩, rfl⟩
        · next l7 hm2 =>
          refine Or.inr ⟨d1, ds, l6, n1, l7, rfl, hm1, hn1, hm2, fun x hx => ?_, rfl⟩
          rw [mergeRest_frame pr ds hm2 x (fun d hd => hx d (List.mem_cons_of_mem _ hd))]
          exact (Loc.merge_kept hm1).2 x (hx d1 List.mem_cons_self)

theorem directMerge_queue (s : Sys) (l4 : Loc) (pr : PrInfo) (sc : Commit) (ts : List Dest) (pre : List Op) :
    (directMerge s l4 pr sc ts pre).queue = s.queue := by
  obtain ⟨_, _, _, _, ⟨_, _, he⟩ | ⟨_, _, _, _, _, _, _, _, _, _, he⟩⟩ := directMerge_shape s l4 pr sc ts pre <;> rw [he]

theorem directMerge_destUpdate {l5 l6 l7 : Loc} {pr : PrInfo} {sc n1 : Commit} {d1 : Dest} {ds : List Dest}
    (hl5 : l5.OK) (hsc : sc < l5.g.size) (hnd : (d1 :: ds).Nodup) (hm1 : l5.merge (.dest d1) [sc] = some l6)
    (hn1 : l6.refs.get (.dest d1) = some n1) (hm2 : mergeRest l6 pr n1 ds = some l7) :
    l7.OK ∧ DestUpdate l5.g l7.g l5.refs l7.refs (d1 :: ds) := by
  obtain ⟨hl6, hext1, hsame1, o1, n1', ho1, hn1', hon1, _⟩ :=
    Loc.merge_spec hl5 (List.forall_mem_singleton.mpr hsc) hm1
  cases hn1.symm.trans hn1'
  rw [List.nodup_cons] at hnd
  have hn1lt := hl6.valid _ _ hn1
  obtain ⟨hl7, hext2, hsame2, hgrow2, hchain2⟩ := mergeRest_spec ds hl6 hn1lt hnd.2 hm2
  have hd1 : l7.refs.get (.dest d1) = some n1 :=
    (hsame2 _ fun d' hd' he => hnd.1 (by cases he; exact hd')).trans hn1
  refine ⟨hl7, hext1.trans hext2, ?_, ?_, ?_⟩
  · intro d hd
    rw [hsame2 _ (fun d' hd' he => hd (by cases he; exact List.mem_cons_of_mem _ hd')),
      hsame1 _ (fun he => hd (by cases he; exact List.mem_cons_self))]
  · intro d hd
    rcases List.mem_cons.mp hd with rfl | hd'
    · exact ⟨o1, n1, ho1, hd1, hext2.le hn1lt hon1⟩
    · obtain ⟨o, n, ho, hn, hon, _⟩ := hgrow2 d hd'
      have hne : Ref.dest d ≠ .dest d1 := fun he => hnd.1 (by cases he; exact hd')
      exact ⟨o, n, hsame1 _ hne ▸ ho, hn, hon⟩
  · refine List.pairwise_cons.mpr ⟨fun b hb na nb hna hnb => ?_, hchain2⟩
    obtain ⟨_, n', _, hn', _, hpn'⟩ := hgrow2 b hb
    cases hd1.symm.trans hna
    cases hn'.symm.trans hnb
    exact hpn'

theorem directMerge_spec {s : Sys} {l4 : Loc} (hl : l4.OK) (pr : PrInfo) {sc : Commit} (hsc : sc < l4.g.size)
    {ts : List Dest} (hnd : ts.Nodup) (pre : List Op) :
    ∃ (qs : List Ref) (l : Loc), l.OK ∧ Extends l4.g l.g ∧
      (directMerge s l4 pr sc ts pre = ⟨l.g, pre ++ qs.map Op.delete, "crash", s.queue⟩ ∨
       (DestUpdate l4.g l.g l4.refs l.refs ts ∧
        directMerge s l4 pr sc ts pre = ⟨l.g, pre ++ qs.map Op.delete ++
          [.pushAll (delRefs l.refs (ts.tail.map (fun d => Ref.w d pr.src))) true], "SuccessMessage", s.queue⟩)) := by
  obtain ⟨qs, l5, hqs, rfl, hcase⟩ := directMerge_shape s l4 pr sc ts pre
  have hq : ∀ d, (delRefs l4.refs qs).get (.dest d) = l4.refs.get (.dest d) :=
    fun d => get_delRefs_of_not_q (hqs ▸ directMerge_qs s l4) (fun _ he => nomatch he)
  have hl5 : Loc.OK { l4 with refs := delRefs l4.refs qs } := hl.delRefs qs
  refine ⟨qs, ?_⟩
  rcases hcase with ⟨l, rfl | ⟨d1, ds, rfl, hm1⟩, he⟩ | ⟨d1, ds, l6, n1, l7, rfl, hm1, hn1, hm2, _, he⟩
  · exact ⟨_, hl5, Extends.refl _, Or.inl he⟩
  · obtain ⟨hl6, hext1, _⟩ := Loc.merge_spec hl5 (List.forall_mem_singleton.mpr hsc) hm1
    exact ⟨l, hl6, hext1, Or.inl he⟩
  · obtain ⟨hl7, hu⟩ := directMerge_destUpdate hl5 hsc hnd hm1 hn1 hm2
    -- the deletion of queue refs has not touched the destination refs of the clone
    refine ⟨l7, hl7, hu.ext, Or.inr ⟨⟨hu.ext, fun d hd => (hu.same d hd).trans (hq d), fun d hd => ?_, hu.chain⟩, he⟩⟩
    obtain ⟨o, n, ho, hn, hon⟩ := hu.grow d hd
    exact ⟨o, n, (hq d).symm.trans ho, hn, hon⟩

theorem mergeTargets_cases (pr : Nat) (src : String) : ∀ (ts : List Dest) (m : RefMap) (x : Ref),
    (mergeTargets pr src m ts).get x = m.get x ∨
      ∃ d ∈ ts, ∃ c, x = .dest d ∧ m.get (.qw pr d src) = some c ∧ (mergeTargets pr src m ts).get x = some c
  | [], _, _ => Or.inl rfl
  | t :: ts, m, x => by
    rw [mergeTargets, List.foldl_cons]
    split
    · next c hq =>
      have hqw : ∀ d, (m.set (.dest t) c).get (.qw pr d src) = m.get (.qw pr d src) :=
        fun d => RefMap.get_set_ne _ _ (fun he => nomatch he)
      rcases mergeTargets_cases pr src ts (m.set (.dest t) c) x with h | ⟨d, hd, c', hx, hc', h⟩
      · rw [mergeTargets] at h
        rw [h, RefMap.get_set]
        split
        · next hxt => exact Or.inr ⟨t, List.mem_cons_self, c, hxt, hq, rfl⟩
        · exact Or.inl rfl
      · exact Or.inr ⟨d, List.mem_cons_of_mem _ hd, c', hx, (hqw d).symm.trans hc', h⟩
    · rcases mergeTargets_cases pr src ts m x with h | ⟨d, hd, h⟩
      · exact Or.inl h
      · exact Or.inr ⟨d, List.mem_cons_of_mem _ hd, h⟩

theorem deletes_safe (g : Graph) (qs : List Ref) : ∀ op ∈ qs.map Op.delete, op.Safe g :=
  List.forall_mem_map.mpr fun _ _ => trivial

theorem directMerge_safe {s : Sys} {l4 : Loc} {pr : PrInfo} {sc : Commit} {ts : List Dest} {pre : List Op}
    (hl : l4.OK) (hsc : sc < l4.g.size) (hincl : InclOn l4.g l4.refs)
    (hord : ts.Pairwise (fun a b => a.before b = true))
    (hclosed : ∀ t ∈ ts, ∀ b, t.before b = true → (l4.refs.get (.dest b)).isSome = true → b ∈ ts)
    (hpre : ∀ g, ∀ op ∈ pre, op.Safe g) :
    ∀ op ∈ (directMerge s l4 pr sc ts pre).ops, op.Safe (directMerge s l4 pr sc ts pre).g := by
  obtain ⟨qs, l, hlo, _, he⟩ := directMerge_spec (s := s) hl pr hsc (pairwise_before_nodup hord) pre
  have hpq : ∀ op ∈ pre ++ qs.map Op.delete, op.Safe l.g :=
    List.forall_mem_append.mpr ⟨hpre _, deletes_safe _ qs⟩
  rcases he with he | ⟨hupd, he⟩ <;> rw [he]
  · exact hpq
  · exact List.forall_mem_append.mpr ⟨hpq, List.forall_mem_singleton.mpr
      ⟨rfl, (incl_of_destUpdate hlo.wf hl.valid hincl hupd hord hclosed).delRefs _⟩⟩

theorem WOnly.refl {l : Loc} (h : l.OK) : WOnly l l := ⟨h, Extends.refl _, fun _ _ => rfl⟩

theorem WOnly.trans {a b c : Loc} (h1 : WOnly a b) (h2 : WOnly b c) : WOnly a c :=
  ⟨h2.ok, h1.ext.trans h2.ext, fun x hx => by rw [h2.dests x hx, h1.dests x hx]⟩

theorem createW_wonly (pr : PrInfo) : ∀ (ds : List Dest) {l : Loc}, l.OK → WOnly l (createW l pr ds)
  | [], l, hl => WOnly.refl hl
  | d :: ds, l, hl => by
    rw [createW]
    split
    · next t _ ht =>
      have h1 : WOnly l { l with refs := l.refs.set (.w d pr.src) t } :=
        ⟨hl.set _ (hl.valid _ _ ht), Extends.refl _, fun x hx => RefMap.get_set_ne _ _ (hx d pr.src)⟩
      exact h1.trans (createW_wonly pr ds h1.ok)
    · exact createW_wonly pr ds hl

theorem updateW_wonly (pr : PrInfo) : ∀ (ds : List Dest) {l : Loc} {prev : Commit} {done : List Ref},
    l.OK → prev < l.g.size → WOnly l (updateW l pr prev ds done).1
  | [], l, _, _, hl, _ => WOnly.refl hl
  | d :: ds, l, prev, done, hl, hp => by
    rw [updateW]
    split
    · exact WOnly.refl hl
    · next t ht =>
      split
      · exact WOnly.refl hl
      · next l' hm =>
        obtain ⟨hl', hext, hsame, _, n, _, hn, _, _⟩ :=
          Loc.mergeN_spec hl (forall_mem_pair.mpr ⟨hl.valid _ _ ht, hp⟩) hm
        have h1 : WOnly l l' := ⟨hl', hext, fun x hx => hsame x (hx d pr.src)⟩
        rw [hn]
        exact h1.trans (updateW_wonly pr ds hl' (hl'.valid _ _ hn))

theorem mem_tipsOf {refs : RefMap} {rs : List Ref} {rc : Ref × Commit} :
    rc ∈ tipsOf refs rs ↔ rc.1 ∈ rs ∧ refs.get rc.1 = some rc.2 := by
  obtain ⟨r, c⟩ := rc
  simp only [tipsOf, List.mem_filterMap, Option.map_eq_some_iff, Prod.mk.injEq]
  constructor
  · rintro ⟨r', hr, c', hc, rfl, rfl⟩
    exact ⟨hr, hc⟩
  · rintro ⟨hr, hc⟩
    exact ⟨r, hr, c, hc, rfl, rfl⟩

theorem tipsOf_mem {refs : RefMap} {rs : List Ref} {rc : Ref × Commit} (h : rc ∈ tipsOf refs rs) : rc.1 ∈ rs :=
  (mem_tipsOf.mp h).1

theorem push_tipsOf_safe (g : Graph) (refs : RefMap) (rs : List Ref) (h : ∀ r ∈ rs, r.isDest = false) :
    (Op.push (tipsOf refs rs)).Safe g :=
  fun _ hrc => h _ (tipsOf_mem hrc)

theorem createQ_spec : ∀ (ds : List Dest) (l : Loc),
    (createQ l ds).1.g = l.g ∧ (l.OK → (createQ l ds).1.OK) ∧
      ∀ op ∈ (createQ l ds).2, ∃ d t, op = .push [(.q d, t)] ∧ (l.OK → t < l.g.size)
  | [], _ => ⟨rfl, id, fun _ h => nomatch h⟩
  | d :: ds, l => by
    rw [createQ]
    split
    · next t _ ht =>
      obtain ⟨h1, h2, h3⟩ := createQ_spec ds { l with refs := l.refs.set (.q d) t }
      have hset : l.OK → Loc.OK { l with refs := l.refs.set (.q d) t } := fun hl => hl.set _ (hl.valid _ _ ht)
      refine ⟨h1, fun hl => h2 (hset hl), fun op hop => ?_⟩
      rcases List.mem_cons.mp hop with rfl | hop
      · exact ⟨d, t, rfl, fun hl => hl.valid _ _ ht⟩
      · obtain ⟨d', t', he, hlt⟩ := h3 op hop
        exact ⟨d', t', he, fun hl => hlt (hset hl)⟩
    · exact createQ_spec ds l

theorem createQ_ops (ds : List Dest) (l : Loc) : ∀ op ∈ (createQ l ds).2, ∃ d t, op = .push [(.q d, t)] :=
  fun op h => let ⟨d, t, he, _⟩ := (createQ_spec ds l).2.2 op h; ⟨d, t, he⟩

theorem createQ_ok (ds : List Dest) {l : Loc} (hl : l.OK) : (createQ l ds).1.OK ∧ (createQ l ds).1.g = l.g :=
  ⟨(createQ_spec ds l).2.1 hl, (createQ_spec ds l).1⟩

theorem queueRest_ext (pr : PrInfo) : ∀ (ds : List Dest) {l l' : Loc} {prevQ : Commit}, l.OK →
    prevQ < l.g.size → queueRest l pr prevQ ds = some l' → l'.OK ∧ Extends l.g l'.g
  | [], l, l', _, hl, _, h => by
    cases h
    exact ⟨hl, Extends.refl _⟩
  | d :: ds, l, l', prevQ, hl, hp, h => by
    rw [queueRest] at h
    split at h
    · cases h
    · next wc hw =>
      split at h
      · cases h
      · next l1 hm =>
        obtain ⟨hl1, hext1, _, _, n, _, hn, _, _⟩ :=
          Loc.mergeN_spec hl (forall_mem_pair.mpr ⟨hl.valid _ _ hw, hp⟩) hm
        rw [hn] at h
        have hnlt := hl1.valid _ _ hn
        obtain ⟨hl', hext2⟩ := queueRest_ext pr ds (hl1.set (.qw pr.id d pr.src) hnlt) hnlt h
        exact ⟨hl', hext1.trans hext2⟩

theorem enqueue_spec (s : Sys) (l4 : Loc) (pr : PrInfo) (ts : List Dest) (pre : List Op) :
    ∃ l : Loc, (l4.OK → l.OK ∧ Extends l4.g l.g) ∧
      ((∃ o ∈ ["crash", "QueueConflict"], enqueue s l4 pr ts pre = ⟨l.g, pre ++ (createQ l4 ts).2, o, s.queue⟩) ∨
       enqueue s l4 pr ts pre = ⟨l.g, pre ++ (createQ l4 ts).2 ++
          [Op.push (tipsOf l.refs (ts.map Ref.q ++ ts.map (fun d => Ref.qw pr.id d pr.src)))], "Queued",
          s.queue ++ [⟨pr.id, pr.src, ts⟩]⟩) := by
  have h5 : l4.OK → (createQ l4 ts).1.OK ∧ Extends l4.g (createQ l4 ts).1.g :=
    fun hl => ⟨(createQ_ok ts hl).1, (createQ_ok ts hl).2 ▸ Extends.refl _⟩
  unfold enqueue
  generalize createQ l4 ts = cq at h5
  obtain ⟨l5, qops⟩ := cq
  simp only at h5 ⊢
  cases ts with
  | nil => exact ⟨l5, h5, Or.inl ⟨_, by simp, rfl⟩⟩
  | cons d1 ds =>
    simp only
    split
    · exact ⟨l5, h5, Or.inl ⟨_, by simp, rfl⟩⟩
    · next sc' hs =>
      split
      · exact ⟨l5, h5, Or.inl ⟨_, by simp, rfl⟩⟩
      · next l6 hm =>
        have h6 : l4.OK → l6.OK ∧ Extends l4.g l6.g := fun hl => by
          obtain ⟨hl5, hx5⟩ := h5 hl
          obtain ⟨hl6, hx6, _⟩ := Loc.merge_spec hl5 (List.forall_mem_singleton.mpr (hl5.valid _ _ hs)) hm
          exact ⟨hl6, hx5.trans hx6⟩
        split
        · exact ⟨l6, h6, Or.inl ⟨_, by simp, rfl⟩⟩
        · next n hn =>
          split
          · exact ⟨l6, h6, Or.inl ⟨_, by simp, rfl⟩⟩
          · next l8 hq =>
            refine ⟨l8, fun hl => ?_, Or.inr rfl⟩
            obtain ⟨hl6, hx6⟩ := h6 hl
            have hnlt := hl6.valid _ _ hn
            obtain ⟨hl8, hx8⟩ := queueRest_ext pr ds (hl6.set _ hnlt) hnlt hq
            exact ⟨hl8, hx6.trans hx8⟩

theorem enqueue_shape (s : Sys) (l4 : Loc) (pr : PrInfo) (ts : List Dest) (pre : List Op) :
    (∃ g o, enqueue s l4 pr ts pre = ⟨g, pre ++ (createQ l4 ts).2, o, s.queue⟩) ∨
    ∃ l8 : Loc, enqueue s l4 pr ts pre = ⟨l8.g, pre ++ (createQ l4 ts).2 ++
      [.push (tipsOf l8.refs (ts.map Ref.q ++ ts.map (fun d => Ref.qw pr.id d pr.src)))], "Queued",
      s.queue ++ [⟨pr.id, pr.src, ts⟩]⟩ := by
  obtain ⟨l, _, ⟨o, _, he⟩ | he⟩ := enqueue_spec s l4 pr ts pre
  · exact .inl ⟨_, o, he⟩
  · exact .inr ⟨l, he⟩

theorem queueNames_not_dest (pr : PrInfo) (ts : List Dest) :
    ∀ r ∈ ts.map Ref.q ++ ts.map (fun d => Ref.qw pr.id d pr.src), r.isDest = false := by
  intro r hr
  simp only [List.mem_append, List.mem_map] at hr
  rcases hr with ⟨d, _, rfl⟩ | ⟨d, _, rfl⟩ <;> rfl

theorem enqueue_safe {s : Sys} {l4 : Loc} {pr : PrInfo} {ts : List Dest} {pre : List Op}
    (hpre : ∀ g, ∀ op ∈ pre, op.Safe g) :
    ∀ op ∈ (enqueue s l4 pr ts pre).ops, op.Safe (enqueue s l4 pr ts pre).g := by
  have hq : ∀ g, ∀ op ∈ (createQ l4 ts).2, op.Safe g := by
    intro g op hop
    obtain ⟨d, t, rfl⟩ := createQ_ops ts l4 op hop
    intro rc hrc
    cases List.mem_singleton.mp hrc
    rfl
  obtain ⟨l, _, he⟩ := enqueue_spec s l4 pr ts pre
  have hpq : ∀ op ∈ pre ++ (createQ l4 ts).2, op.Safe l.g := List.forall_mem_append.mpr ⟨hpre _, hq _⟩
  rcases he with ⟨o, _, he⟩ | he <;> rw [he]
  · exact hpq
  · exact List.forall_mem_append.mpr ⟨hpq, List.forall_mem_singleton.mpr
      (push_tipsOf_safe _ _ _ (queueNames_not_dest pr ts))⟩

end BertE.Flow
