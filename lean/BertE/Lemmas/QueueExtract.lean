import BertE.Lemmas.QueueLookup
/-
For C05: `_extract_pr_ids` (membership, no duplicate, closed form when the
hotfix queues are disjoint from everything else) and `greatestDev`.
-/
namespace BertE.Queue
open List

theorem nodup_reverse' {l : List Nat} (h : l.Nodup) : l.reverse.Nodup := by
  unfold Nodup at *
  rw [pairwise_reverse]
  exact h.imp (fun hab => fun e => hab e.symm)

theorem length_lt_of_subset_of_nodup {l₁ l₂ : List Nat} {x : Nat} (hn : l₁.Nodup) (hsub : ∀ p ∈ l₁, p ∈ l₂)
    (hx : x ∈ l₂) (hnx : x ∉ l₁) : l₁.length < l₂.length :=
  Nodup.length_le_of_subset (nodup_cons.mpr ⟨hnx, hn⟩)
    fun p hp => (mem_cons.mp hp).elim (fun e => e ▸ hx) (hsub p)

theorem find?_filter_of_first {α : Type} {p k : α → Bool} {l : List α}
    (hk : ∀ x, l.find? p = some x → k x = true) : (l.filter k).find? p = l.find? p := by
  induction l with
  | nil => rfl
  | cons a t ih =>
    cases hp : p a with
    | true =>
      rw [find?_cons_of_pos hp] at hk ⊢
      rw [filter_cons_of_pos (hk a rfl), find?_cons_of_pos hp]
    | false =>
      have hn : ¬ p a = true := by simp [hp]
      rw [find?_cons_of_neg hn] at hk ⊢
      by_cases ha : k a = true
      · rw [filter_cons_of_pos ha, find?_cons_of_neg hn, ih hk]
      · rw [filter_cons_of_neg ha, ih hk]

theorem greatestDev_nil : greatestDev [] = none := rfl

theorem greatestDev_eq_keys (q : Queues) :
    greatestDev q = (q.map (·.1)).reverse.find? fun v => v.length == 2 := by
  unfold greatestDev
  rw [← map_reverse, find?_map]
  rfl

theorem greatestDev_congr {q q' : Queues} (h : q.map (·.1) = q'.map (·.1)) :
    greatestDev q = greatestDev q' := by
  rw [greatestDev_eq_keys, greatestDev_eq_keys, h]

theorem greatestDev_filter (k : Version → Bool) (q : Queues)
    (hk : ∀ g, greatestDev q = some g → k g = true) :
    greatestDev (q.filter fun e => k e.1) = greatestDev q := by
  unfold greatestDev at hk ⊢
  rw [← filter_reverse, find?_filter_of_first]
  intro e he
  exact hk e.1 (by rw [he]; rfl)

theorem greatestDev_mem {q : Queues} {g : Version} (h : greatestDev q = some g) :
    g ∈ q.map (·.1) ∧ g.length = 2 := by
  obtain ⟨e, he, rfl⟩ := Option.map_eq_some_iff.mp h
  exact ⟨mem_map.mpr ⟨e, mem_reverse.mp (mem_of_find?_eq_some he), rfl⟩, by simpa using find?_some he⟩

theorem mainList_congr {q q' : Queues} (hk : q.map (·.1) = q'.map (·.1))
    (hl : ∀ g, greatestDev q = some g → listOf q g = listOf q' g) : mainList q = mainList q' := by
  unfold mainList
  rw [← greatestDev_congr hk]
  cases h : greatestDev q with
  | none => rfl
  | some g => exact hl g h

/-- the loops of `_extract_pr_ids`: put at the front what is neither in `hf` nor there already
    (the first loop, `insertNew`, has `hf = []`) -/
def mainFold (hf : List Nat) (l : List Nat) (acc : List Nat) : List Nat :=
  l.foldl (fun a p => if (hf ++ a).contains p then a else p :: a) acc

theorem insertNew_eq (acc l : List Nat) : insertNew acc l = mainFold [] l acc := rfl

theorem mainFold_nil (hf acc : List Nat) : mainFold hf [] acc = acc := rfl

theorem mainFold_cons (hf : List Nat) (a : Nat) (t acc : List Nat) :
    mainFold hf (a :: t) acc = mainFold hf t (if a ∈ hf ++ acc then acc else a :: acc) := by
  simp only [mainFold, foldl_cons, contains_iff_mem]

theorem mem_mainFold (hf l acc : List Nat) (p : Nat) :
    p ∈ hf ++ mainFold hf l acc ↔ p ∈ hf ∨ p ∈ acc ∨ p ∈ l := by
  induction l generalizing acc with
  | nil => simp [mainFold_nil]
  | cons a t ih =>
    rw [mainFold_cons, ih]
    split
    · rename_i hc
      have ha : a ∈ hf ∨ a ∈ acc := mem_append.mp hc
      constructor
      · exact fun h => h.imp id (Or.imp id (mem_cons_of_mem _))
      · rintro (h | h | h)
        · exact Or.inl h
        · exact Or.inr (Or.inl h)
        · rcases mem_cons.mp h with rfl | h
          · exact ha.imp id Or.inl
          · exact Or.inr (Or.inr h)
    · simp only [mem_cons, or_assoc, or_left_comm]

theorem nodup_mainFold (hf l acc : List Nat) (h : (hf ++ acc).Nodup) : (hf ++ mainFold hf l acc).Nodup := by
  induction l generalizing acc with
  | nil => exact h
  | cons a t ih =>
    rw [mainFold_cons]
    split
    · exact ih acc h
    · rename_i hc
      apply ih
      rw [nodup_append] at h ⊢
      refine ⟨h.1, nodup_cons.mpr ⟨fun hm => hc (mem_append_right _ hm), h.2.1⟩, ?_⟩
      intro x hx y hy
      rcases mem_cons.mp hy with rfl | hy
      · intro hxy; exact hc (mem_append_left _ (hxy ▸ hx))
      · exact h.2.2 x hx y hy

theorem mainFold_fresh (hf l acc : List Nat) (hn : l.Nodup) (hd : ∀ p ∈ l, p ∉ hf ∧ p ∉ acc) :
    mainFold hf l acc = l.reverse ++ acc := by
  induction l generalizing acc with
  | nil => rfl
  | cons a t ih =>
    have hn' := nodup_cons.mp hn
    have ha := hd a mem_cons_self
    rw [mainFold_cons, if_neg (fun h => (mem_append.mp h).elim ha.1 ha.2), ih (a :: acc) hn'.2]
    · simp
    · intro p hp
      refine ⟨(hd p (mem_cons_of_mem _ hp)).1, fun hm => ?_⟩
      rcases mem_cons.mp hm with h | h
      · exact hn'.1 (h ▸ hp)
      · exact (hd p (mem_cons_of_mem _ hp)).2 h

theorem mem_insertNew (acc l : List Nat) (p : Nat) : p ∈ insertNew acc l ↔ p ∈ acc ∨ p ∈ l := by
  rw [insertNew_eq]
  simpa using mem_mainFold [] l acc p

theorem nodup_insertNew (acc l : List Nat) (h : acc.Nodup) : (insertNew acc l).Nodup :=
  nodup_mainFold [] l acc h

theorem insertNew_fresh (acc l : List Nat) (hn : l.Nodup) (hd : ∀ p ∈ l, p ∉ acc) :
    insertNew acc l = l.reverse ++ acc :=
  mainFold_fresh [] l acc hn fun p hp => ⟨not_mem_nil, hd p hp⟩

theorem prsHf_cons (e : Version × List Nat) (q : Queues) :
    prsHf (e :: q) = if isHotfix e.1 then insertNew (prsHf q) e.2 else prsHf q := rfl

theorem mem_prsHf (q : Queues) (p : Nat) : p ∈ prsHf q ↔ ∃ e ∈ q, isHotfix e.1 = true ∧ p ∈ e.2 := by
  induction q with
  | nil => simp [prsHf]
  | cons e t ih =>
    rw [prsHf_cons]
    by_cases h4 : isHotfix e.1 = true
    · rw [if_pos h4, mem_insertNew, ih]
      simp [h4, or_comm]
    · rw [if_neg h4, ih]
      simp [h4]

theorem nodup_prsHf (q : Queues) : (prsHf q).Nodup := by
  induction q with
  | nil => simp [prsHf]
  | cons e t ih =>
    rw [prsHf_cons]
    split
    · exact nodup_insertNew _ _ ih
    · exact ih

theorem extractPrIds_eq (q : Queues) : extractPrIds q = prsHf q ++ mainFold (prsHf q) (mainList q) [] := by
  unfold extractPrIds mainList mainFold
  cases greatestDev q <;> simp

theorem mem_extractPrIds (q : Queues) (p : Nat) :
    p ∈ extractPrIds q ↔ (∃ e ∈ q, isHotfix e.1 = true ∧ p ∈ e.2) ∨ p ∈ mainList q := by
  rw [extractPrIds_eq, mem_mainFold, mem_prsHf]
  simp

theorem nodup_extractPrIds (q : Queues) : (extractPrIds q).Nodup := by
  rw [extractPrIds_eq]
  exact nodup_mainFold _ _ _ (by simpa using nodup_prsHf q)

/-- the hotfix queues, each oldest first, in the order of the collection -/
def hfPart (q : Queues) : List Nat := (q.filter fun e => isHotfix e.1).flatMap fun e => e.2.reverse

/-- what the closed form needs: no duplicate inside a queue, and a hotfix queue shares nothing with
    another queue -/
structure ExtOK (q : Queues) : Prop where
  nodup : ∀ e ∈ q, e.2.Nodup
  disj : q.Pairwise fun a b => isHotfix a.1 = true ∨ isHotfix b.1 = true → disjointL a.2 b.2 ∧ disjointL b.2 a.2

theorem ExtOK.tail {e : Version × List Nat} {q : Queues} (h : ExtOK (e :: q)) : ExtOK q :=
  ⟨fun e' he' => h.nodup e' (mem_cons_of_mem _ he'), (pairwise_cons.mp h.disj).2⟩

theorem prsHf_clean (q : Queues) (h : ExtOK q) : prsHf q = hfPart q := by
  induction q with
  | nil => rfl
  | cons e t ih =>
    rw [prsHf_cons, ih h.tail]
    unfold hfPart
    by_cases hh : isHotfix e.1 = true
    · rw [if_pos hh, filter_cons_of_pos (by exact hh), flatMap_cons]
      apply insertNew_fresh _ _ (h.nodup e mem_cons_self)
      intro p hp hm
      obtain ⟨e', he', hp'⟩ := mem_flatMap.mp hm
      exact ((pairwise_cons.mp h.disj).1 e' (mem_filter.mp he').1 (Or.inl hh)).1 p hp (mem_reverse.mp hp')
    · rw [if_neg hh, filter_cons_of_neg (by exact hh)]

theorem mem_hfPart (q : Queues) (p : Nat) : p ∈ hfPart q ↔ ∃ e ∈ q, isHotfix e.1 = true ∧ p ∈ e.2 := by
  simp only [hfPart, mem_flatMap, mem_filter, mem_reverse, and_assoc]

theorem extractPrIds_clean (q : Queues) (h : ExtOK q) (hm : (mainList q).Nodup)
    (hd : ∀ p ∈ mainList q, p ∉ hfPart q) :
    extractPrIds q = hfPart q ++ (mainList q).reverse := by
  rw [extractPrIds_eq, prsHf_clean q h, mainFold_fresh _ _ _ hm]
  · simp
  · intro p hp; exact ⟨hd p hp, by simp⟩

end BertE.Queue
