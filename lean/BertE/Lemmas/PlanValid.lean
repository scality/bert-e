import BertE.Lemmas.Valid
/- Every operation planned by a job carries existing commits and creates no destination ref
   (the `create_branch` job excepted, which is handled apart). -/
namespace BertE.Flow
open BertE.Git

theorem Op.Valid.mono {g g' : Graph} {r : RefMap} {op : Op} (he : Extends g g') (h : op.Valid g r) :
    op.Valid g' r := by
  cases op with
  | push ups => exact fun rc hrc => ⟨(h rc hrc).1, he.lt (h rc hrc).2⟩
  | pushAll loc prune => exact ⟨h.1.mono he, h.2⟩
  | delete r => trivial

theorem push_tipsOf_valid {g : Graph} {refs : RefMap} (hv : RefsValid g refs) (r0 : RefMap) (rs : List Ref)
    (h : ∀ r ∈ rs, r.isDest = false) : (Op.push (tipsOf refs rs)).Valid g r0 :=
  fun _ hrc => ⟨h _ (mem_tipsOf.mp hrc).1, hv _ _ (mem_tipsOf.mp hrc).2⟩

theorem nil_valid (g : Graph) (r0 : RefMap) : ∀ op ∈ ([] : List Op), op.Valid g r0 := fun _ h => nomatch h

theorem deletes_valid (g : Graph) (r0 : RefMap) (qs : List Ref) : ∀ op ∈ qs.map Op.delete, op.Valid g r0 :=
  List.forall_mem_map.mpr fun _ _ => trivial

theorem pushWOps_valid {l : Loc} (hl : l.OK) (r0 : RefMap) (pr : PrInfo) (rest : List Dest) :
    ∀ op ∈ pushWOps l pr rest, op.Valid l.g r0 :=
  forall_mem_ite_nil (push_tipsOf_valid hl.valid r0 _ (List.forall_mem_map.mpr fun _ _ => rfl))

theorem conflictPush_valid {l : Loc} (hl : l.OK) (r0 : RefMap) (updated : List Ref)
    (hu : ∀ r ∈ updated, r.isDest = false) : ∀ op ∈ conflictPush l updated, op.Valid l.g r0 :=
  forall_mem_ite_nil (push_tipsOf_valid hl.valid r0 _ hu)

theorem enqueue_valid {s : Sys} {l4 : Loc} (hl : l4.OK) (r0 : RefMap) (pr : PrInfo) (ts : List Dest) {pre : List Op}
    (hpre : ∀ op ∈ pre, op.Valid l4.g r0) :
    ∀ op ∈ (enqueue s l4 pr ts pre).ops, op.Valid (enqueue s l4 pr ts pre).g r0 := by
  obtain ⟨l, hlo, he⟩ := enqueue_spec s l4 pr ts pre
  obtain ⟨hlo, hext⟩ := hlo hl
  have hq : ∀ op ∈ (createQ l4 ts).2, op.Valid l.g r0 := by
    intro op hop
    obtain ⟨d, t, rfl, ht⟩ := (createQ_spec ts l4).2.2 op hop
    intro rc hrc
    cases List.mem_singleton.mp hrc
    exact ⟨rfl, hext.lt (ht hl)⟩
  have hpq : ∀ op ∈ pre ++ (createQ l4 ts).2, op.Valid l.g r0 :=
    List.forall_mem_append.mpr ⟨fun op h => (hpre op h).mono hext, hq⟩
  rcases he with ⟨_, _, he⟩ | he <;> rw [he]
  · exact hpq
  · exact List.forall_mem_append.mpr ⟨hpq, List.forall_mem_singleton.mpr
      (push_tipsOf_valid hlo.valid r0 _ (queueNames_not_dest pr ts))⟩

theorem directMerge_valid {s : Sys} {l4 : Loc} (hl : l4.OK) (r0 : RefMap)
    (hd : ∀ d, l4.refs.get (.dest d) = r0.get (.dest d))
    (pr : PrInfo) {sc : Commit} (hsc : sc < l4.g.size) (ts : List Dest) (hnd : ts.Nodup) {pre : List Op}
    (hpre : ∀ op ∈ pre, op.Valid l4.g r0) :
    ∀ op ∈ (directMerge s l4 pr sc ts pre).ops, op.Valid (directMerge s l4 pr sc ts pre).g r0 := by
  obtain ⟨qs, l, hlo, hext, he⟩ := directMerge_spec (s := s) hl pr hsc hnd pre
  have hpq : ∀ op ∈ pre ++ qs.map Op.delete, op.Valid l.g r0 :=
    List.forall_mem_append.mpr ⟨fun op h => (hpre op h).mono hext, deletes_valid _ _ qs⟩
  rcases he with he | ⟨hupd, he⟩ <;> rw [he]
  · exact hpq
  · refine List.forall_mem_append.mpr ⟨hpq, List.forall_mem_singleton.mpr ⟨hlo.valid.delRefs _, fun d c hc => ?_⟩⟩
    -- a destination ref of the result existed in the clone, hence on the remote
    rw [← hd]
    by_cases hdt : d ∈ ts
    · obtain ⟨o, _, ho, _⟩ := hupd.grow d hdt
      rw [ho]
      rfl
    · rw [← hupd.same d hdt, (get_delRefs_eq_some.mp hc).2]
      rfl

theorem planPr_valid {s : Sys} (hs : s.WF) (pr : PrInfo) (stage : Stage) (orc : List Bool) (sel : List Nat)
    (hq : ∀ op ∈ (planQueues s sel).ops, op.Valid (planQueues s sel).g s.remote) :
    ∀ op ∈ (planPr s pr stage orc sel).ops, op.Valid (planPr s pr stage orc sel).g s.remote := by
  rcases planPr_cases s pr stage orc sel with ⟨_, _, he⟩ | he | ⟨sc, dc, hsc, _, hp | ⟨l4, pushW, hp, he⟩⟩
  · rw [he]
    exact nil_valid _ _
  · rw [he]
    exact hq
  · obtain ⟨l, _, hw, hu, he⟩ := prepare_inl hs pr (hs.valid _ _ hsc) hp
    rw [he]
    exact conflictPush_valid hw.ok _ _ fun r hr => by
      obtain ⟨d, rfl⟩ := hu r hr
      rfl
  · have hsclt : sc < s.g.size := hs.valid _ _ hsc
    obtain ⟨hw, rfl⟩ := prepare_inr hs pr hsclt hp
    have hpw := pushWOps_valid hw.ok s.remote pr ((s.targets pr.dst).drop 1)
    rcases he with he | he | he <;> rw [he]
    · exact hpw
    · exact enqueue_valid hw.ok _ pr _ hpw
    · exact directMerge_valid hw.ok _ (fun d => hw.dests (.dest d) (fun _ _ he => nomatch he)) pr
        (hw.ext.lt hsclt) _ (pairwise_before_nodup (targets_pairwise hs.sorted pr.dst)) hpw

end BertE.Flow
