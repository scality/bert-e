import BertE.Lemmas.CloseDefs
import BertE.Lemmas.C08
/-
What each job of the system model leaves on the remote and in the queue bookkeeping (which refs changed to what, all
others unchanged); `VX` (`Lemmas/CloseInvV.lean`) and `QSync` (`Lemmas/CloseInvQ.lean`) are read off these statements.
-/
namespace BertE.Close
open BertE.Git BertE.Flow BertE.Select BertE.FlowExt

theorem close_get_isSome_of_mem {m : RefMap} {r : Ref} {c : Commit} (h : (r, c) ∈ m) : (m.get r).isSome = true := by
  induction m with
  | nil => cases h
  | cons p m ih =>
    rw [RefMap.get_cons]
    by_cases hr : r = p.1
    · simp [hr]
    · simp only [hr, if_false]
      rcases List.mem_cons.mp h with rfl | h'
      · exact absurd rfl hr
      · exact ih h'

theorem close_noqw_after_drop (m : RefMap) (pr : Nat) (d : Dest) (src : String) :
    (delRefs m (allQRefs m)).get (.qw pr d src) = none := by
  rw [get_delRefs]
  split
  · rfl
  · rename_i hni
    cases hc : m.get (.qw pr d src) with
    | none => rfl
    | some c =>
      exfalso; apply hni
      unfold allQRefs
      simp only [List.mem_map, List.mem_filter]
      exact ⟨(.qw pr d src, c), ⟨RefMap.get_mem hc, rfl⟩, rfl⟩

theorem close_allQRefs_empty {m : RefMap} (h : (allQRefs m).isEmpty = true) : delRefs m (allQRefs m) = m := by
  rw [List.isEmpty_iff.mp h]; rfl

theorem close_dest_ne_q (d : Dest) : (∀ d', Ref.dest d ≠ .q d') ∧ (∀ pr d' src, Ref.dest d ≠ .qw pr d' src) :=
  And.intro (fun _ he => by cases he) (fun _ _ _ he => by cases he)

theorem close_dest_iff {s : Sys} (hs : s.WF) {p : Plan} (hext : Extends s.g p.g)
    (hv : ∀ op ∈ p.ops, op.Valid p.g s.remote) (hk : ∀ op ∈ p.ops, FlowExt.Op.Keeps s.remote op) (d : Dest) :
    ((s.after p).remote.get (.dest d)).isSome = (s.remote.get (.dest d)).isSome := by
  obtain ⟨_, hsub⟩ := applyOps_valid (g := p.g) (remote0 := s.remote) noRej p.ops
    (hs.valid.mono hext) (DestSub.refl _) hv
  have hpres : FlowExt.DestsPresent s.remote (s.after p).remote :=
    applyOps_preserves (fun _ _ => FlowExt.applyOp_destsPresent noRej) p.ops (fun _ h => h)
      (fun op ho => (hk op ho).2)
  cases h1 : (s.after p).remote.get (.dest d) with
  | some c => rw [hsub d c h1]; rfl
  | none =>
    cases h2 : s.remote.get (.dest d) with
    | none => rfl
    | some c =>
      have := hpres d (by rw [h2]; rfl)
      rw [h1] at this; cases this

def TouchesW (s : Sys) (p : Plan) : Prop :=
  p.queue = s.queue ∧ ∀ x, (∀ d src, x ≠ .w d src) → (s.after p).remote.get x = s.remote.get x

def PushesW (ops : List Op) : Prop :=
  ∀ (g : Graph) (m : RefMap) (x : Ref), (∀ d src, x ≠ .w d src) → (applyOps g noRej m ops).get x = m.get x

theorem close_touchesW_nil (s : Sys) (o : String) : TouchesW s ⟨s.g, [], o, s.queue⟩ := ⟨rfl, fun _ _ => rfl⟩

theorem close_touchesW_dropW (s : Sys) (pr : PrInfo) (o : String) :
    TouchesW s ⟨s.g, [.pushAll (delRefs s.remote
      (((s.targets pr.dst).map (fun d => Ref.w d pr.src)).filter (fun r => s.remote.has r))) true], o, s.queue⟩ := by
  refine ⟨rfl, dropW_other s.g s.remote _ ?_⟩
  intro r hr
  simp only [List.mem_filter, List.mem_map] at hr
  obtain ⟨⟨d, _, rfl⟩, _⟩ := hr
  exact ⟨d, pr.src, rfl⟩

theorem close_planDeclined_touchesW (s : Sys) (pr : PrInfo) (cd : Bool) : TouchesW s (planDeclined s pr cd) := by
  unfold planDeclined
  simp only
  split
  · exact close_touchesW_nil s _
  · exact close_touchesW_dropW s pr _

theorem close_planReset_touchesW (s : Sys) (pr : PrInfo) : TouchesW s (planReset s pr) := by
  unfold planReset
  simp only
  split
  · exact close_touchesW_nil s _
  · exact close_touchesW_dropW s pr _

/-- the four exits of `_handle_pull_request` after the clone: at most integration branches are touched; the queue
    merge (the pull request is found queued); `add_to_queue`; the direct merge -/
theorem close_planPr_cases {s : Sys} (hs : s.WF) (pr : PrInfo) (stage : Stage) (orc : List Bool) (sel : List Nat)
    {P : Plan → Prop}
    (hwonly : ∀ p, TouchesW s p → P p)
    (hqueues : alreadyQueued s pr = true → P (planQueues s sel))
    (henqueue : ∀ l4 pushW, WOnly ⟨s.g, s.remote, orc⟩ l4 → PushesW pushW →
      alreadyQueued s pr = false → (∀ d ∈ s.targets pr.dst, s.remote.get (.qw pr.id d pr.src) = none) →
      P (enqueue s l4 pr (s.targets pr.dst) pushW))
    (hdirect : ∀ l4 pushW sc, WOnly ⟨s.g, s.remote, orc⟩ l4 → PushesW pushW →
      sc < s.g.size → isNeeded s l4 pr (s.targets pr.dst) = false →
      P (directMerge s l4 pr sc (s.targets pr.dst) pushW)) :
    P (planPr s pr stage orc sel) := by
  refine planPr_elim s pr stage orc sel (fun o => hwonly _ (close_touchesW_nil s o)) hqueues ?_ ?_
  · intro sc dc p hsc _ hp
    obtain ⟨_, hqueue, hw⟩ := prepare_inl_frame hs pr (hs.valid _ _ hsc) hp
    exact hwonly p ⟨hqueue, hw _ _⟩
  · intro sc dc l4 pushW hsc _ hp hnaq
    have hsclt := hs.valid _ _ hsc
    obtain ⟨hw, rfl⟩ := prepare_inr hs pr hsclt hp
    have hpw : PushesW (pushWOps l4 pr ((s.targets pr.dst).drop 1)) :=
      fun g m x hx => pushWOps_other g noRej _ pr _ m x hx
    refine ⟨hwonly _ ⟨rfl, hpw _ _⟩, fun hneed => henqueue l4 _ hw hpw hnaq ?_,
      fun _ hneed => hdirect l4 _ sc hw hpw hsclt hneed⟩
    intro d hd
    rw [alreadyQueued, isNeeded_true hneed, Bool.true_and, List.any_eq_false] at hnaq
    exact RefMap.has_eq_false.mp (by simpa using hnaq d hd)

theorem close_entriesOn_nil_of_noq {s : Sys} (hq : QInv s) {d : Dest} (h : s.remote.get (.q d) = none) :
    entriesOn s d = [] := by
  rw [List.eq_nil_iff_forall_not_mem]
  intro x hm
  obtain ⟨hx, hd⟩ := mem_entriesOn.mp hm
  have := hq.qhas x hx d hd
  rw [h] at this; cases this

theorem close_filter_filter_comm {α : Type} (l : List α) (p r : α → Bool) :
    (l.filter r).filter p = (l.filter p).filter r := by
  rw [List.filter_filter, List.filter_filter]
  congr 1
  funext a
  exact Bool.and_comm _ _

theorem close_lastTargeting_eq (d : Dest) : ∀ (L : List QEntry),
    lastTargeting L d = (L.filter fun e => e.targets.contains d).getLast?
  | [] => rfl
  | x :: xs => by
    rw [List.getLast?_filter, List.reverse_cons, List.find?_append, ← List.getLast?_filter,
      ← close_lastTargeting_eq d xs]
    simp only [lastTargeting]
    cases lastTargeting xs d with
    | some e' => rfl
    | none => by_cases hd : d ∈ x.targets <;> simp [hd]

theorem close_planQueues_nothing {s : Sys} {sel : List Nat}
    (h : s.queue.filter (fun e => sel.contains e.pr) = []) : s.after (planQueues s sel) = s := by
  unfold planQueues
  simp only [h, List.isEmpty_nil, if_true]
  rfl

theorem close_planQueues_eq {s : Sys} {sel : List Nat} {es : List QEntry}
    (hes : s.queue.filter (fun e => sel.contains e.pr) = es) (hne : es ≠ []) :
    planQueues s sel = ⟨s.g, [.pushAll (delRefs (es.foldl mergeEntry s.remote)
      (es.flatMap (fun e => e.targets.flatMap (fun d => [Ref.qw e.pr d e.src, Ref.w d e.src])))) true], "Merged",
      s.queue.filter (fun e => !sel.contains e.pr)⟩ := by
  unfold planQueues
  simp only [hes]
  rw [if_neg]
  simpa using hne

/-- the atomic push of the queue merge is accepted (every destination moves forward): the remote is its content -/
theorem close_planQueues_after {s : Sys} (h : Inv s) (sel : List Nat) {es : List QEntry}
    (hes : s.queue.filter (fun e => sel.contains e.pr) = es) (hne : es ≠ []) :
    (s.after (planQueues s sel)).queue = s.queue.filter (fun e => !sel.contains e.pr) ∧
    (∀ d, (s.after (planQueues s sel)).remote.get (.dest d) = match lastTargeting es d with
      | some p => qwOf s.remote p d
      | none => s.remote.get (.dest d)) ∧
    (∀ x, (∀ d, x ≠ .dest d) → (s.after (planQueues s sel)).remote.get x =
      if x ∈ es.flatMap (fun e => e.targets.flatMap (fun d => [Ref.qw e.pr d e.src, Ref.w d e.src])) then none
      else s.remote.get x) := by
  have hq := h.q.base
  have hesq : ∀ e ∈ es, e ∈ s.queue := fun e he => (List.mem_filter.mp (hes ▸ he)).1
  rw [close_planQueues_eq hes hne]
  have hget := Flow.mergeEntries_get hq es s.remote hesq (fun _ _ _ => rfl)
  have hother : ∀ x, (∀ d, x ≠ .dest d) → (es.foldl mergeEntry s.remote).get x = s.remote.get x :=
    mergeEntries_other es s.remote
  generalize es.foldl mergeEntry s.remote = loc at hget hother
  have hgm : ∀ x ∈ es.flatMap (fun e => e.targets.flatMap (fun d => [Ref.qw e.pr d e.src, Ref.w d e.src])),
      ∀ d, x ≠ .dest d := by
    intro x hx d he
    obtain ⟨_, _, _, _, h' | h'⟩ := gone_mem hx <;> rw [he] at h' <;> cases h'
  generalize es.flatMap (fun e => e.targets.flatMap (fun d => [Ref.qw e.pr d e.src, Ref.w d e.src])) = gone at hgm
  have hdest : ∀ d, (delRefs loc gone).get (.dest d) = loc.get (.dest d) := by
    intro d
    rw [get_delRefs, if_neg (fun hx => hgm _ hx d rfl)]
  have hacc : applyOp s.g noRej s.remote (.pushAll (delRefs loc gone) true) = delRefs loc gone := by
    apply applyOp_pushAll_noRej
    intro r c hc
    by_cases hr : ∃ d, r = .dest d
    · obtain ⟨d, rfl⟩ := hr
      rw [hdest, hget d] at hc
      cases hl : lastTargeting es d with
      | none => rw [hl] at hc; exact Or.inl hc
      | some p =>
        rw [hl] at hc
        obtain ⟨hpes, hpd⟩ := lastTargeting_mem hl
        obtain ⟨c', t, hc', ht, hle⟩ := hq.entry p (hesq p hpes) d hpd
        simp only at hc
        rw [hc'] at hc; simp only [Option.some.injEq] at hc; subst hc
        right
        unfold accepts
        rw [ht]; exact hle
    · left
      rw [get_delRefs] at hc
      split at hc
      · cases hc
      · rw [hother _ (fun d he => hr ⟨d, he⟩)] at hc; exact hc
  simp only [Sys.after, applyOps, List.foldl_cons, List.foldl_nil, hacc]
  refine ⟨trivial, fun d => (hdest d).trans (hget d), fun x hx => ?_⟩
  rw [get_delRefs, hother x hx]

theorem close_planDropQueues_after (s : Sys) :
    (s.after (planDropQueues s)).remote = delRefs s.remote (allQRefs s.remote) ∧
    (s.after (planDropQueues s)).queue = [] := by
  unfold planDropQueues
  simp only
  split
  · rename_i hemp
    exact ⟨(close_allQRefs_empty hemp).symm, rfl⟩
  · exact ⟨by simp only [Sys.after, applyOps, List.foldl_cons, List.foldl_nil, pushAll_delRefs], rfl⟩

theorem close_planCreateBranch_after (s : Sys) (d : Dest) (c : Commit) (habs : s.remote.get (.dest d) = none) :
    ((s.useQueue && d.isDev) = true ∧
      (s.after (planCreateBranch s d c)).remote =
        delRefs (s.remote.set (.dest d) c) (allQRefs (s.remote.set (.dest d) c)) ∧
      (s.after (planCreateBranch s d c)).queue = []) ∨
    ((s.useQueue && d.isDev) = false ∧
      (s.after (planCreateBranch s d c)).remote = s.remote.set (.dest d) c ∧
      (s.after (planCreateBranch s d c)).queue = s.queue) := by
  unfold planCreateBranch
  split
  · rename_i hqd
    refine Or.inl ⟨hqd, ?_, rfl⟩
    simp only [Sys.after]
    split
    · rename_i hemp
      simp only [List.append_nil, applyOps, List.foldl_cons, List.foldl_nil, push_new _ _ _ _ habs,
        close_allQRefs_empty hemp]
    · simp only [List.cons_append, List.nil_append, applyOps, List.foldl_cons, List.foldl_nil,
        push_new _ _ _ _ habs, pushAll_delRefs]
  · rename_i hqd
    refine Or.inr ⟨Bool.eq_false_iff.mpr hqd, ?_, rfl⟩
    simp only [Sys.after, applyOps, List.foldl_cons, List.foldl_nil, push_new _ _ _ _ habs]

theorem close_deleteBranch_after (s : Sys) (d : Dest) (x : Ref) :
    (s.after (plan s (.deleteBranch d))).remote.get x = if x = .dest d ∨ x = .q d then none else s.remote.get x :=
  deleteBranch_remote s d x

theorem close_deleteBranch_same {s : Sys} {d : Dest} {x : Ref} (h1 : x ≠ .dest d) (h2 : x ≠ .q d) :
    (s.after (plan s (.deleteBranch d))).remote.get x = s.remote.get x := by
  rw [close_deleteBranch_after, if_neg (not_or.mpr ⟨h1, h2⟩)]

theorem close_deleteBranch_sub {s : Sys} {d : Dest} {x : Ref}
    (h : ((s.after (plan s (.deleteBranch d))).remote.get x).isSome = true) :
    (s.remote.get x).isSome = true ∧ x ≠ .dest d ∧ x ≠ .q d := by
  rw [close_deleteBranch_after] at h
  split at h
  · cases h
  · rename_i hn
    exact ⟨h, fun he => hn (Or.inl he), fun he => hn (Or.inr he)⟩

/-- both exits of `add_to_queue`: it stops on a conflict with the queue, having at most created missing queue
    branches on the tip of their destination, or it ends Queued -/
theorem close_enqueue_after {s : Sys} (hs : s.WF) {orc : List Bool} {l4 : Loc}
    (hw : WOnly ⟨s.g, s.remote, orc⟩ l4) (pr : PrInfo) {pre : List Op} (hpre : PushesW pre)
    (hfresh : ∀ d ∈ s.targets pr.dst, s.remote.get (.qw pr.id d pr.src) = none)
    {s' : Sys} (hs' : s' = s.after (enqueue s l4 pr (s.targets pr.dst) pre)) :
    (∀ d, s'.remote.get (.dest d) = s.remote.get (.dest d)) ∧
    (∀ d ∈ s.targets pr.dst, (s.remote.get (.dest d)).isSome = true → (s'.remote.get (.q d)).isSome = true) ∧
    ((s'.queue = s.queue ∧
      (∀ p d src, s'.remote.get (.qw p d src) = s.remote.get (.qw p d src)) ∧
      (∀ d, s'.remote.get (.q d) = s.remote.get (.q d) ∨
        (d ∈ s.targets pr.dst ∧ s.remote.get (.q d) = none ∧ s'.remote.get (.q d) = s.remote.get (.dest d)))) ∨
     (s'.queue = s.queue ++ [⟨pr.id, pr.src, s.targets pr.dst⟩] ∧
      (∀ p d src, ¬ (p = pr.id ∧ src = pr.src ∧ d ∈ s.targets pr.dst) →
        s'.remote.get (.qw p d src) = s.remote.get (.qw p d src)) ∧
      (∀ d, d ∉ s.targets pr.dst → s'.remote.get (.q d) = s.remote.get (.q d)) ∧
      (∀ d ∈ s.targets pr.dst, (s'.remote.get (.q d)).isSome = true ∧
        s'.remote.get (.q d) = s'.remote.get (.qw pr.id d pr.src)))) := by
  subst hs'
  have hnd := pairwise_before_nodup (targets_pairwise hs.sorted pr.dst)
  have h4d : ∀ d, l4.refs.get (.dest d) = s.remote.get (.dest d) := fun d => hw.dests _ (fun _ _ he => by cases he)
  generalize s.targets pr.dst = ts at *
  have hdd : ∀ d ∈ ts, (s.remote.get (.dest d)).isSome = true → ((createQ l4 ts).1.refs.get (.q d)).isSome = true :=
    fun d hd hsome => (createQ_apply s.g ts l4 l4.refs (fun _ => rfl)).2.2.2 d hd (by rw [h4d]; exact hsome)
  rcases enqueue_cases (s := s) hw.ok pr hnd pre with ⟨g', o, _, hplan⟩ | ⟨l8, hq8, hplan⟩
  · rw [hplan]
    obtain ⟨hsame, hqs, hcc⟩ := createQ_remote hw ts hpre g'
    refine ⟨fun d => hsame _ (fun _ he => by cases he) (fun _ _ he => by cases he), ?_, Or.inl ⟨rfl, ?_, ?_⟩⟩
    · intro d hd hsome
      show ((applyOps g' noRej s.remote _).get (.q d)).isSome = true
      rw [hqs]; exact hdd d hd hsome
    · intro p d src; exact hsame _ (fun _ he => by cases he) (fun _ _ he => by cases he)
    · intro d
      show (applyOps g' noRej s.remote _).get (.q d) = _ ∨ _ ∧ _ ∧ (applyOps g' noRej s.remote _).get (.q d) = _
      rw [hqs]
      exact hcc d
  · rw [hplan]
    obtain ⟨hsame, hqs, hcc⟩ := createQ_remote hw ts hpre l8.g
    simp only [Sys.after]
    rw [applyOps_append, applyOps_single]
    generalize applyOps l8.g noRej s.remote (pre ++ (createQ l4 ts).2) = m2 at hsame hqs
    have hR := enqueue_push_sync hnd hq8 (m := m2) (fun d _ => hqs d)
      (fun d hd => by rw [hsame _ (fun _ he => by cases he) (fun _ _ he => by cases he), hfresh d hd])
    generalize applyOp l8.g noRej m2 (.push (tipsOf l8.refs
      (ts.map Ref.q ++ ts.map (fun d => Ref.qw pr.id d pr.src)))) = R at hR ⊢
    have hin : ∀ d ∈ ts, ∃ n, R.get (.q d) = some n ∧ R.get (.qw pr.id d pr.src) = some n := by
      intro d hd
      obtain ⟨_, n, _, hn, hqwn, _⟩ := hq8.grow d hd
      exact ⟨n, by rw [hR, if_pos (mem_qnames.mpr ⟨d, hd, Or.inl rfl⟩), hn],
        by rw [hR, if_pos (mem_qnames.mpr ⟨d, hd, Or.inr rfl⟩), hqwn]⟩
    refine ⟨?_, ?_, Or.inr ⟨trivial, ?_, ?_, ?_⟩⟩
    · intro d
      rw [hR, if_neg (fun hm => by obtain ⟨_, _, he | he⟩ := mem_qnames.mp hm <;> cases he)]
      exact hsame _ (fun _ he => by cases he) (fun _ _ he => by cases he)
    · intro d hd _
      obtain ⟨n, hn, _⟩ := hin d hd
      rw [hn]; rfl
    · intro p d src hne
      rw [hR, if_neg, hsame _ (fun _ he => by cases he) (fun _ _ he => by cases he)]
      intro hm
      obtain ⟨d', hd', he | he⟩ := mem_qnames.mp hm <;> cases he
      exact hne ⟨rfl, rfl, hd'⟩
    · intro d hd
      rw [hR, if_neg, hqs d]
      · exact (hcc d).resolve_right (fun h => hd h.1)
      · intro hm
        obtain ⟨d', hd', he | he⟩ := mem_qnames.mp hm <;> cases he
        exact hd hd'
    · intro d hd
      obtain ⟨n, hn, hqwn⟩ := hin d hd
      exact ⟨by rw [hn]; rfl, by rw [hn, hqwn]⟩

theorem close_directMerge_absent {s : Sys} {l4 : Loc} (pr : PrInfo) {sc : Commit} (ts : List Dest) {pre : List Op}
    (x : Ref) (hx1 : ∀ d, x ≠ .dest d) (hx2 : ∀ d src, x ≠ .w d src)
    (m : RefMap) (hm : m.get x = none) (hl4 : l4.refs.get x = none)
    (hpre : PushesW pre) :
    (applyOps (directMerge s l4 pr sc ts pre).g noRej m (directMerge s l4 pr sc ts pre).ops).get x = none := by
  obtain ⟨qs, l5, _, rfl, hcase⟩ := directMerge_shape s l4 pr sc ts pre
  have hbase : ∀ (g : Graph), (applyOps g noRej m (pre ++ qs.map Op.delete)).get x = none := by
    intro g
    rw [applyOps_append, applyOps_deletes, hpre g m _ hx2, hm]
    split <;> rfl
  rcases hcase with ⟨l, _, he⟩ | ⟨d1, ds, l6, n1, l7, rfl, _, _, _, hsame, he⟩ <;> rw [he]
  · exact hbase _
  · rw [applyOps_append, applyOps_single]
    -- the final pruning push publishes the clone, which has `x` only if the clone handed over had it
    rcases applyOp_pushAll_cases l7.g noRej (applyOps l7.g noRej m (pre ++ qs.map Op.delete))
      (delRefs l7.refs (ds.map (fun d => Ref.w d pr.src))) true with h | h
    · rw [h, if_pos rfl, get_delRefs]
      split
      · rfl
      · rw [hsame x (fun d _ => hx1 d)]
        show (delRefs l4.refs qs).get x = none
        rw [get_delRefs]
        split
        · rfl
        · exact hl4
    · rw [h]
      exact hbase _

/-- the direct merge is only taken when the queue is not needed: queues disabled, or nobody queued -/
theorem close_directMerge_after {s : Sys} (h : InvV s) {orc : List Bool} {l4 : Loc}
    (hw : WOnly ⟨s.g, s.remote, orc⟩ l4) (pr : PrInfo) {pre : List Op} (hpre : PushesW pre)
    {sc : Commit} (hsc : sc < s.g.size) (hneed : isNeeded s l4 pr (s.targets pr.dst) = false) :
    (s.after (directMerge s l4 pr sc (s.targets pr.dst) pre)).queue = [] ∧
    (∀ d, (s.after (directMerge s l4 pr sc (s.targets pr.dst) pre)).remote.get (.q d) = none) ∧
    (∀ p d src, (s.after (directMerge s l4 pr sc (s.targets pr.dst) pre)).remote.get (.qw p d src) = none) := by
  have hq := h.inv.q
  have hqe : s.queue = [] := by
    rcases isNeeded_false hneed with hu | hqe
    · exact (hq.noq hu).1
    · exact hqe
  have h4 : ∀ x, (∀ d src, x ≠ .w d src) → l4.refs.get x = s.remote.get x := hw.dests
  have hsc4 := hw.ext.lt hsc
  have hnd := pairwise_before_nodup (targets_pairwise h.inv.wf.sorted pr.dst)
  have hnoqw : ∀ p d src, s.remote.get (.qw p d src) = none := by
    intro p d src
    cases hc : s.remote.get (.qw p d src) with
    | none => rfl
    | some c =>
      obtain ⟨e, he, _⟩ := h.vx.qwE p d src (by rw [hc]; rfl)
      rw [hqe] at he; cases he
  refine ⟨(directMerge_queue ..).trans hqe, ?_, ?_⟩
  · exact directMerge_noq pr _
      (fun hu d => by rw [h4 _ (fun _ _ he => by cases he)]; exact (hq.noq hu).2 d) s.remote
      (fun d => (h4 _ (fun _ _ he => by cases he)).symm) hpre
  · intro p d src
    exact close_directMerge_absent pr _ _ (fun _ he => by cases he) (fun _ _ he => by cases he)
      s.remote (hnoqw p d src) (by rw [h4 _ (fun _ _ he => by cases he)]; exact hnoqw p d src) hpre

end BertE.Close
