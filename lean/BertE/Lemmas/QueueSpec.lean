import BertE.Lemmas.QueueProcess
/-
For C05: from "closed, green, contains every closed green selection" to the
explicit longest-green-prefix specification `Spec.prs`.
-/
namespace BertE.Queue
open List

namespace Spec

theorem longest_le (P : Nat → Bool) (b : Nat) : longest P b ≤ b := by
  induction b with
  | zero => simp [longest]
  | succ n ih =>
    simp only [longest]
    split
    · exact Nat.le_refl _
    · omega

theorem longest_spec (P : Nat → Bool) (b : Nat) (h0 : P 0 = true) : P (longest P b) = true := by
  induction b with
  | zero => simpa [longest] using h0
  | succ n ih =>
    simp only [longest]
    split
    · assumption
    · exact ih

theorem longest_max (P : Nat → Bool) (b n : Nat) (hn : n ≤ b) (hP : P n = true) : n ≤ longest P b := by
  induction b with
  | zero => omega
  | succ k ih =>
    simp only [longest]
    split
    · exact hn
    · rename_i hk
      by_cases he : n = k + 1
      · subst he; exact absurd hP hk
      · exact ih (by omega)

theorem longest_none_longer (P : Nat → Bool) (b k : Nat) (hk : longest P b < k) (hkb : k ≤ b) :
    P k = false := by
  cases h : P k with
  | false => rfl
  | true => have := longest_max P b k hkb h; omega

theorem longest_greatest (P : Nat → Bool) (b : Nat) (h0 : P 0 = true) :
    longest P b ≤ b ∧ P (longest P b) = true ∧ ∀ k, longest P b < k → k ≤ b → P k = false :=
  ⟨longest_le P b, longest_spec P b h0, fun k => longest_none_longer P b k⟩

theorem longest_eq_zero (P : Nat → Bool) (b : Nat) (h : ∀ k, 0 < k → k ≤ b → P k = false) :
    longest P b = 0 := by
  induction b with
  | zero => rfl
  | succ n ih =>
    rw [longest, h (n + 1) (Nat.succ_pos n) (Nat.le_refl _)]
    exact ih fun k hk hkn => h k hk (Nat.le_succ_of_le hkn)

theorem greenOn_nil (st : St) (v : Version) (l : List Nat) : greenOn st [] v l = true := by
  unfold greenOn newestIn
  have : l.find? (fun p => ([] : List Nat).contains p) = none := by
    apply find?_eq_none.mpr; intro x _; simp
  rw [this]

theorem mainGreen_zero (q : Queues) (st : St) : mainGreen q st 0 = true := by
  unfold mainGreen
  apply all_eq_true.mpr
  intro e _
  rw [take_zero, greenOn_nil]; simp

theorem hotfixGreen_zero (st : St) (v : Version) (l : List Nat) : hotfixGreen st v l 0 = true := by
  unfold hotfixGreen; rw [take_zero, greenOn_nil]

theorem mainN_spec (q : Queues) (st : St) :
    mainN q st ≤ (mainOrder q).length ∧ mainGreen q st (mainN q st) = true ∧
      ∀ k, mainN q st < k → k ≤ (mainOrder q).length → mainGreen q st k = false :=
  longest_greatest _ _ (mainGreen_zero q st)

theorem hotfixN_spec (st : St) (v : Version) (l : List Nat) :
    hotfixN st v l ≤ l.length ∧ hotfixGreen st v l (hotfixN st v l) = true ∧
      ∀ k, hotfixN st v l < k → k ≤ l.length → hotfixGreen st v l k = false :=
  longest_greatest _ _ (hotfixGreen_zero st v l)

theorem greenOn_congr {st st' : St} {v : Version} {l : List Nat} (g : List Nat)
    (hst : ∀ p ∈ l, st p v = st' p v) : greenOn st g v l = greenOn st' g v l := by
  unfold greenOn newestIn
  cases hf : l.find? (fun p => g.contains p) with
  | none => rfl
  | some p => simp only; rw [hst p (mem_of_find?_eq_some hf)]

theorem greenOn_iff (st : St) (g : List Nat) (v : Version) (l : List Nat) :
    greenOn st g v l = true ↔ ∀ p, (l.filter fun p => g.contains p).head? = some p → st p v = .successful := by
  unfold greenOn newestIn
  rw [head?_filter]
  cases l.find? (fun p => g.contains p) with
  | none => simp
  | some p => simp

end Spec

theorem rev_take_of_suffix {t L : List Nat} (h : t <:+ L) : L.reverse.take t.length = t.reverse := by
  have := prefix_iff_eq_take.mp (reverse_prefix.mpr h)
  rw [length_reverse] at this
  exact this.symm

theorem mem_take_rev {L : List Nat} {n : Nat} {p : Nat} :
    p ∈ L.reverse.take n ↔ p ∈ L.drop (L.length - n) := by
  rw [take_reverse, mem_reverse]

theorem length_take_rev {L : List Nat} {n : Nat} (h : n ≤ L.length) : (L.reverse.take n).length = n := by
  rw [length_take, length_reverse]; omega

theorem nodup_take_rev {L : List Nat} (h : L.Nodup) (n : Nat) : (L.reverse.take n).Nodup :=
  (nodup_reverse' h).sublist (take_sublist _ _)

theorem filter_cut_suffix {l L : List Nat} (hs : l <+ L) (hn : L.Nodup) (n : Nat) :
    l.filter (fun p => (L.reverse.take n).contains p) <:+ l := by
  apply filter_suffix_of_sublist hs hn (drop_suffix (L.length - n) L)
  intro p _
  rw [contains_iff_mem, mem_take_rev]

theorem filter_cut_trace {l L m : List Nat} (hsuf : L.filter (fun p => m.contains p) <:+ L) (hl : ∀ x ∈ l, x ∈ L) :
    l.filter (fun p => (L.reverse.take (L.filter fun p => m.contains p).length).contains p)
      = l.filter fun p => m.contains p := by
  rw [rev_take_of_suffix hsuf]
  apply filter_congr
  intro x hx
  apply Bool.eq_iff_iff.mpr
  rw [contains_iff_mem, mem_reverse, mem_filter]
  exact ⟨fun h' => h'.2, fun h' => ⟨hl x hx, h'⟩⟩

theorem length_eq_longest {L m : List Nat} {G : Nat → Bool} (hn : L.Nodup) (h0 : G 0 = true)
    (hG : G (L.filter fun p => m.contains p).length = true)
    (hmax : ∀ n, G n = true → ∀ p ∈ L.reverse.take n, p ∈ m) :
    (L.filter fun p => m.contains p).length = Spec.longest G L.length := by
  apply Nat.le_antisymm
  · exact Spec.longest_max _ _ _ (length_filter_le _ _) hG
  · have hsub : ∀ p ∈ L.reverse.take (Spec.longest G L.length), p ∈ L.filter fun p => m.contains p :=
      fun p hp => mem_filter.mpr ⟨mem_reverse.mp (mem_of_mem_take hp),
        contains_iff_mem.mpr (hmax _ (Spec.longest_spec _ _ h0) p hp)⟩
    have hlen := Nodup.length_le_of_subset (nodup_take_rev hn _) hsub
    rwa [length_take_rev (Spec.longest_le _ _)] at hlen

section spec
variable {q : Queues} {paths : List (List Version)} {st : St} {m : List Nat}

theorem Inv.trace_suffix (h : WFQ q paths) (hi : Inv q st m) {e : Version × List Nat} (he : e ∈ q) :
    e.2.filter (fun p => m.contains p) <:+ e.2 := by
  have := hi.closed e.1
  rwa [sel, ← h.snd_eq he] at this

theorem main_filter_suffix (hi : Inv q st m) :
    (mainList q).filter (fun p => m.contains p) <:+ mainList q := by
  cases hg : greatestDev q with
  | none => rw [mainList_eq_nil_of_none hg]; simp
  | some g => rw [mainList_eq_of_greatestDev hg]; exact hi.closed g

theorem canon_eq_cut (h : WFQ q paths) (hi : Inv q st m) :
    m = Spec.cut q (fun _ l => (l.filter fun p => m.contains p).length)
      ((mainList q).filter fun p => m.contains p).length := by
  have hc := hi.canon
  unfold canon at hc
  unfold Spec.cut mainOrder
  rw [rev_take_of_suffix (main_filter_suffix hi)]
  have : ((q.filter fun e => isHotfix e.1).flatMap fun e => (e.2.filter fun p => m.contains p).reverse)
      = (q.filter fun e => isHotfix e.1).flatMap fun e =>
          e.2.reverse.take (e.2.filter fun p => m.contains p).length := by
    apply flatMap_congr'
    intro e he
    exact (rev_take_of_suffix (hi.trace_suffix h (mem_filter.mp he).1)).symm
  rw [← this]; exact hc

theorem mainGreen_of_green (h : WFQ q paths) (hi : Inv q st m) (hg : GreenClosed q st m) :
    Spec.mainGreen q st ((mainList q).filter fun p => m.contains p).length = true := by
  unfold Spec.mainGreen
  apply all_eq_true.mpr
  intro e he
  by_cases hh : isHotfix e.1 = true
  · simp [hh]
  · have hh' : isHotfix e.1 = false := by simpa using hh
    simp only [hh', Bool.false_or]
    rw [Spec.greenOn_iff, mainOrder,
      filter_cut_trace (main_filter_suffix hi) fun x hx => (h.sublist_main hh').subset (h.snd_eq he ▸ hx)]
    intro p hhead
    exact hg.green e.1 p (by rw [sel, ← h.snd_eq he]; exact hhead)

theorem greenClosed_main_cut (h : WFQ q paths) (n : Nat) (hgreen : Spec.mainGreen q st n = true) :
    GreenClosed q st ((mainOrder q).take n) := by
  have hsel_hf : ∀ v, isHotfix v = true → sel q ((mainOrder q).take n) v = [] := fun v hv =>
    filter_eq_nil_iff.mpr fun p hp hc =>
      h.hotfix_not_main hv hp (mem_reverse.mp (mem_of_mem_take (contains_iff_mem.mp hc)))
  constructor
  · intro v
    by_cases hv : isHotfix v = true
    · rw [hsel_hf v hv]; exact nil_suffix
    · unfold sel mainOrder
      exact filter_cut_suffix (h.sublist_main (by simpa using hv)) h.main_nodup n
  · intro v p hhead
    by_cases hv : isHotfix v = true
    · rw [hsel_hf v hv] at hhead; cases hhead
    · have hv' : isHotfix v = false := by simpa using hv
      rw [Spec.mainGreen, all_eq_true] at hgreen
      have := hgreen _ (mem_of_mem_listOf (mem_sel.mp (mem_of_mem_head? hhead)).1)
      simp only [hv', Bool.false_or] at this
      exact (Spec.greenOn_iff st _ v _).mp this p hhead

theorem main_cut_eq (h : WFQ q paths) (hi : Inv q st m) (hg : GreenClosed q st m) :
    ((mainList q).filter fun p => m.contains p).length = Spec.mainN q st := by
  have := length_eq_longest (m := m) h.main_nodup (Spec.mainGreen_zero q st) (mainGreen_of_green h hi hg) ?_
  · unfold Spec.mainN mainOrder
    rw [length_reverse]
    exact this
  · -- a green cut of the main queue is closed and green, hence inside `m`
    intro n hgreen p hp
    obtain ⟨g, _, hpg⟩ := mem_mainList.mp (mem_reverse.mp (mem_of_mem_take hp))
    exact hi.above _ (greenClosed_main_cut h n hgreen) g p (mem_sel.mpr ⟨hpg, hp⟩)

theorem greenClosed_hotfix_cut (h : WFQ q paths) {e : Version × List Nat} (he : e ∈ q)
    (hh : isHotfix e.1 = true) (n : Nat) (hgreen : Spec.hotfixGreen st e.1 e.2 n = true) :
    GreenClosed q st (e.2.reverse.take n) := by
  have heq : e.2 = listOf q e.1 := h.snd_eq he
  have hother : ∀ v, v ≠ e.1 → sel q (e.2.reverse.take n) v = [] := fun v hv =>
    filter_eq_nil_iff.mpr fun p hp hc => hv (h.eq_of_mem_hotfix (Or.inr hh) hp
      (heq ▸ mem_reverse.mp (mem_of_mem_take (contains_iff_mem.mp hc))))
  constructor
  · intro v
    by_cases hv : v = e.1
    · subst hv
      unfold sel; rw [← heq]
      exact filter_cut_suffix (Sublist.refl _) (h.nodup e he) n
    · rw [hother v hv]; exact nil_suffix
  · intro v p hhead
    by_cases hv : v = e.1
    · subst hv
      unfold Spec.hotfixGreen at hgreen
      unfold sel at hhead; rw [← heq] at hhead
      exact (Spec.greenOn_iff st _ _ _).mp hgreen p hhead
    · rw [hother v hv] at hhead; cases hhead

theorem hotfix_cut_eq (h : WFQ q paths) (hi : Inv q st m) (hg : GreenClosed q st m)
    {e : Version × List Nat} (he : e ∈ q) (hh : isHotfix e.1 = true) :
    (e.2.filter fun p => m.contains p).length = Spec.hotfixN st e.1 e.2 := by
  refine length_eq_longest (m := m) (h.nodup e he) (Spec.hotfixGreen_zero st e.1 e.2) ?_ ?_
  · rw [Spec.hotfixGreen, Spec.greenOn_iff, filter_cut_trace (hi.trace_suffix h he) fun _ hx => hx]
    intro p hhead
    exact hg.green e.1 p (by rw [sel, ← h.snd_eq he]; exact hhead)
  · intro n hgreen p hp
    exact hi.above _ (greenClosed_hotfix_cut h he hh n hgreen) e.1 p
      (mem_sel.mpr ⟨h.snd_eq he ▸ mem_reverse.mp (mem_of_mem_take hp), hp⟩)

/-- the fixed point of the loop is the longest green prefix -/
theorem fixed_eq_spec (h : WFQ q paths) (hi : Inv q st m) (hg : GreenClosed q st m) :
    m = Spec.prs q st := by
  have hcut := canon_eq_cut h hi
  unfold Spec.prs
  rw [← main_cut_eq h hi hg]
  have : Spec.cut q (fun _ l => (l.filter fun p => m.contains p).length)
      ((mainList q).filter fun p => m.contains p).length
      = Spec.cut q (Spec.hotfixN st) ((mainList q).filter fun p => m.contains p).length := by
    unfold Spec.cut
    congr 1
    apply flatMap_congr'
    intro e he
    have := mem_filter.mp he
    show take (filter (fun p => m.contains p) e.2).length e.2.reverse = _
    rw [hotfix_cut_eq h hi hg this.1 this.2]
  rw [← this]; exact hcut

theorem extract_eq_all (h : WFQ q paths) : extractPrIds q = Spec.allPrs q := by
  rw [(subColl_refl h).clean h]
  unfold Spec.allPrs Spec.cut hfPart mainOrder
  rw [take_of_length_le (Nat.le_refl _)]
  congr 1
  apply flatMap_congr'
  intro e _
  rw [take_of_length_le (by rw [length_reverse]; exact Nat.le_refl _)]

theorem head?_dropWhile_eq_find? (l : List Nat) (P : Nat → Bool) :
    (l.dropWhile fun p => !P p).head? = l.find? P := by
  induction l with
  | nil => rfl
  | cons a t ih =>
    rw [dropWhile_cons, find?_cons]
    cases h : P a <;> simp [ih]

end spec

theorem mem_cut (q : Queues) (nh : Version → List Nat → Nat) (n p : Nat) :
    p ∈ Spec.cut q nh n ↔
      (∃ e ∈ q, isHotfix e.1 = true ∧ p ∈ e.2.reverse.take (nh e.1 e.2)) ∨ p ∈ (mainOrder q).take n := by
  unfold Spec.cut
  simp only [mem_append, mem_flatMap, mem_filter]
  constructor
  · rintro (⟨e, ⟨he, hh⟩, hp⟩ | hp)
    · exact Or.inl ⟨e, he, hh, hp⟩
    · exact Or.inr hp
  · rintro (⟨e, he, hh, hp⟩ | hp)
    · exact Or.inl ⟨e, ⟨he, hh⟩, hp⟩
    · exact Or.inr hp

theorem hotfixN_congr (st st' : St) (v : Version) (l : List Nat) (hst : ∀ p ∈ l, st p v = st' p v) :
    Spec.hotfixN st v l = Spec.hotfixN st' v l := by
  unfold Spec.hotfixN
  congr 1
  funext n
  exact Spec.greenOn_congr _ hst

theorem mainN_congr (q : Queues) (st st' : St) (hst : ∀ v p, isHotfix v = false → st p v = st' p v) :
    Spec.mainN q st = Spec.mainN q st' := by
  unfold Spec.mainN
  congr 1
  funext n
  unfold Spec.mainGreen
  apply all_congr rfl
  intro e
  cases hh : isHotfix e.1 with
  | true => rfl
  | false => rw [Spec.greenOn_congr _ fun p _ => hst e.1 p hh]

end BertE.Queue
