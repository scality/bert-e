import BertE.Lemmas.Inv
/- Entering the queue re-establishes the queue invariant. -/
namespace BertE.Flow
open BertE.Git

/-- the remote before the final push of `add_to_queue` -/
theorem createQ_remote {s : Sys} {orc : List Bool} {l4 : Loc} (hw : WOnly ⟨s.g, s.remote, orc⟩ l4) (ts : List Dest)
    {pre : List Op}
    (hpre : ∀ (g : Graph) (m : RefMap) (x : Ref), (∀ d src, x ≠ .w d src) → (applyOps g noRej m pre).get x = m.get x)
    (g : Graph) :
    (∀ x, (∀ d, x ≠ .q d) → (∀ d src, x ≠ .w d src) →
      (applyOps g noRej s.remote (pre ++ (createQ l4 ts).2)).get x = s.remote.get x) ∧
    (∀ d, (applyOps g noRej s.remote (pre ++ (createQ l4 ts).2)).get (.q d) = (createQ l4 ts).1.refs.get (.q d)) ∧
    (∀ d, (createQ l4 ts).1.refs.get (.q d) = s.remote.get (.q d) ∨
      (d ∈ ts ∧ s.remote.get (.q d) = none ∧ (createQ l4 ts).1.refs.get (.q d) = s.remote.get (.dest d))) := by
  have h4 : ∀ x, (∀ d src, x ≠ .w d src) → l4.refs.get x = s.remote.get x := hw.dests
  obtain ⟨ha, hb, hc, _⟩ := createQ_apply g ts l4 (applyOps g noRej s.remote pre) (fun d => by
    rw [hpre g s.remote _ (fun _ _ he => by cases he), h4 _ (fun _ _ he => by cases he)])
  simp only [applyOps_append]
  refine ⟨fun x hx hxw => ((hb x hx).1).trans (hpre g s.remote x hxw), ha, fun d => ?_⟩
  rw [← h4 (.q d) (fun _ _ he => by cases he), ← h4 (.dest d) (fun _ _ he => by cases he)]
  exact hc d

/-- The failure exits of `add_to_queue` (conflict with the queue): only new queue branches were pushed. -/
theorem enqueue_fail_qinv {s : Sys} (hs : s.WF) (hq : QInv s) (huq : s.useQueue = true) {orc : List Bool} {l4 : Loc}
    (hw : WOnly ⟨s.g, s.remote, orc⟩ l4) (ts : List Dest) {pre : List Op} {g' : Graph} (hg' : GExt l4.g g')
    (hpre : ∀ (g : Graph) (m : RefMap) (x : Ref), (∀ d src, x ≠ .w d src) → (applyOps g noRej m pre).get x = m.get x) :
    QInv { s with g := g', remote := applyOps g' noRej s.remote (pre ++ (createQ l4 ts).2), queue := s.queue } := by
  obtain ⟨hsame, hRq, hcq⟩ := createQ_remote hw ts hpre g'
  refine QInv.transport hs hq rfl rfl hg'.wf (hw.ext.trans hg'.ext) ?_ ?_ ?_
  · exact fun d => Or.inl (hsame _ (fun _ he => by cases he) (fun _ _ he => by cases he))
  · exact fun e _ d => hsame _ (fun _ he => by cases he) (fun _ _ he => by cases he)
  · intro d
    rcases hcq d with h | ⟨_, hn, hv⟩
    · exact Or.inl ((hRq d).trans h)
    · -- a new queue branch, on its destination's tip
      rcases Option.eq_none_or_eq_some (s.remote.get (.dest d)) with ht | ⟨t, ht⟩
      · exact Or.inl (by rw [hRq d, hv, ht, hn])
      · exact Or.inr ⟨huq, t, t, ht, by rw [hRq d, hv, ht],
          le_refl hg'.wf ((hw.ext.trans hg'.ext).lt (hs.valid _ _ ht)),
          fun o ho => by rw [hn] at ho; cases ho⟩

/-- `add_to_queue` stops at a conflict with the queue, having pushed nothing but new queue branches, or goes through -/
theorem enqueue_cases {s : Sys} {l4 : Loc} (hl : l4.OK) (pr : PrInfo) {ts : List Dest} (hnd : ts.Nodup) (pre : List Op) :
    (∃ g' o, GExt l4.g g' ∧ enqueue s l4 pr ts pre = ⟨g', pre ++ (createQ l4 ts).2, o, s.queue⟩) ∨
    (∃ l8, Queued pr ts (createQ l4 ts).1 l8 ∧ enqueue s l4 pr ts pre =
      ⟨l8.g, pre ++ (createQ l4 ts).2 ++
        [Op.push (tipsOf l8.refs (ts.map Ref.q ++ ts.map (fun d => Ref.qw pr.id d pr.src)))],
       "Queued", s.queue ++ [⟨pr.id, pr.src, ts⟩]⟩) := by
  obtain ⟨hl5, hg5⟩ := createQ_ok ts hl
  unfold enqueue
  generalize createQ l4 ts = cq at hl5 hg5 ⊢
  obtain ⟨l5, qops⟩ := cq
  simp only at hl5 hg5 ⊢
  have h5 : GExt l4.g l5.g := by rw [hg5]; exact GExt.refl hl.wf
  cases ts with
  | nil => exact Or.inl ⟨_, _, h5, rfl⟩
  | cons d1 ds =>
    simp only
    cases hsrc : l5.refs.get (.other pr.src) with
    | none => exact Or.inl ⟨_, _, h5, rfl⟩
    | some sc' =>
      simp only
      cases hm : l5.merge (.q d1) [sc'] with
      | none => exact Or.inl ⟨_, _, h5, rfl⟩
      | some l6 =>
        simp only
        obtain ⟨hl6, hext6, hsame6, o1, n1, ho1, hn1, hon1, _⟩ :=
          Loc.merge_spec hl5 (List.forall_mem_singleton.mpr (hl5.valid _ _ hsrc)) hm
        have h6 : GExt l4.g l6.g := h5.trans ⟨hl6.wf, hext6⟩
        rw [hn1]
        simp only
        have hn1lt := hl6.valid _ _ hn1
        cases hqr : queueRest { l6 with refs := l6.refs.set (.qw pr.id d1 pr.src) n1 } pr n1 ds with
        | none => exact Or.inl ⟨_, _, h6, rfl⟩
        | some l8 =>
          obtain ⟨hrest, habove⟩ := queueRest_queued ds (hl6.set _ hn1lt) hn1lt (List.nodup_cons.mp hnd).2 hqr
          exact Or.inr ⟨l8, Queued.cons hnd hl6 hext6 hsame6 ho1 hn1 hon1 hrest habove, rfl⟩

theorem mem_qnames {pr : PrInfo} {ts : List Dest} {x : Ref} :
    x ∈ ts.map Ref.q ++ ts.map (fun d => Ref.qw pr.id d pr.src) ↔ ∃ d ∈ ts, x = .q d ∨ x = .qw pr.id d pr.src := by
  simp only [List.mem_append, List.mem_map]
  constructor
  · rintro (⟨d, hd, rfl⟩ | ⟨d, hd, rfl⟩)
    · exact ⟨d, hd, Or.inl rfl⟩
    · exact ⟨d, hd, Or.inr rfl⟩
  · rintro ⟨d, hd, rfl | rfl⟩
    · exact Or.inl ⟨d, hd, rfl⟩
    · exact Or.inr ⟨d, hd, rfl⟩

theorem qnames_nodup (pr : PrInfo) {ts : List Dest} (hnd : ts.Nodup) :
    (ts.map Ref.q ++ ts.map (fun d => Ref.qw pr.id d pr.src)).Nodup := by
  rw [List.nodup_append]
  refine ⟨?_, ?_, ?_⟩
  · exact List.Pairwise.map Ref.q (fun a b h he => h (by simpa using he)) hnd
  · exact List.Pairwise.map (fun d => Ref.qw pr.id d pr.src) (fun a b h he => h (by simpa using he)) hnd
  · intro a ha b hb he
    simp only [List.mem_map] at ha hb
    obtain ⟨_, _, rfl⟩ := ha
    obtain ⟨_, _, h⟩ := hb
    rw [← h] at he; cases he

theorem enqueue_push_sync {pr : PrInfo} {ts : List Dest} (hnd : ts.Nodup) {l5 l8 : Loc} (hq : Queued pr ts l5 l8)
    {m : RefMap} (hmq : ∀ d ∈ ts, m.get (.q d) = l5.refs.get (.q d))
    (hfresh : ∀ d ∈ ts, m.get (.qw pr.id d pr.src) = none) (x : Ref) :
    (applyOp l8.g noRej m
      (.push (tipsOf l8.refs (ts.map Ref.q ++ ts.map (fun d => Ref.qw pr.id d pr.src))))).get x =
      if x ∈ ts.map Ref.q ++ ts.map (fun d => Ref.qw pr.id d pr.src) then l8.refs.get x else m.get x := by
  have hacc : ∀ r ∈ ts.map Ref.q ++ ts.map (fun d => Ref.qw pr.id d pr.src), ∀ c, l8.refs.get r = some c →
      accepts l8.g m r c = true := by
    intro r hr c hc
    unfold accepts
    obtain ⟨d, hd, rfl | rfl⟩ := mem_qnames.mp hr
    · obtain ⟨o, n, ho, hn, _, hon⟩ := hq.grow d hd
      rw [hn] at hc; obtain rfl := Option.some.inj hc
      rw [hmq d hd, ho]; exact hon
    · rw [hfresh d hd]
  rw [push_tips_sync l8.g l8.refs _ m (qnames_nodup pr hnd) hacc x]
  split
  · rename_i hx
    obtain ⟨d, hd, rfl | rfl⟩ := mem_qnames.mp hx <;> obtain ⟨_, n, _, hn, hqw, _⟩ := hq.grow d hd
    · rw [hn]
    · rw [hqw]
  · rfl

theorem enqueue_qinv {s : Sys} (hs : s.WF) (hq : QInv s) (huq : s.useQueue = true) {orc : List Bool} {l4 : Loc}
    (hw : WOnly ⟨s.g, s.remote, orc⟩ l4) (pr : PrInfo) {pre : List Op}
    (hpre : ∀ (g : Graph) (m : RefMap) (x : Ref), (∀ d src, x ≠ .w d src) → (applyOps g noRej m pre).get x = m.get x)
    (hfresh : ∀ d ∈ s.targets pr.dst, s.remote.get (.qw pr.id d pr.src) = none)
    (hid : pr.id ∉ s.queue.map (·.pr)) :
    QInv (s.after (enqueue s l4 pr (s.targets pr.dst) pre)) := by
  have hord := targets_pairwise hs.sorted pr.dst
  have hnd := pairwise_before_nodup hord
  rcases enqueue_cases (s := s) hw.ok pr hnd pre with ⟨g', o, hg', he⟩ | ⟨l8, hqd, he⟩
  · rw [he]; exact enqueue_fail_qinv hs hq huq hw _ hg' hpre
  · rw [he]
    obtain ⟨_, hg5⟩ := createQ_ok (s.targets pr.dst) hw.ok
    have hextS : Extends s.g l8.g := hw.ext.trans (by rw [← hg5]; exact hqd.ext)
    obtain ⟨hm2, ha, hcc⟩ := createQ_remote hw (s.targets pr.dst) hpre l8.g
    have hR : ∀ x, (applyOps l8.g noRej s.remote (pre ++ (createQ l4 (s.targets pr.dst)).2 ++ [Op.push (tipsOf l8.refs
          ((s.targets pr.dst).map Ref.q ++ (s.targets pr.dst).map (fun d => Ref.qw pr.id d pr.src)))])).get x =
        if x ∈ (s.targets pr.dst).map Ref.q ++ (s.targets pr.dst).map (fun d => Ref.qw pr.id d pr.src)
        then l8.refs.get x
        else (applyOps l8.g noRej s.remote (pre ++ (createQ l4 (s.targets pr.dst)).2)).get x := by
      intro x
      rw [applyOps_append]
      exact enqueue_push_sync hnd hqd (fun d _ => ha d) (fun d hd => by
        rw [hm2 _ (fun _ he => by cases he) (fun _ _ he => by cases he)]; exact hfresh d hd) x
    -- for every target: destination tip t ≤ old queue tip o ≤ new queue commit n
    have htgt : ∀ d ∈ s.targets pr.dst, ∃ t n, s.remote.get (.dest d) = some t ∧
        l8.refs.get (.q d) = some n ∧ l8.refs.get (.qw pr.id d pr.src) = some n ∧ l8.g.le t n = true ∧
        ∀ o, s.remote.get (.q d) = some o → l8.g.le o n = true := by
      intro d hd
      obtain ⟨o, n, ho, hn, hqwn, hon⟩ := hqd.grow d hd
      rcases hcc d with h | ⟨_, hnone, hv⟩
      · have hso : s.remote.get (.q d) = some o := by rw [← h]; exact ho
        obtain ⟨t, ht⟩ := Option.isSome_iff_exists.mp (hq.qdest d (by rw [hso]; rfl))
        have h1 := hextS.le (hs.valid _ _ hso) (hq.qtip d o t hso ht)
        exact ⟨t, n, ht, hn, hqwn, le_trans hqd.ok.wf h1 hon, fun o' ho' => by
          rw [hso] at ho'; obtain rfl := Option.some.inj ho'; exact hon⟩
      · exact ⟨o, n, by rw [← hv]; exact ho, hn, hqwn, hon, fun o' ho' => by
          rw [hnone] at ho'; cases ho'⟩
    unfold Sys.after
    simp only
    generalize applyOps l8.g noRej s.remote (pre ++ (createQ l4 (s.targets pr.dst)).2 ++ [Op.push (tipsOf l8.refs
      ((s.targets pr.dst).map Ref.q ++ (s.targets pr.dst).map (fun d => Ref.qw pr.id d pr.src)))]) = R at hR ⊢
    have hRdest : ∀ d, R.get (.dest d) = s.remote.get (.dest d) := by
      intro d
      rw [hR, if_neg (fun h => by obtain ⟨_, _, h | h⟩ := mem_qnames.mp h <;> cases h)]
      exact hm2 _ (fun _ he => by cases he) (fun _ _ he => by cases he)
    have hRq : ∀ d ∈ s.targets pr.dst, R.get (.q d) = l8.refs.get (.q d) := fun d hd => by
      rw [hR, if_pos (mem_qnames.mpr ⟨d, hd, Or.inl rfl⟩)]
    -- first the graph and the remote change, then the pull request is recorded as queued
    refine QInv.snoc (s := { s with g := l8.g, remote := R }) ?_ hqd.ok.wf huq ⟨pr.id, pr.src, s.targets pr.dst⟩ hid hord
      ?_ ?_ ?_
    · refine QInv.transport hs hq rfl rfl hqd.ok.wf hextS (fun d => Or.inl (hRdest d)) ?_ ?_
      · intro e he d
        show R.get _ = _
        rw [hR, if_neg (fun h => by
          obtain ⟨_, _, h | h⟩ := mem_qnames.mp h
          · cases h
          · exact hid ((Ref.qw.inj h).1 ▸ List.mem_map_of_mem (f := fun x => x.pr) he))]
        exact hm2 _ (fun _ he => by cases he) (fun _ _ he => by cases he)
      · intro d
        by_cases hd : d ∈ s.targets pr.dst
        · obtain ⟨t, n, ht, hn, _, htn, hon⟩ := htgt d hd
          exact Or.inr ⟨huq, t, n, ht, (hRq d hd).trans hn, htn, hon⟩
        · left
          show R.get _ = _
          rw [hR, if_neg (fun h => by
            obtain ⟨_, hd', h | h⟩ := mem_qnames.mp h
            · cases h; exact hd hd'
            · cases h), ha d]
          rcases hcc d with h | ⟨hm', _, _⟩
          · exact h
          · exact absurd hm' hd
    · intro a ha b hb hbs
      obtain ⟨M, m, rfl⟩ := Dest.before_right_dev hb
      have hbs' : (s.remote.get (.dest (.dev M m))).isSome = true := by rw [← hRdest]; exact hbs
      obtain ⟨c, hc⟩ := Option.isSome_iff_exists.mp hbs'
      exact targets_closed ha hb (hs.devsOK M m c hc) rfl
    · intro d hd
      obtain ⟨t, n, ht, hn, hqwn, htn, _⟩ := htgt d hd
      refine ⟨t, n, (hRdest d).trans ht, (hRq d hd).trans hn, ?_, htn⟩
      show R.get _ = _
      rw [hR, if_pos (mem_qnames.mpr ⟨d, hd, Or.inr rfl⟩)]; exact hqwn
    · apply hqd.chain.imp_of_mem
      intro a b ha' hb' h na nb hna hnb
      exact h na nb ((hRq a ha').symm.trans hna) ((hRq b hb').symm.trans hnb)

end BertE.Flow
