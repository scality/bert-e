import BertE.Lemmas.Step
/- Admin jobs, cleanup jobs and third-party actions preserve the invariant. -/
namespace BertE.Flow
open BertE.Git

theorem after_nil (s : Sys) (o : String) : s.after ⟨s.g, [], o, s.queue⟩ = s := rfl

theorem Inv.restrict {s s' : Sys} (h : Inv s) (hg : s'.g = s.g) (huq : s'.useQueue = s.useQueue)
    (hsorted : SortedKeys s'.devs)
    (hdevs : ∀ k ∈ s.devs, (s'.remote.get (.dest (.dev k.1 k.2))).isSome = true → k ∈ s'.devs)
    (hsub : s'.queue.Sublist s.queue)
    (hle : ∀ x c, s'.remote.get x = some c → s.remote.get x = some c)
    (hkeep : ∀ e ∈ s'.queue, ∀ d ∈ e.targets, s'.remote.get (.dest d) = s.remote.get (.dest d) ∧
        s'.remote.get (.q d) = s.remote.get (.q d) ∧ qwOf s'.remote e d = qwOf s.remote e d)
    (hqd : ∀ d, (s'.remote.get (.q d)).isSome = true → (s'.remote.get (.dest d)).isSome = true) : Inv s' := by
  refine ⟨⟨hg ▸ h.wf.g, ?_, hsorted, ?_⟩, ?_, h.q.restrict hg huq hsub hle hkeep hqd⟩
  · intro x c hc; rw [hg]; exact h.wf.valid x c (hle x c hc)
  · intro M m c hc
    exact hdevs _ (h.wf.devsOK M m c (hle _ c hc)) (by rw [hc]; rfl)
  · show InclOn s'.g s'.remote
    rw [hg]; exact h.incl.of_sub (fun d c hc => hle _ c hc)

/-- a clean-up job: one atomic pruning push of the remote minus the refs `rs` -/
theorem prune_inv {s : Sys} (h : Inv s) (rs : List Ref) (o : String) {q : List QEntry} (hsub : q.Sublist s.queue)
    (hnd : ∀ d, Ref.dest d ∉ rs)
    (hkeep : ∀ e ∈ q, ∀ d ∈ e.targets, Ref.q d ∉ rs ∧ Ref.qw e.pr d e.src ∉ rs) :
    Inv (s.after ⟨s.g, [.pushAll (delRefs s.remote rs) true], o, q⟩) := by
  have hrem : s.after ⟨s.g, [.pushAll (delRefs s.remote rs) true], o, q⟩ =
      { s with remote := delRefs s.remote rs, queue := q } := by
    rw [Sys.after, applyOps_single, applyOp_pushAll_delRefs_noRej]
  have hdest : ∀ d, (delRefs s.remote rs).get (.dest d) = s.remote.get (.dest d) := fun d => by
    rw [get_delRefs, if_neg (hnd d)]
  rw [hrem]
  refine h.restrict rfl rfl h.wf.sorted (fun k hk _ => hk) hsub (fun _ _ hc => (get_delRefs_eq_some.mp hc).2) ?_ ?_
  · intro e he d hd
    obtain ⟨h1, h2⟩ := hkeep e he d hd
    exact ⟨hdest d, by rw [get_delRefs, if_neg h1], by rw [qwOf, get_delRefs, if_neg h2]; rfl⟩
  · intro d hd
    obtain ⟨c, hc⟩ := Option.isSome_iff_exists.mp hd
    show ((delRefs s.remote rs).get (.dest d)).isSome = true
    rw [hdest]; exact h.q.qdest d (by rw [(get_delRefs_eq_some.mp hc).2]; rfl)

/-- dropping integration branches (declined pull request, reset) -/
theorem dropW_inv {s : Sys} (h : Inv s) (ws : List Ref) (hws : ∀ r ∈ ws, ∃ d src, r = .w d src) (o : String) :
    Inv (s.after ⟨s.g, [.pushAll (delRefs s.remote ws) true], o, s.queue⟩) := by
  have hnw : ∀ x, (∀ d src, x ≠ .w d src) → x ∉ ws := fun x hx hm => by
    obtain ⟨d, src, hd⟩ := hws x hm
    exact hx d src hd
  exact prune_inv h ws o (List.Sublist.refl _) (fun d => hnw _ (fun _ _ he => by cases he))
    (fun e _ d _ => ⟨hnw _ (fun _ _ he => by cases he), hnw _ (fun _ _ he => by cases he)⟩)

theorem mem_wRefs {ts : List Dest} {src : String} {p : Ref → Bool} {r : Ref}
    (hr : r ∈ (ts.map (fun d => Ref.w d src)).filter p) : ∃ d src', r = .w d src' := by
  obtain ⟨d, _, rfl⟩ := List.mem_map.mp (List.mem_filter.mp hr).1
  exact ⟨d, src, rfl⟩

theorem planDeclined_inv {s : Sys} (h : Inv s) (pr : PrInfo) (cd : Bool) : Inv (s.after (planDeclined s pr cd)) := by
  unfold planDeclined
  simp only
  split
  · exact h
  · exact dropW_inv h _ (fun _ => mem_wRefs) _

theorem planReset_inv {s : Sys} (h : Inv s) (pr : PrInfo) : Inv (s.after (planReset s pr)) := by
  unfold planReset
  simp only
  split
  · exact h
  · exact dropW_inv h _ (fun _ => mem_wRefs) _

theorem planQueues_inv {s : Sys} (h : Inv s) (sel : List Nat) (hdc : DownClosed s sel) :
    Inv (s.after (planQueues s sel)) :=
  ⟨after_wf h.wf (by rw [planQueues_g]; exact GExt.refl h.wf.g) (planQueues_valid h.wf h.incl h.q.base sel),
   after_incl h.wf h.incl (by rw [planQueues_g]; exact Extends.refl _) (planQueues_safe h.wf h.incl h.q.base sel),
   planQueues_qinv h.wf h.incl h.q sel hdc⟩

theorem noq_after_drop (m : RefMap) (d : Dest) : (delRefs m (allQRefs m)).get (.q d) = none := by
  cases hc : m.get (.q d) with
  | none => rw [get_delRefs, hc, ite_self]
  | some c => rw [get_delRefs, if_pos (allQRefs_mem_q hc)]

theorem drop_other (m : RefMap) (x : Ref) (hx : (∀ d, x ≠ .q d) ∧ (∀ pr d src, x ≠ .qw pr d src)) :
    (delRefs m (allQRefs m)).get x = m.get x := by
  rw [get_delRefs, if_neg]
  intro hm
  rcases allQRefs_isq hm with ⟨d, hd⟩ | ⟨pr, d, src, hd⟩
  · exact hx.1 d hd
  · exact hx.2 pr d src hd

theorem planDropQueues_inv {s : Sys} (h : Inv s) : Inv (s.after (planDropQueues s)) := by
  unfold planDropQueues
  simp only
  split
  · exact h.restrict rfl rfl h.wf.sorted (fun k hk _ => hk) (List.nil_sublist _) (fun _ _ hc => hc)
      (fun e he => nomatch he) h.q.qdest
  · refine prune_inv h _ _ (List.nil_sublist _) (fun d hd => ?_) (fun e he => nomatch he)
    rcases allQRefs_isq hd with ⟨_, he⟩ | ⟨_, _, _, he⟩ <;> cases he

theorem Inv.set_foreign {s : Sys} (h : Inv s) {g' : Graph} (hg : GExt s.g g') (r : Ref)
    (hr : (∀ d, r ≠ .dest d) ∧ (∀ d, r ≠ .q d) ∧ (∀ pr d src, r ≠ .qw pr d src)) {m' : RefMap}
    (hget : ∀ x, x ≠ r → m'.get x = s.remote.get x) (hv : ∀ c, m'.get r = some c → c < g'.size) :
    Inv { s with g := g', remote := m' } := by
  refine ⟨⟨hg.wf, ?_, h.wf.sorted, ?_⟩, ?_, ?_⟩
  · intro x c hc
    by_cases hx : x = r
    · subst hx; exact hv c hc
    · have hc' : s.remote.get x = some c := by rw [← hget x hx]; exact hc
      exact hg.ext.lt (h.wf.valid _ _ hc')
  · intro M m c hc
    have hc' : s.remote.get (.dest (.dev M m)) = some c := by
      rw [← hget _ (hr.1 _).symm]; exact hc
    exact h.wf.devsOK M m c hc'
  · show InclOn g' _
    apply (InclOn.extends h.incl h.wf.valid hg.ext).of_same
    intro d; exact hget _ (hr.1 d).symm
  · refine QInv.transport h.wf h.q rfl rfl hg.wf hg.ext ?_ ?_ ?_
    · intro d; exact Or.inl (hget _ (hr.1 d).symm)
    · intro e _ d; exact hget _ (hr.2.2 e.pr d e.src).symm
    · intro d; left; exact hget _ (hr.2.1 d).symm

theorem other_foreign (n : String) : (∀ d, Ref.other n ≠ .dest d) ∧ (∀ d, Ref.other n ≠ .q d) ∧
    (∀ pr d src, Ref.other n ≠ .qw pr d src) := by
  refine ⟨?_, ?_, ?_⟩ <;> intros <;> intro he <;> cases he

theorem w_foreign (d0 : Dest) (src0 : String) : (∀ d, Ref.w d0 src0 ≠ .dest d) ∧ (∀ d, Ref.w d0 src0 ≠ .q d) ∧
    (∀ pr d src, Ref.w d0 src0 ≠ .qw pr d src) := by
  refine ⟨?_, ?_, ?_⟩ <;> intros <;> intro he <;> cases he

theorem addCommit_gext {g : Graph} (hg : g.WF) {ps : List Commit} (hps : ∀ p ∈ ps, p < g.size) :
    GExt g (g.addCommit ps).1 := ⟨addCommit_WF hg hps, addCommit_extends g ps⟩

theorem Inv.set_new {s : Sys} (h : Inv s) (r : Ref)
    (hr : (∀ d, r ≠ .dest d) ∧ (∀ d, r ≠ .q d) ∧ (∀ pr d src, r ≠ .qw pr d src)) {ps : List Commit}
    (hps : ∀ p ∈ ps, p < s.g.size) :
    Inv { s with g := (s.g.addCommit ps).1, remote := s.remote.set r (s.g.addCommit ps).2 } :=
  h.set_foreign (addCommit_gext h.wf.g hps) r hr (fun _ hx => RefMap.get_set_ne _ _ hx) (fun c hc => by
    rw [RefMap.get_set_eq] at hc; cases hc; exact new_lt_addCommit_size)

theorem extSet_inv {s : Sys} (h : Inv s) (n : String) (ps : List Commit) (t : Bool) (hps : ∀ p ∈ ps, p < s.g.size) :
    Inv (step s (.extSet n ps t)).1 := by
  refine h.set_new (.other n) (other_foreign n) (fun p hp => ?_)
  split at hp
  · rcases List.mem_append.mp hp with h1 | h1
    · cases hc : s.remote.get (.other n) with
      | none => rw [hc] at h1; cases h1
      | some c =>
        rw [hc] at h1
        obtain rfl := List.mem_singleton.mp h1
        exact h.wf.valid _ _ hc
    · exact hps p h1
  · exact hps p hp

theorem extW_inv {s : Sys} (h : Inv s) (d : Dest) (src : String) : Inv (step s (.extW d src)).1 := by
  simp only [step]
  split
  · rename_i c hc
    refine h.set_new (.w d src) (w_foreign d src) (fun p hp => ?_)
    obtain rfl := List.mem_singleton.mp hp
    exact h.wf.valid _ _ hc
  · exact h

theorem extDelete_inv {s : Sys} (h : Inv s) (n : String) : Inv (step s (.extDelete n)).1 :=
  h.set_foreign (GExt.refl h.wf.g) (.other n) (other_foreign n) (fun _ hx => RefMap.get_del_ne _ hx) (fun c hc => by
    rw [RefMap.get_del_eq] at hc; cases hc)

theorem extPoint_inv {s : Sys} (h : Inv s) (n : String) (c : Commit) (hc : c < s.g.size) :
    Inv (step s (.extPoint n c)).1 :=
  h.set_foreign (GExt.refl h.wf.g) (.other n) (other_foreign n) (fun _ hx => RefMap.get_set_ne _ _ hx) (fun c' hc' => by
    rw [RefMap.get_set_eq] at hc'; cases hc'; exact hc)

theorem push_new (g : Graph) (m : RefMap) (r : Ref) (c : Commit) (h : m.get r = none) :
    applyOp g noRej m (.push [(r, c)]) = m.set r c := by
  simp [applyOp, accepts, h, noRej]

/-- `create_branch`, once `BranchCascade.validate()` accepted the clone including the new branch -/
theorem createBranch_inv {s : Sys} (h : Inv s) (d : Dest) (c : Commit) (hc : c < s.g.size)
    (habs : s.remote.get (.dest d) = none) (hincl1 : InclOn s.g (s.remote.set (.dest d) c))
    (devs' : List Key) (stabs' : List (Nat × Nat × Nat)) (hsorted : SortedKeys devs')
    (hold : ∀ k ∈ s.devs, k ∈ devs') (hnew : ∀ M m, d = .dev M m → (M, m) ∈ devs') :
    Inv { s.after (planCreateBranch s d c) with devs := devs', stabs := stabs' } := by
  have hv1 : RefsValid s.g (s.remote.set (.dest d) c) := h.wf.valid.set hc
  have hdevsOK1 : ∀ M m c', (s.remote.set (.dest d) c).get (.dest (.dev M m)) = some c' → (M, m) ∈ devs' := by
    intro M m c' hc'
    rw [RefMap.get_set] at hc'
    split at hc'
    · rename_i he
      simp only [Ref.dest.injEq] at he
      exact hnew M m he.symm
    · exact hold _ (h.wf.devsOK M m c' hc')
  unfold planCreateBranch
  split
  · -- queues on and a development branch: the queues are dropped in the same job
    have hR : applyOps s.g noRej s.remote ([Op.push [(Ref.dest d, c)]] ++
        (if (allQRefs (s.remote.set (.dest d) c)).isEmpty then []
         else [Op.pushAll (delRefs (s.remote.set (.dest d) c) (allQRefs (s.remote.set (.dest d) c))) true]))
        = delRefs (s.remote.set (.dest d) c) (allQRefs (s.remote.set (.dest d) c)) := by
      rw [applyOps_append, applyOps_single, push_new _ _ _ _ habs]
      split
      · rename_i hemp
        rw [List.isEmpty_iff.mp hemp]; rfl
      · rw [applyOps_single, applyOp_pushAll_delRefs_noRej]
    simp only [Sys.after]
    rw [hR]
    exact ⟨⟨h.wf.g, hv1.delRefs _, hsorted, fun M m c' hc' => hdevsOK1 M m c' (get_delRefs_eq_some.mp hc').2⟩,
      InclOn.delRefs hincl1 _, QInv.of_empty rfl (noq_after_drop _)⟩
  · rename_i hqd
    have hnd : s.useQueue = true → d.isDev = false := by
      intro hu
      cases hd' : d.isDev
      · rfl
      · exact absurd (by simp [hu, hd']) hqd
    have hR : applyOps s.g noRej s.remote [Op.push [(Ref.dest d, c)]] = s.remote.set (.dest d) c := by
      rw [applyOps_single, push_new _ _ _ _ habs]
    simp only [Sys.after]
    rw [hR]
    refine ⟨⟨h.wf.g, hv1, hsorted, hdevsOK1⟩, hincl1,
      QInv.transport h.wf h.q rfl rfl h.wf.g (Extends.refl _) ?_ ?_ ?_⟩
    · intro d'
      by_cases hd : d' = d
      · subst hd; exact Or.inr ⟨habs, hnd⟩
      · exact Or.inl (RefMap.get_set_ne _ _ (fun he => hd (Ref.dest.inj he)))
    · exact fun _ _ _ => RefMap.get_set_ne _ _ (by intro he; cases he)
    · exact fun _ => Or.inl (RefMap.get_set_ne _ _ (by intro he; cases he))

theorem deleteBranch_remote (s : Sys) (d : Dest) (x : Ref) :
    (applyOps s.g noRej s.remote ((if s.remote.has (.q d) then [Op.delete (.q d)] else []) ++ [.delete (.dest d)])).get x
      = if x = .dest d ∨ x = .q d then none else s.remote.get x := by
  have hops : (if s.remote.has (.q d) then [Op.delete (.q d)] else []) ++ [.delete (.dest d)] =
      ((if s.remote.has (.q d) then [Ref.q d] else []) ++ [Ref.dest d]).map Op.delete := by
    split <;> rfl
  rw [hops, applyOps_deletes]
  cases hh : s.remote.has (.q d) with
  | true => simp [or_comm]
  | false =>
    -- the queue branch is not deleted because it is not there
    have hq : s.remote.get (.q d) = none := RefMap.has_eq_false.mp hh
    by_cases h2 : x = .q d
    · subst h2; simp [hq]
    · simp [h2]

/-- `delete_branch`, once its checks passed (no queued pull request targets the branch) -/
theorem deleteBranch_inv {s : Sys} (h : Inv s) (d : Dest) (hnt : ∀ e ∈ s.queue, d ∉ e.targets)
    (devs' : List Key) (stabs' : List (Nat × Nat × Nat)) (hsorted : SortedKeys devs')
    (hkeep : ∀ k ∈ s.devs, (∀ M m, d = .dev M m → k ≠ (M, m)) → k ∈ devs') :
    Inv { s.after (plan s (.deleteBranch d)) with devs := devs', stabs := stabs' } := by
  have hR := deleteBranch_remote s d
  simp only [plan, Sys.after]
  generalize applyOps s.g noRej s.remote ((if s.remote.has (.q d) then [Op.delete (.q d)] else []) ++
    [.delete (.dest d)]) = R at hR
  have hsame : ∀ x, x ≠ .dest d → x ≠ .q d → R.get x = s.remote.get x := by
    intro x h1 h2
    rw [hR, if_neg (by intro hh; rcases hh with hh | hh; exact h1 hh; exact h2 hh)]
  refine h.restrict rfl rfl hsorted ?_ (List.Sublist.refl _) ?_ ?_ ?_
  · intro k hk hsome
    apply hkeep k hk
    intro M m hd heq
    subst hd; subst heq
    have hn : R.get (.dest (.dev M m)) = none := by rw [hR, if_pos (Or.inl rfl)]
    rw [hn] at hsome; cases hsome
  · intro x c hc
    rw [hR] at hc
    split at hc
    · cases hc
    · exact hc
  · intro e he d' hd'
    have hne : d' ≠ d := fun heq => hnt e he (heq ▸ hd')
    exact ⟨hsame _ (fun he => hne (Ref.dest.inj he)) (by intro he; cases he),
      hsame _ (by intro he; cases he) (fun he => hne (Ref.q.inj he)),
      hsame _ (by intro he; cases he) (by intro he; cases he)⟩
  · intro d' hd'
    obtain ⟨c, hc⟩ := Option.isSome_iff_exists.mp hd'
    have hc' : R.get (.q d') = some c := hc
    rw [hR] at hc'
    split at hc'
    · cases hc'
    · rename_i hn
      have hne : d' ≠ d := fun heq => hn (Or.inr (by rw [heq]))
      show (R.get (.dest d')).isSome = true
      rw [hsame _ (fun he => hne (Ref.dest.inj he)) (by intro he; cases he)]
      exact h.q.qdest d' (by rw [hc']; rfl)

end BertE.Flow
