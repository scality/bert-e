import BertE.Model.Queue
import BertE.Model.QueueSpec
/-
For C05: lists (`popThrough`, suffixes and sublists of a duplicate-free list), `listOf`, `firstFailed`, and the
invariant of `_recursive_lookup` on one merge path.
-/
namespace BertE.Queue
open List

theorem popThrough_suffix (f : Nat) (l : List Nat) : popThrough f l <:+ l := by
  induction l with
  | nil => simp [popThrough]
  | cons p rest ih =>
    simp only [popThrough]
    split
    · exact suffix_cons p rest
    · exact ih.trans (suffix_cons p rest)

theorem all_ne_iff_not_mem (f : Nat) (l : List Nat) : (l.all fun p => p ≠ f) = true ↔ f ∉ l := by
  simp only [all_eq_true, decide_eq_true_eq]
  constructor
  · intro h hm; exact h f hm rfl
  · intro h p hp hpf; exact h (hpf ▸ hp)

theorem popFailed_of_not_mem {f : Nat} {l : List Nat} (h : f ∉ l) : popFailed f l = l := by
  unfold popFailed; rw [if_pos ((all_ne_iff_not_mem f l).mpr h)]

theorem popFailed_of_mem {f : Nat} {l : List Nat} (h : f ∈ l) : popFailed f l = popThrough f l := by
  unfold popFailed
  rw [if_neg]
  intro hc; exact (all_ne_iff_not_mem f l).mp hc h

theorem popFailed_nil (f : Nat) : popFailed f [] = [] := popFailed_of_not_mem (by simp)

theorem popFailed_suffix (f : Nat) (l : List Nat) : popFailed f l <:+ l := by
  by_cases h : f ∈ l
  · rw [popFailed_of_mem h]; exact popThrough_suffix f l
  · rw [popFailed_of_not_mem h]; exact suffix_refl l

theorem popThrough_cons_self (f : Nat) (l : List Nat) : popThrough f (f :: l) = l := by
  simp [popThrough]

theorem popThrough_cons_ne {f p : Nat} (l : List Nat) (h : p ≠ f) :
    popThrough f (p :: l) = popThrough f l := by
  simp [popThrough, h]

theorem popThrough_append_of_not_mem {f : Nat} {a : List Nat} (l : List Nat) (h : f ∉ a) :
    popThrough f (a ++ l) = popThrough f l := by
  induction a with
  | nil => rfl
  | cons x a ih =>
    have hx : x ≠ f := fun e => h (e ▸ mem_cons_self)
    rw [cons_append, popThrough_cons_ne _ hx, ih (fun hm => h (mem_cons_of_mem _ hm))]

theorem popThrough_append_of_mem {f : Nat} {a : List Nat} (l : List Nat) (h : f ∈ a) :
    popThrough f (a ++ l) = popThrough f a ++ l := by
  induction a with
  | nil => cases h
  | cons x a ih =>
    by_cases hx : x = f
    · subst hx
      rw [cons_append, popThrough_cons_self, popThrough_cons_self]
    · rw [cons_append, popThrough_cons_ne _ hx, popThrough_cons_ne _ hx, ih (mem_of_ne_of_mem (Ne.symm hx) h)]

theorem suffix_popThrough {t l : List Nat} {f : Nat} (hs : t <:+ l) (hf : f ∉ t) (hl : f ∈ l) :
    t <:+ popThrough f l := by
  obtain ⟨a, rfl⟩ := hs
  rw [popThrough_append_of_mem t ((mem_append.mp hl).resolve_right hf)]
  exact suffix_append _ _

theorem suffix_popFailed {t l : List Nat} {f : Nat} (hs : t <:+ l) (hf : f ∉ t) : t <:+ popFailed f l := by
  by_cases h : f ∈ l
  · rw [popFailed_of_mem h]; exact suffix_popThrough hs hf h
  · rw [popFailed_of_not_mem h]; exact hs

theorem popThrough_suffix_eq {t l : List Nat} {f : Nat} (hs : t <:+ l) (hn : l.Nodup) (hf : f ∈ t) :
    popThrough f t = popThrough f l := by
  obtain ⟨a, rfl⟩ := hs
  exact (popThrough_append_of_not_mem t fun ha => (nodup_append.mp hn).2.2 f ha f hf rfl).symm

theorem suffix_eq_of_head_mem {t l : List Nat} {f : Nat} (hs : t <:+ f :: l) (hn : (f :: l).Nodup)
    (hf : f ∈ t) : t = f :: l := by
  rcases suffix_cons_iff.mp hs with h | h
  · exact h
  · exact absurd (h.subset hf) (nodup_cons.mp hn).1

theorem suffix_of_subset {t₁ t₂ l : List Nat} (h₁ : t₁ <:+ l) (h₂ : t₂ <:+ l) (hn : l.Nodup)
    (hsub : ∀ p ∈ t₁, p ∈ t₂) : t₁ <:+ t₂ := by
  rcases suffix_or_suffix_of_suffix h₁ h₂ with h | h
  · exact h
  · rw [h.eq_of_length_le ((hn.sublist h₁.sublist).length_le_of_subset hsub)]
    exact suffix_refl _

theorem filter_eq_suffix {t l : List Nat} {P : Nat → Bool} (hs : t <:+ l) (hn : l.Nodup)
    (hP : ∀ p ∈ l, P p = true ↔ p ∈ t) : l.filter P = t := by
  obtain ⟨a, rfl⟩ := hs
  rw [filter_append, filter_eq_self.mpr fun p hp => (hP p (mem_append_right _ hp)).mpr hp,
    filter_eq_nil_iff.mpr ?_, nil_append]
  intro p hp hPp
  exact (nodup_append.mp hn).2.2 p hp p ((hP p (mem_append_left _ hp)).mp hPp) rfl

theorem dropWhile_eq_suffix {t l : List Nat} {P : Nat → Bool} (hs : t <:+ l) (hn : l.Nodup)
    (hP : ∀ p ∈ l, P p = true ↔ p ∈ t) : l.dropWhile (fun p => !P p) = t := by
  obtain ⟨a, rfl⟩ := hs
  rw [dropWhile_append_of_pos]
  · cases t with
    | nil => rfl
    | cons x t => exact dropWhile_cons_of_neg (by simp [(hP x (by simp)).mpr mem_cons_self])
  · intro p hp
    have : ¬ P p = true := fun hPp =>
      (nodup_append.mp hn).2.2 p hp p ((hP p (mem_append_left _ hp)).mp hPp) rfl
    simpa using this

theorem dropWhile_eq_filter {l : List Nat} {P : Nat → Bool} (hn : l.Nodup) (hs : l.filter P <:+ l) :
    l.dropWhile (fun p => !P p) = l.filter P :=
  dropWhile_eq_suffix hs hn fun p hp => by simp [mem_filter, hp]

theorem mem_popThrough_sublist {l L : List Nat} {f p : Nat} (hs : l <+ L) (hn : L.Nodup) (hf : f ∈ l) :
    p ∈ popThrough f l ↔ p ∈ l ∧ p ∈ popThrough f L := by
  induction hs with
  | slnil => cases hf
  | @cons l' L' a hsub ih =>
    have hn' := nodup_cons.mp hn
    have : a ≠ f := fun h => hn'.1 (h ▸ hsub.subset hf)
    rw [popThrough_cons_ne _ this]
    exact ih hn'.2 hf
  | @cons_cons l' L' a hsub ih =>
    have hn' := nodup_cons.mp hn
    -- `a` is not in the tail of the list, hence not after `f` there
    have hne : ∀ t, t <:+ L' → p ∈ t → p ≠ a := fun t ht hp e => hn'.1 (e ▸ ht.subset hp)
    by_cases ha : a = f
    · subst ha
      rw [popThrough_cons_self, popThrough_cons_self]
      exact ⟨fun hp => ⟨mem_cons_of_mem _ hp, hsub.subset hp⟩,
        fun hp => mem_of_ne_of_mem (hne L' (suffix_refl _) hp.2) hp.1⟩
    · rw [popThrough_cons_ne _ ha, popThrough_cons_ne _ ha, ih hn'.2 (mem_of_ne_of_mem (Ne.symm ha) hf)]
      exact ⟨fun hp => ⟨mem_cons_of_mem _ hp.1, hp.2⟩,
        fun hp => ⟨mem_of_ne_of_mem (hne _ (popThrough_suffix f L') hp.2) hp.1, hp.2⟩⟩

theorem order_consistent {l₁ l₂ L : List Nat} {f p : Nat} (h₁ : l₁ <+ L) (h₂ : l₂ <+ L) (hn : L.Nodup)
    (hf₁ : f ∈ l₁) (hp : p ∈ popThrough f l₁) (hf₂ : f ∈ l₂) (hp₂ : p ∈ l₂) : p ∈ popThrough f l₂ :=
  (mem_popThrough_sublist h₂ hn hf₂).mpr ⟨hp₂, ((mem_popThrough_sublist h₁ hn hf₁).mp hp).2⟩

theorem filter_suffix_of_sublist {l L t : List Nat} {P : Nat → Bool} (hs : l <+ L) (hn : L.Nodup)
    (ht : t <:+ L) (hP : ∀ p ∈ L, P p = true ↔ p ∈ t) : l.filter P <:+ l := by
  obtain ⟨a, rfl⟩ := ht
  -- the part of `l` taken from `a` is filtered out, the part taken from `t` stays
  obtain ⟨l₁, l₂, rfl, h₁, h₂⟩ := sublist_append_iff.mp hs
  rw [filter_append, filter_eq_nil_iff.mpr ?_, filter_eq_self.mpr ?_, nil_append]
  · exact suffix_append _ _
  · intro p hp
    exact (hP p (mem_append_right _ (h₂.subset hp))).mpr (h₂.subset hp)
  · intro p hp hPp
    have hpa := h₁.subset hp
    exact (nodup_append.mp hn).2.2 p hpa p ((hP p (mem_append_left _ hpa)).mp hPp) rfl

theorem listOf_nil (v : Version) : listOf [] v = [] := rfl

theorem listOf_cons (u : Version) (l : List Nat) (q : Queues) (v : Version) :
    listOf ((u, l) :: q) v = if u = v then l else listOf q v := rfl

theorem listOf_mapVals (g : Version → List Nat → List Nat) (hg : ∀ v, g v [] = []) (q : Queues) (v : Version) :
    listOf (q.map fun e => (e.1, g e.1 e.2)) v = g v (listOf q v) := by
  induction q with
  | nil => simp [listOf_nil, hg]
  | cons e rest ih =>
    obtain ⟨u, l⟩ := e
    simp only [map_cons, listOf_cons]
    by_cases h : u = v
    · subst h; simp
    · simp [h, ih]

theorem listOf_popAll (f : Nat) (q : Queues) (v : Version) :
    listOf (popAll f q) v = popFailed f (listOf q v) :=
  listOf_mapVals (fun _ l => popFailed f l) (fun _ => popFailed_nil f) q v

theorem listOf_removeUnmergeable (m : List Nat) (q : Queues) (v : Version) :
    listOf (removeUnmergeable m q) v = (listOf q v).dropWhile fun p => !m.contains p :=
  listOf_mapVals (fun _ l => l.dropWhile fun p => !m.contains p) (fun _ => rfl) q v

theorem listOf_filter (k : Version → Bool) (q : Queues) (v : Version) :
    listOf (q.filter fun e => k e.1) v = if k v = true then listOf q v else [] := by
  induction q with
  | nil => simp [listOf_nil]
  | cons e rest ih =>
    obtain ⟨u, l⟩ := e
    by_cases hu : k u = true
    · rw [filter_cons_of_pos (by simpa using hu), listOf_cons, listOf_cons, ih]
      by_cases h : u = v
      · subst h; simp [hu]
      · simp [h]
    · rw [filter_cons_of_neg (by simpa using hu), listOf_cons, ih]
      by_cases h : u = v
      · subst h; simp [hu]
      · simp [h]

theorem listOf_of_not_key {q : Queues} {v : Version} (h : v ∉ q.map (·.1)) : listOf q v = [] := by
  induction q with
  | nil => rfl
  | cons e rest ih =>
    obtain ⟨u, l⟩ := e
    simp only [map_cons, mem_cons, not_or] at h
    rw [listOf_cons, if_neg (fun hh => h.1 hh.symm)]
    exact ih h.2

theorem listOf_of_mem {q : Queues} {v : Version} {l : List Nat} (hk : (q.map (·.1)).Nodup)
    (h : (v, l) ∈ q) : listOf q v = l := by
  induction q with
  | nil => simp at h
  | cons e rest ih =>
    obtain ⟨u, l'⟩ := e
    simp only [map_cons] at hk
    have hk' := nodup_cons.mp hk
    rw [listOf_cons]
    rcases mem_cons.mp h with h | h
    · cases h; simp
    · have : u ≠ v := by
        intro huv; subst huv
        exact hk'.1 (mem_map.mpr ⟨(u, l), h, rfl⟩)
      rw [if_neg this]; exact ih hk'.2 h

theorem mem_of_mem_listOf {q : Queues} {v : Version} {p : Nat} (h : p ∈ listOf q v) :
    (v, listOf q v) ∈ q := by
  induction q with
  | nil => simp [listOf_nil] at h
  | cons e rest ih =>
    obtain ⟨u, l⟩ := e
    rw [listOf_cons] at h ⊢
    by_cases huv : u = v
    · subst huv; simp
    · rw [if_neg huv] at h ⊢
      exact mem_cons_of_mem _ (ih h)

theorem map_fst_mapVals (g : Version → List Nat → List Nat) (q : Queues) :
    (q.map fun e => (e.1, g e.1 e.2)).map (·.1) = q.map (·.1) := by
  simp [map_map, Function.comp_def]

theorem keys_popAll (f : Nat) (q : Queues) : (popAll f q).map (·.1) = q.map (·.1) :=
  map_fst_mapVals (fun _ l => popFailed f l) q

theorem keys_removeUnmergeable (m : List Nat) (q : Queues) :
    (removeUnmergeable m q).map (·.1) = q.map (·.1) :=
  map_fst_mapVals (fun _ l => l.dropWhile fun p => !m.contains p) q

theorem firstFailed_cases (st : St) (q : Queues) :
    (∃ u l, (u, firstFailed st q :: l) ∈ q ∧ st (firstFailed st q) u ≠ .successful) ∨
    (firstFailed st q = 0 ∧ ∀ v p l, (v, p :: l) ∈ q → st p v = .successful) := by
  induction q with
  | nil => exact Or.inr ⟨rfl, fun _ _ _ h => nomatch h⟩
  | cons e rest ih =>
    obtain ⟨v, l⟩ := e
    cases l with
    | nil =>
      rw [firstFailed_cons_nil]
      refine ih.imp (fun ⟨u, l, hm, hs⟩ => ⟨u, l, mem_cons_of_mem _ hm, hs⟩)
        fun ⟨h0, hg⟩ => ⟨h0, fun v' p l hm => ?_⟩
      rcases mem_cons.mp hm with hm | hm
      · cases hm
      · exact hg v' p l hm
    | cons p l' =>
      rw [firstFailed_cons_cons]
      by_cases hp : st p v ≠ .successful
      · rw [if_pos hp]
        exact Or.inl ⟨v, l', mem_cons_self, hp⟩
      · rw [if_neg hp]
        refine ih.imp (fun ⟨u, l, hm, hs⟩ => ⟨u, l, mem_cons_of_mem _ hm, hs⟩)
          fun ⟨h0, hg⟩ => ⟨h0, fun v' p' l hm => ?_⟩
        rcases mem_cons.mp hm with hm | hm
        · cases hm
          exact Classical.not_not.mp hp
        · exact hg v' p' l hm

theorem firstFailed_spec (st : St) {q : Queues} (hk : (q.map (·.1)).Nodup) (h : firstFailed st q ≠ 0) :
    ∃ u l, listOf q u = firstFailed st q :: l ∧ st (firstFailed st q) u ≠ .successful := by
  rcases firstFailed_cases st q with ⟨u, l, hm, hs⟩ | ⟨h0, _⟩
  · exact ⟨u, l, listOf_of_mem hk hm, hs⟩
  · exact absurd h0 h

theorem firstFailed_zero (st : St) {q : Queues} (hk : (q.map (·.1)).Nodup) (h : firstFailed st q = 0)
    (hpos : ∀ v, 0 ∉ listOf q v) {v : Version} {p : Nat} (hp : (listOf q v).head? = some p) :
    st p v = .successful := by
  rcases firstFailed_cases st q with ⟨u, l, hm, _⟩ | ⟨_, hg⟩
  · rw [h] at hm
    exact absurd (listOf_of_mem hk hm ▸ mem_cons_self) (hpos u)
  · obtain ⟨t, ht⟩ : ∃ t, listOf q v = p :: t := by
      cases hl : listOf q v with
      | nil => rw [hl] at hp; cases hp
      | cons a t => rw [hl] at hp; cases hp; exact ⟨t, rfl⟩
    exact hg v p t (ht ▸ mem_of_mem_listOf (ht ▸ mem_cons_self))

/-- what the lookup needs of the collection `b` it starts from (one merge path plus the hotfix queues):
    one entry per version, no duplicate, the queues agree on the relative order of their entries,
    and two pull requests that share a queue occupy nested sets of versions -/
structure PathOK (b : Queues) : Prop where
  keys : (b.map (·.1)).Nodup
  nodup : ∀ v, (listOf b v).Nodup
  ord : ∀ u v f p, f ∈ listOf b v → p ∈ listOf b v → f ∈ listOf b u →
    p ∈ popThrough f (listOf b u) → p ∈ popThrough f (listOf b v)
  nest : ∀ u w v f p, f ∈ listOf b v → p ∈ listOf b v → f ∈ listOf b u → p ∈ listOf b w →
    f ∈ listOf b w ∨ p ∈ listOf b u

/-- the stack `s` is a *saturated* lower part of `b`: on every version a suffix (the oldest entries), and a
    pull request that is left somewhere is left on every version of `b` that holds it -/
def Sat (s b : Queues) : Prop :=
  ∀ v, listOf s v <:+ listOf b v ∧ ∀ p ∈ listOf b v, ∀ u, p ∈ listOf s u → p ∈ listOf s v

theorem not_mem_popFailed {f : Nat} {l : List Nat} (hn : l.Nodup) : f ∉ popFailed f l := by
  by_cases h : f ∈ l
  · obtain ⟨a, t, rfl⟩ := append_of_mem h
    have hn' := nodup_append.mp hn
    rw [popFailed_of_mem h, popThrough_append_of_not_mem _ (fun ha => hn'.2.2 f ha f mem_cons_self rfl),
      popThrough_cons_self]
    exact (nodup_cons.mp hn'.2.1).1
  · rw [popFailed_of_not_mem h]; exact h

theorem sat_popAll {b s : Queues} {st : St} (hb : PathOK b) (hs : Sat s b) (hk : (s.map (·.1)).Nodup)
    (hf : firstFailed st s ≠ 0) : Sat (popAll (firstFailed st s) s) b := by
  obtain ⟨u, rest, hu, _⟩ := firstFailed_spec st hk hf
  generalize firstFailed st s = f at *
  have hpop : ∀ x, f ∈ listOf s x → popFailed f (listOf s x) = popThrough f (listOf b x) := fun x hx => by
    rw [popFailed_of_mem hx, popThrough_suffix_eq (hs x).1 (hb.nodup x) hx]
  intro v
  rw [listOf_popAll]
  refine ⟨(popFailed_suffix _ _).trans (hs v).1, fun p hpb w hpw => ?_⟩
  rw [listOf_popAll] at hpw
  have hpv : p ∈ listOf s v := (hs v).2 p hpb w ((popFailed_suffix _ _).subset hpw)
  by_cases hfv : f ∈ listOf s v
  · rw [hpop v hfv]
    have hfbv := (hs v).1.subset hfv
    have hfu : f ∈ listOf s u := hu ▸ mem_cons_self
    have hfbu := (hs u).1.subset hfu
    by_cases hfw : f ∈ listOf s w
    · rw [hpop w hfw] at hpw
      exact hb.ord w v f p hfbv hpb ((hs w).1.subset hfw) hpw
    · rw [popFailed_of_not_mem hfw] at hpw
      -- `p` is left on `w`, where `f` is not: by nesting `p` is on `u`, below the tip `f`
      rcases hb.nest u w v f p hfbv hpb hfbu ((hs w).1.subset hpw) with h | h
      · exact absurd ((hs w).2 f h u hfu) hfw
      · have hpu : p ∈ popFailed f (listOf s u) := by
          rw [popFailed_of_mem hfu, hu, popThrough_cons_self]
          exact mem_of_ne_of_mem (fun e : p = f => hfw (e ▸ hpw)) (hu ▸ (hs u).2 p h w hpw)
        rw [hpop u hfu] at hpu
        exact hb.ord u v f p hfbv hpb hfbu hpu
  · rw [popFailed_of_not_mem hfv]; exact hpv

/-- a saturated selection whose heads are all green (seen from the collection `b`) -/
structure GreenSel (st : St) (b : Queues) (G : Version → List Nat) : Prop where
  sat : ∀ u w f, f ∈ G w → f ∈ listOf b u → f ∈ G u
  green : ∀ u p, (G u).head? = some p → st p u = .successful

theorem le_popAll {b s : Queues} {st : St} {G : Version → List Nat} (hb : PathOK b) (hs : Sat s b)
    (hk : (s.map (·.1)).Nodup) (hG : GreenSel st b G) (hle : ∀ v, G v <:+ listOf s v)
    (hf : firstFailed st s ≠ 0) : ∀ v, G v <:+ listOf (popAll (firstFailed st s) s) v := by
  obtain ⟨u, rest, hu, hfail⟩ := firstFailed_spec st hk hf
  generalize firstFailed st s = f at *
  have hnot : ∀ w, f ∉ G w := by
    intro w hw
    have hGu : f ∈ G u := hG.sat u w f hw ((hs u).1.subset (hu ▸ mem_cons_self))
    have heq : G u = f :: rest :=
      suffix_eq_of_head_mem (hu ▸ hle u) (hu ▸ (hb.nodup u).sublist (hs u).1.sublist) hGu
    exact hfail (hG.green u f (by rw [heq]; rfl))
  intro v
  rw [listOf_popAll]
  exact suffix_popFailed (hle v) (hnot v)

theorem lookup_inv {b : Queues} {st : St} (hb : PathOK b) (s : Queues) (hs : Sat s b)
    (hk : (s.map (·.1)).Nodup) :
    Sat (recursiveLookup st s) b
    ∧ (recursiveLookup st s).map (·.1) = s.map (·.1)
    ∧ firstFailed st (recursiveLookup st s) = 0
    ∧ (∀ v, listOf (recursiveLookup st s) v <:+ listOf s v)
    ∧ (∀ G, GreenSel st b G → (∀ v, G v <:+ listOf s v) → ∀ v, G v <:+ listOf (recursiveLookup st s) v) := by
  fun_induction recursiveLookup st s with
  | case1 q h => exact ⟨hs, rfl, h, fun v => suffix_refl _, fun G _ hle => hle⟩
  | case2 q h ih =>
    have hk' : ((popAll (firstFailed st q) q).map (·.1)).Nodup := by rw [keys_popAll]; exact hk
    obtain ⟨i1, i2, i3, i4, i5⟩ := ih (sat_popAll hb hs hk h) hk'
    refine ⟨i1, by rw [i2, keys_popAll], i3, ?_, ?_⟩
    · intro v
      exact (i4 v).trans (by rw [listOf_popAll]; exact popFailed_suffix _ _)
    · intro G hG hle
      exact i5 G hG (le_popAll hb hs hk hG hle h)

theorem lookup_pops {b : Queues} {st : St} (hb : PathOK b) (s : Queues) (hs : Sat s b)
    (hk : (s.map (·.1)).Nodup) (hf : firstFailed st s ≠ 0) :
    (∃ u, firstFailed st s ∈ listOf s u) ∧ ∀ v, firstFailed st s ∉ listOf (recursiveLookup st s) v := by
  obtain ⟨u, rest, hu, _⟩ := firstFailed_spec st hk hf
  refine ⟨⟨u, by rw [hu]; simp⟩, ?_⟩
  intro v
  rw [recursiveLookup, dif_neg hf]
  have hk' : ((popAll (firstFailed st s) s).map (·.1)).Nodup := by rw [keys_popAll]; exact hk
  have h4 := (lookup_inv (st := st) hb _ (sat_popAll hb hs hk hf) hk').2.2.2.1 v
  intro hc
  have := h4.subset hc
  rw [listOf_popAll] at this
  exact not_mem_popFailed ((hb.nodup v).sublist (hs v).1.sublist) this

end BertE.Queue
