import BertE.Lemmas.Enqueue
/- The full inductive invariant of the system model, and the ways a step can leave the queue invariant intact,
   each proved once against its clauses: everything grows (`QInv.transport`), a pull request is appended
   (`QInv.snoc`), refs and queue entries disappear and destinations move (`QInv.shrink`, `QInv.restrict`). -/
namespace BertE.Flow
open BertE.Git

theorem QInv.of_empty {s : Sys} (hqueue : s.queue = []) (hnoq : ∀ d, s.remote.get (.q d) = none) : QInv s := by
  have hno : ∀ {p : QEntry → Prop} (e : QEntry), e ∈ s.queue → p e := by
    rw [hqueue]; intro p e he; cases he
  exact ⟨⟨hno, hno, hno, hno, hqueue ▸ List.Pairwise.nil⟩, fun d q t hq => (by rw [hnoq] at hq; cases hq), hno, hno,
    hqueue ▸ List.nodup_nil, fun d hd => (by rw [hnoq] at hd; cases hd), fun _ => ⟨hqueue, hnoq⟩⟩

/-- Nothing queued changes; queue branches may be new or move forward, destinations may be new (a development
    branch only when queues are off). -/
theorem QInv.transport {s s' : Sys} (hs : s.WF) (hq : QInv s)
    (hqueue : s'.queue = s.queue) (huq : s'.useQueue = s.useQueue)
    (hg' : s'.g.WF) (hext : Extends s.g s'.g)
    (hdest : ∀ d, s'.remote.get (.dest d) = s.remote.get (.dest d) ∨
        (s.remote.get (.dest d) = none ∧ (s.useQueue = true → d.isDev = false)))
    (hqw : ∀ e ∈ s.queue, ∀ d, qwOf s'.remote e d = qwOf s.remote e d)
    (hqq : ∀ d, s'.remote.get (.q d) = s.remote.get (.q d) ∨
        (s.useQueue = true ∧ ∃ t n, s.remote.get (.dest d) = some t ∧ s'.remote.get (.q d) = some n ∧
          s'.g.le t n = true ∧ ∀ o, s.remote.get (.q d) = some o → s'.g.le o n = true)) :
    QInv s' := by
  have hle : ∀ a c, c < s.g.size → s.g.le a c = true → s'.g.le a c = true := fun a c hc h => hext.le hc h
  have hpres : ∀ d t, s.remote.get (.dest d) = some t → s'.remote.get (.dest d) = some t := by
    intro d t ht
    rcases hdest d with h | ⟨hn, _⟩
    · rw [h, ht]
    · rw [hn] at ht; cases ht
  refine ⟨⟨?_, ?_, ?_, ?_, ?_⟩, ?_, ?_, ?_, ?_, ?_, ?_⟩
  · intro e he d hd
    rw [hqueue] at he
    obtain ⟨c, t, hc, ht, hl⟩ := hq.base.entry e he d hd
    exact ⟨c, t, by rw [hqw e he]; exact hc, hpres d t ht, hle _ _ (hs.valid _ _ hc) hl⟩
  · intro e he; rw [hqueue] at he; exact hq.base.ordered e he
  · intro e he a ha b hb hbs
    rw [hqueue] at he
    rcases hdest b with h | ⟨_, hnd⟩
    · rw [h] at hbs; exact hq.base.closed e he a ha b hb hbs
    · -- a new development branch: queues are off, nothing is queued
      obtain ⟨M, m, rfl⟩ := Dest.before_right_dev hb
      cases hu : s.useQueue with
      | true => cases hnd hu
      | false => rw [(hq.noq hu).1] at he; cases he
  · intro e he
    rw [hqueue] at he
    apply (hq.base.vert e he).imp
    intro a b h ca cb hca hcb
    rw [hqw e he] at hca hcb
    exact hle _ _ (hs.valid _ _ hcb) (h ca cb hca hcb)
  · rw [hqueue]
    apply hq.base.horiz.imp_of_mem
    intro e e' he he' h d hd hd' c c' hc hc'
    rw [hqw e he] at hc; rw [hqw e' he'] at hc'
    exact hle _ _ (hs.valid _ _ hc') (h d hd hd' c c' hc hc')
  · intro d q t hq' ht
    rcases hqq d with h | ⟨_, t0, n, ht0, hn, htn, _⟩
    · rw [h] at hq'
      obtain ⟨t0, ht0⟩ := Option.isSome_iff_exists.mp (hq.qdest d (by rw [hq']; rfl))
      rw [hpres d t0 ht0] at ht; obtain rfl := Option.some.inj ht
      exact hle _ _ (hs.valid _ _ hq') (hq.qtip d q t0 hq' ht0)
    · rw [hn] at hq'; obtain rfl := Option.some.inj hq'
      rw [hpres d t0 ht0] at ht; obtain rfl := Option.some.inj ht
      exact htn
  · intro e he d hd c q hc hq'
    rw [hqueue] at he
    rw [hqw e he] at hc
    rcases hqq d with h | ⟨_, _, n, _, hn, _, hon⟩
    · rw [h] at hq'
      exact hle _ _ (hs.valid _ _ hq') (hq.qtop e he d hd c q hc hq')
    · rw [hn] at hq'; obtain rfl := Option.some.inj hq'
      obtain ⟨o, ho⟩ := Option.isSome_iff_exists.mp (hq.qhas e he d hd)
      exact le_trans hg' (hle _ _ (hs.valid _ _ ho) (hq.qtop e he d hd c o hc ho)) (hon o ho)
  · intro e he d hd
    rw [hqueue] at he
    rcases hqq d with h | ⟨_, _, n, _, hn, _⟩
    · rw [h]; exact hq.qhas e he d hd
    · rw [hn]; rfl
  · rw [hqueue]; exact hq.ids
  · intro d hd
    have : (s.remote.get (.dest d)).isSome = true := by
      rcases hqq d with h | ⟨_, t, _, ht, _⟩
      · rw [h] at hd; exact hq.qdest d hd
      · rw [ht]; rfl
    obtain ⟨t, ht⟩ := Option.isSome_iff_exists.mp this
    rw [hpres d t ht]; rfl
  · intro hu
    rw [huq] at hu
    obtain ⟨h1, h2⟩ := hq.noq hu
    refine ⟨by rw [hqueue]; exact h1, fun d => ?_⟩
    rcases hqq d with h | ⟨hu', _⟩
    · rw [h]; exact h2 d
    · rw [hu] at hu'; cases hu'

/-- A pull request is recorded as queued in a state whose queue branches already carry it. -/
theorem QInv.snoc {s : Sys} (hq : QInv s) (hg : s.g.WF) (huq : s.useQueue = true) (e : QEntry)
    (hid : e.pr ∉ s.queue.map (·.pr))
    (hord : e.targets.Pairwise (fun a b => a.before b = true))
    (hclosed : ∀ a ∈ e.targets, ∀ b, a.before b = true → (s.remote.get (.dest b)).isSome = true → b ∈ e.targets)
    (htgt : ∀ d ∈ e.targets, ∃ t n, s.remote.get (.dest d) = some t ∧ s.remote.get (.q d) = some n ∧
      qwOf s.remote e d = some n ∧ s.g.le t n = true)
    (hchain : e.targets.Pairwise (fun a b => ∀ na nb, s.remote.get (.q a) = some na →
      s.remote.get (.q b) = some nb → s.g.le na nb = true)) :
    QInv { s with queue := s.queue ++ [e] } := by
  have hqwq : ∀ d ∈ e.targets, ∀ c q, qwOf s.remote e d = some c → s.remote.get (.q d) = some q → c = q := by
    intro d hd c q hc hqd
    obtain ⟨_, n, _, hqn, hqwn, _⟩ := htgt d hd
    rw [hqwn] at hc; rw [hqn] at hqd
    exact (Option.some.inj hc).symm.trans (Option.some.inj hqd)
  refine ⟨⟨?_, ?_, ?_, ?_, ?_⟩, hq.qtip, ?_, ?_, ?_, hq.qdest, ?_⟩
  · intro e' he' d hd
    rcases List.mem_append.mp he' with he' | he'
    · exact hq.base.entry e' he' d hd
    · obtain rfl := List.mem_singleton.mp he'
      obtain ⟨t, n, ht, _, hqwn, htn⟩ := htgt d hd
      exact ⟨n, t, hqwn, ht, htn⟩
  · intro e' he'
    rcases List.mem_append.mp he' with he' | he'
    · exact hq.base.ordered e' he'
    · obtain rfl := List.mem_singleton.mp he'; exact hord
  · intro e' he'
    rcases List.mem_append.mp he' with he' | he'
    · exact hq.base.closed e' he'
    · obtain rfl := List.mem_singleton.mp he'; exact hclosed
  · intro e' he'
    rcases List.mem_append.mp he' with he' | he'
    · exact hq.base.vert e' he'
    · obtain rfl := List.mem_singleton.mp he'
      apply hchain.imp_of_mem
      intro a b ha hb h ca cb hca hcb
      obtain ⟨_, na, _, hqa, _⟩ := htgt a ha
      obtain ⟨_, nb, _, hqb, _⟩ := htgt b hb
      rw [hqwq a ha ca na hca hqa, hqwq b hb cb nb hcb hqb]
      exact h na nb hqa hqb
  · rw [List.pairwise_append]
    refine ⟨hq.base.horiz, List.pairwise_singleton _ _, ?_⟩
    intro e' he' e'' he'' d hd hd' c c' hc hc'
    obtain rfl := List.mem_singleton.mp he''
    obtain ⟨_, n, _, hqn, _⟩ := htgt d hd'
    rw [hqwq d hd' c' n hc' hqn]
    exact hq.qtop e' he' d hd c n hc hqn
  · intro e' he' d hd c q hc hqd
    rcases List.mem_append.mp he' with he' | he'
    · exact hq.qtop e' he' d hd c q hc hqd
    · obtain rfl := List.mem_singleton.mp he'
      obtain ⟨_, n, _, hqn, _, htn⟩ := htgt d hd
      rw [hqwq d hd c q hc hqd]
      rw [hqn] at hqd; obtain rfl := Option.some.inj hqd
      exact le_refl hg (le_size hg htn).2
  · intro e' he' d hd
    rcases List.mem_append.mp he' with he' | he'
    · exact hq.qhas e' he' d hd
    · obtain rfl := List.mem_singleton.mp he'
      obtain ⟨_, n, _, hqn, _⟩ := htgt d hd
      rw [hqn]; rfl
  · rw [List.map_append, List.nodup_append]
    refine ⟨hq.ids, by simp, ?_⟩
    intro a ha b hb he
    obtain rfl := List.mem_singleton.mp hb
    subst he; exact hid ha
  · intro hu
    rw [huq] at hu; cases hu

/-- `QInv` only speaks of the refs that are present and of the pull requests that are queued: entries may leave the
    queue, refs disappear, destinations move as long as they stay below the queue commits made on them. -/
theorem QInv.shrink {s s' : Sys} (hq : QInv s) (hg : s'.g = s.g) (huq : s'.useQueue = s.useQueue)
    (hsub : s'.queue.Sublist s.queue)
    (hle : ∀ x c, (∀ d, x ≠ .dest d) → s'.remote.get x = some c → s.remote.get x = some c)
    (hdsub : ∀ d, (s'.remote.get (.dest d)).isSome = true → (s.remote.get (.dest d)).isSome = true)
    (htip : ∀ d q t, s'.remote.get (.q d) = some q → s'.remote.get (.dest d) = some t → s.g.le t q = true)
    (hkeep : ∀ e ∈ s'.queue, ∀ d ∈ e.targets, s'.remote.get (.q d) = s.remote.get (.q d) ∧
        qwOf s'.remote e d = qwOf s.remote e d ∧
        ∃ t, s'.remote.get (.dest d) = some t ∧ ∀ c, qwOf s.remote e d = some c → s.g.le t c = true)
    (hqd : ∀ d, (s'.remote.get (.q d)).isSome = true → (s'.remote.get (.dest d)).isSome = true) : QInv s' := by
  have hmem : ∀ e ∈ s'.queue, e ∈ s.queue := fun e he => hsub.subset he
  have hqle : ∀ d c, s'.remote.get (.q d) = some c → s.remote.get (.q d) = some c :=
    fun d c h => hle _ c (fun _ he => by cases he) h
  have hqwle : ∀ e d c, qwOf s'.remote e d = some c → qwOf s.remote e d = some c :=
    fun e d c h => hle _ c (fun _ he => by cases he) h
  refine ⟨⟨?_, ?_, ?_, ?_, ?_⟩, ?_, ?_, ?_, hq.ids.sublist (hsub.map _), hqd, ?_⟩
  · intro e he d hd
    obtain ⟨_, hqw, t, ht, hb⟩ := hkeep e he d hd
    obtain ⟨c, _, hc, _, _⟩ := hq.base.entry e (hmem e he) d hd
    exact ⟨c, t, by rw [hqw]; exact hc, ht, by rw [hg]; exact hb c hc⟩
  · exact fun e he => hq.base.ordered e (hmem e he)
  · exact fun e he a ha b hb hbs => hq.base.closed e (hmem e he) a ha b hb (hdsub b hbs)
  · intro e he
    apply (hq.base.vert e (hmem e he)).imp
    intro a b h ca cb hca hcb
    rw [hg]; exact h ca cb (hqwle _ _ _ hca) (hqwle _ _ _ hcb)
  · apply (hq.base.horiz.sublist hsub).imp
    intro e e' h d hd hd' c c' hc hc'
    rw [hg]; exact h d hd hd' c c' (hqwle _ _ _ hc) (hqwle _ _ _ hc')
  · intro d q t hq' ht
    rw [hg]; exact htip d q t hq' ht
  · intro e he d hd c q hc hq'
    rw [hg]; exact hq.qtop e (hmem e he) d hd c q (hqwle _ _ _ hc) (hqle _ _ hq')
  · intro e he d hd
    rw [(hkeep e he d hd).1]; exact hq.qhas e (hmem e he) d hd
  · intro hu
    rw [huq] at hu
    obtain ⟨h1, h2⟩ := hq.noq hu
    rw [h1] at hsub
    refine ⟨List.sublist_nil.mp hsub, fun d => ?_⟩
    cases hc : s'.remote.get (.q d) with
    | none => rfl
    | some c => have := hqle _ _ hc; rw [h2 d] at this; cases this

/-- the case in which every ref that stays keeps its value -/
theorem QInv.restrict {s s' : Sys} (hq : QInv s) (hg : s'.g = s.g) (huq : s'.useQueue = s.useQueue)
    (hsub : s'.queue.Sublist s.queue)
    (hle : ∀ x c, s'.remote.get x = some c → s.remote.get x = some c)
    (hkeep : ∀ e ∈ s'.queue, ∀ d ∈ e.targets, s'.remote.get (.dest d) = s.remote.get (.dest d) ∧
        s'.remote.get (.q d) = s.remote.get (.q d) ∧ qwOf s'.remote e d = qwOf s.remote e d)
    (hqd : ∀ d, (s'.remote.get (.q d)).isSome = true → (s'.remote.get (.dest d)).isSome = true) : QInv s' := by
  refine hq.shrink hg huq hsub (fun x c _ h => hle x c h) (fun d hd => ?_)
    (fun d q t hq' ht => hq.qtip d q t (hle _ _ hq') (hle _ _ ht)) (fun e he d hd => ?_) hqd
  · obtain ⟨c, hc⟩ := Option.isSome_iff_exists.mp hd
    rw [hle _ c hc]; rfl
  · obtain ⟨hd', hq', hqw⟩ := hkeep e he d hd
    obtain ⟨c, t, hc, ht, hl⟩ := hq.base.entry e (hsub.subset he) d hd
    refine ⟨hq', hqw, t, hd'.trans ht, fun c' hc' => ?_⟩
    rw [hc] at hc'; obtain rfl := Option.some.inj hc'
    exact hl

end BertE.Flow
