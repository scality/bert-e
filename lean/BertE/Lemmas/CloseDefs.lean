import BertE.Lemmas.Select
import BertE.Lemmas.QValidateEval
/-
`VX`: what `Flow.Inv` lacks for `Select.Validated` (what `BranchCascade.validate()` / `QueueCollection.validate()` have
checked when the selection is computed): `q/w/` refs that belong to no queued pull request, the queue branches of the
versions no queued pull request targets, positive ids, the cascade. `InvV = Inv ∧ VX` is inductive (`close_stepV_inv`,
`Lemmas/CloseInvV.lean`) and implies `Validated` (`close_validated_of_invV`).
-/
namespace BertE.Close
open BertE.Git BertE.Flow BertE.Select

structure VX (s : Sys) : Prop where
  /-- true on every git host -/
  pos : ∀ e ∈ s.queue, e.pr ≠ 0
  qwE : ∀ pr d src, (s.remote.get (.qw pr d src)).isSome = true →
    ∃ e ∈ s.queue, e.pr = pr ∧ e.src = src ∧ d ∈ e.targets
  devsHave : ∀ k ∈ s.devs, (s.remote.get (.dest (devDest k))).isSome = true
  /-- `add_to_queue` creates the queue branch of every target -/
  qUpper : ∀ d, (s.remote.get (.q d)).isSome = true → ∀ k ∈ s.devs, d.before (devDest k) = true →
    (s.remote.get (.q (devDest k))).isSome = true
  /-- `BranchCascade.validate`: `DevBranchDoesNotExist`; `create_branch` / `delete_branch` refuse to break it -/
  stabDev : ∀ M m u, (s.remote.get (.dest (.stab M m u))).isSome = true → (M, some m) ∈ s.devs

structure InvV (s : Sys) : Prop where
  inv : Inv s
  vx : VX s

def qwVersion : Ref → Option Dest
  | .qw _ d _ => some d
  | _ => none

/-- two different `q/w/` refs of one version whose commits contain each other - in git: the same commit
    (`QueueIntegrationBranch.__lt__` is `other.includes_commit(self)`: a tie of `finalize`'s sort) -/
def tied (g : Graph) (a b : Ref × Commit) : Bool :=
  match qwVersion a.1, qwVersion b.1 with
  | some d, some d' => d == d' && a.1 != b.1 && g.le a.2 b.2 && g.le b.2 a.2
  | _, _ => false

/-- No two queue-integration refs of one version are the same commit (stated on the entries of the ref map, so that it
    is decidable, and as mutual inclusion, which is what the sort of `finalize` sees; `close_noTies_iff` is the reading
    on refs). The known finding D18 (`incoherent-queues-when-two-queued-prs-share-a-queue-commit`) is a state where it
    fails. -/
def NoTies (s : Sys) : Prop :=
  ∀ a ∈ s.remote, ∀ b ∈ s.remote, s.remote.get a.1 = some a.2 → s.remote.get b.1 = some b.2 → tied s.g a b = false

instance (s : Sys) : Decidable (NoTies s) := by unfold NoTies; infer_instance

theorem close_noTies_iff (s : Sys) : NoTies s ↔
    ∀ p d src p' src' c c', s.remote.get (.qw p d src) = some c → s.remote.get (.qw p' d src') = some c' →
      s.g.le c c' = true → s.g.le c' c = true → p = p' ∧ src = src' := by
  constructor
  · intro h p d src p' src' c c' h1 h2 hl1 hl2
    have := h _ (RefMap.get_mem h1) _ (RefMap.get_mem h2) h1 h2
    simp only [tied, qwVersion, beq_self_eq_true, Bool.true_and, hl1, hl2, Bool.and_true,
      bne_eq_false_iff_eq, Ref.qw.injEq, true_and] at this
    exact ⟨this.1, this.2⟩
  · intro h a ha b hb h1 h2
    obtain ⟨ra, ca⟩ := a
    obtain ⟨rb, cb⟩ := b
    cases ra <;> cases rb <;> simp only [tied, qwVersion] <;> try rfl
    rename_i p d src p' d' src'
    rw [Bool.eq_false_iff]
    intro ht
    simp only [Bool.and_eq_true, beq_iff_eq, bne_iff_ne] at ht
    obtain ⟨⟨⟨rfl, hne⟩, hl1⟩, hl2⟩ := ht
    obtain ⟨rfl, rfl⟩ := h p d src p' src' ca cb h1 h2 hl1 hl2
    exact hne rfl

/-- `q/<version>` is on the queue commit of the newest queued pull request of the version, or — when none is queued
    on it — on the tip of its destination branch (`_horizontal_validation`: `MasterQueueLateVsInt` /
    `MasterQueueYoungerThanInt` / `MasterQueueDiverged` / `MasterQueueNotInSync`) -/
def QSync (s : Sys) : Prop :=
  ∀ d q, s.remote.get (.q d) = some q →
    match (entriesOn s d).getLast? with
    | some e => s.remote.get (.qw e.pr d e.src) = some q
    | none => s.remote.get (.dest d) = some q

def qsyncB (s : Sys) : Bool :=
  s.remote.all fun rc => match rc.1 with
    | .q d =>
      (match s.remote.get (.q d), (entriesOn s d).getLast? with
       | some q, some e => s.remote.get (.qw e.pr d e.src) == some q
       | some q, none => s.remote.get (.dest d) == some q
       | none, _ => true)
    | _ => true

theorem close_qsync_of_b {s : Sys} (h : qsyncB s = true) : QSync s := by
  intro d q hq
  unfold qsyncB at h
  rw [List.all_eq_true] at h
  have := h _ (RefMap.get_mem hq)
  simp only [hq] at this
  cases hl : (entriesOn s d).getLast? with
  | none => rw [hl] at this; simpa using this
  | some e => rw [hl] at this; simpa using this

open BertE.QV in
/-- newest first -/
def intsFor (s : Sys) (d : Dest) : List QInt :=
  (entriesOn s d).reverse.filterMap fun e => (s.remote.get (.qw e.pr d e.src)).map fun c => ⟨e.pr, e.src, c⟩

open BertE.QV in
structure CollMatches (s : Sys) (c : Coll) : Prop where
  nodup : (keys c).Nodup
  mem : ∀ d, d ∈ keys c ↔ (s.remote.get (.q d)).isSome = true
  master : ∀ v ∈ c, v.master = s.remote.get (.q v.d)
  ints : ∀ v ∈ c, v.ints = intsFor s v.d
  devOrder : ((keys c).filter fun d => verLen d == 2).Pairwise fun a b => a.before b = true

/-- the side conditions on the cascade under which `handle_merge_queues` gets as far as `validate()`:
    `BranchCascade.build` accepts it (one stabilization branch per major.minor: `UnsupportedMultipleStabBranches`)
    and there is a development branch (`versions[-1]` of the main merge path) -/
def CascadeSide (s : Sys) : Prop :=
  BertE.QV.multipleStabs (BertE.QV.stabsPresent s.remote) = false ∧ s.devs ≠ []

instance (s : Sys) : Decidable (CascadeSide s) := by unfold CascadeSide; infer_instance

end BertE.Close
