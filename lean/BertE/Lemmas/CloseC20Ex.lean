import BertE.Lemmas.CloseC20WF
/-
A reachable state on which the sorted keys of the queue collection do NOT end with the greatest development queue
(`compare_queues` is not transitive when a hotfix, a stabilization and a development queue share major.minor), so that
`queued_prs` misses a queued pull request: the state of `C20_queuesWF_counterexample`.
-/
namespace BertE.Close
open BertE.Git BertE.Flow BertE.Select

/-- seed commit; development/5.1, stabilization/5.1.2, hotfix/5.1.0 on it; pull request 1 queued on the stabilization
    branch (hence on development/5.1 too), 2 on the hotfix branch, 3 on development/5.1 -/
def close_cxHistory : List EventB :=
  [.other (.extSet "seed" [] false),
   .other (.createBranch (.dev 5 (some 1)) 0),
   .other (.createBranch (.stab 5 1 2) 0),
   .other (.createBranch (.hotfix 5 1 0) 0),
   .other (.extSet "feature/a" [0] false),
   .pr noBuilds ⟨1, "feature/a", .stab 5 1 2, false⟩ .final [],
   .other (.extSet "feature/b" [0] false),
   .pr noBuilds ⟨2, "feature/b", .hotfix 5 1 0, false⟩ .final [],
   .other (.extSet "feature/c" [0] false),
   .pr noBuilds ⟨3, "feature/c", .dev 5 (some 1), false⟩ .final []]

def close_cxSys : Sys := runB exEmpty close_cxHistory

theorem close_cxHistory_admV : AdmAllV exEmpty close_cxHistory := by
  refine ⟨⟨?_, trivial⟩, ⟨⟨?_, ?_, ?_⟩, trivial⟩, ⟨⟨?_, ?_, ?_⟩, ?_⟩, ⟨⟨?_, ?_, ?_⟩, trivial⟩, ⟨?_, trivial⟩, ⟨?_, ?_⟩,
    ⟨?_, trivial⟩, ⟨?_, ?_⟩, ⟨?_, trivial⟩, ⟨?_, ?_⟩, trivial⟩
  · intro p hp; cases hp
  · decide
  · decide
  · exact inclOn_const (c0 := 0) (by decide) (by decide)
  · decide
  · decide
  · exact inclOn_const (c0 := 0) (by decide) (by decide)
  · show ((5, some 1) : Key) ∈ _
    decide
  · decide
  · decide
  · exact inclOn_const (c0 := 0) (by decide) (by decide)
  · show ∀ p ∈ ([0] : List Nat), p < _
    decide
  · decide
  · decide
  · show ∀ p ∈ ([0] : List Nat), p < _
    decide
  · decide
  · decide
  · show ∀ p ∈ ([0] : List Nat), p < _
    decide
  · decide
  · decide

theorem close_cxSys_invV : InvV close_cxSys :=
  close_runV_inv close_cxHistory (close_invV_init true false) close_cxHistory_admV

theorem close_cxSys_noTies : NoTies close_cxSys := by decide +kernel

theorem close_cxSys_keysNodup : Admin.KeysNodup close_cxSys.remote := by unfold Admin.KeysNodup; decide +kernel

theorem close_cxSys_queues : Admin.queuesOf close_cxSys.g close_cxSys.remote =
    [(.dev 5 (some 1), [3, 1]), (.hotfix 5 1 0, [2]), (.stab 5 1 2, [1])] := by decide +kernel

end BertE.Close
