import BertE.Lemmas.C02RecEnqueue
/- C02, recovery of `add_to_queue`: the remote after any prefix of its operations, whatever the server refuses in
   each, and from that which `q/w/` refs of the pull request are left as a function of the crash point `k` and the
   refusals `rej`: `alreadyQueued` of the crash state is computed, not assumed. -/
namespace BertE.Flow
open BertE.Git

/-- `op` is a plain push, and every ref it offers, with the commit offered for it, satisfies `P` -/
def rec_Offers (P : Ref → Commit → Prop) (op : Op) : Prop :=
  ∃ ups, op = Op.push ups ∧ ∀ rc ∈ ups, P rc.1 rc.2

theorem rec_Offers.mono {P Q : Ref → Commit → Prop} {op : Op} (h : rec_Offers P op) (hpq : ∀ x c, P x c → Q x c) :
    rec_Offers Q op := by
  obtain ⟨ups, he, hups⟩ := h
  exact ⟨ups, he, fun rc hrc => hpq _ _ (hups rc hrc)⟩

theorem rec_pushes_frame (g : Graph) (rej : Nat → Ref → Bool) {P : Ref → Commit → Prop} (ops : List Op) (i : Nat)
    (m : RefMap) (x : Ref) (h : ∀ op ∈ ops, rec_Offers P op) :
    (applyOpsAt g rej i m ops).get x = m.get x ∨ ∃ c, P x c ∧ (applyOpsAt g rej i m ops).get x = some c := by
  refine applyOpsAt_preserves (I := fun m' => m'.get x = m.get x ∨ ∃ c, P x c ∧ m'.get x = some c)
    (P := rec_Offers P) (fun rej m' op hI hop => ?_) rej ops i (Or.inl rfl) h
  obtain ⟨ups, rfl, hups⟩ := hop
  rcases applyOp_push_cases g rej ups m' x with h2 | ⟨c, hc, h2⟩
  · rw [h2]
    exact hI
  · exact Or.inr ⟨c, hups _ hc, h2⟩

theorem close_rec_push_rejected (g : Graph) (rej : Ref → Bool) : ∀ (ups : List (Ref × Commit)) (m : RefMap) (x : Ref),
    rej x = true →
    (ups.foldl (fun m rc => if accepts g m rc.1 rc.2 && !rej rc.1 then m.set rc.1 rc.2 else m) m).get x = m.get x
  | [], _, _, _ => rfl
  | rc :: ups, m, x, h => by
    simp only [List.foldl_cons]
    rw [close_rec_push_rejected g rej ups _ x h]
    by_cases hx : rc.1 = x
    · rw [hx, h]; simp
    · split
      · exact RefMap.get_set_ne _ _ (fun he => hx he.symm)
      · rfl

theorem rec_push_fresh (g : Graph) (rej : Ref → Bool) : ∀ (ups : List (Ref × Commit)) (m : RefMap) (x : Ref) (c : Commit),
    (ups.map (·.1)).Nodup → (x, c) ∈ ups → m.get x = none → rej x = false →
    (ups.foldl (fun m rc => if accepts g m rc.1 rc.2 && !rej rc.1 then m.set rc.1 rc.2 else m) m).get x = some c
  | [], _, _, _, _, h, _, _ => nomatch h
  | rc :: ups, m, x, c, hnd, hmem, hnone, hrej => by
    simp only [List.foldl_cons, List.map_cons, List.nodup_cons] at hnd ⊢
    by_cases hx : rc.1 = x
    · have hrc : rc = (x, c) := by
        rcases List.mem_cons.mp hmem with h | h
        · exact h.symm
        · exact absurd (List.mem_map.mpr ⟨(x, c), h, hx.symm⟩) hnd.1
      subst hrc
      have hacc : (accepts g m x c && !rej x) = true := by
        unfold accepts; simp [hnone, hrej]
      simp only [hacc, if_true]
      rw [push_fold_other g rej ups _ x (fun r hr he => hnd.1 (by rw [← he]; exact List.mem_map.mpr ⟨r, hr, rfl⟩))]
      exact RefMap.get_set_eq _ _ _
    · have hmem' : (x, c) ∈ ups := by
        rcases List.mem_cons.mp hmem with h | h
        · exact absurd (by rw [← h]) hx
        · exact h
      apply rec_push_fresh g rej ups _ x c hnd.2 hmem' _ hrej
      split
      · rw [RefMap.get_set_ne _ _ (fun he => hx he.symm)]; exact hnone
      · exact hnone

theorem rec_pushWOps_offers (l : Loc) (pr : PrInfo) (rest : List Dest) : ∀ op ∈ pushWOps l pr rest,
    rec_Offers (fun x c => ∃ d ∈ rest, x = .w d pr.src ∧ l.refs.get x = some c) op := by
  intro op hop
  unfold pushWOps at hop
  split at hop
  · cases hop
  · refine ⟨_, List.mem_singleton.mp hop, fun rc hrc => ?_⟩
    obtain ⟨hmem, hget⟩ := tipsOf_get (x := rc.1) (c := rc.2) hrc
    obtain ⟨d, hd, hde⟩ := List.mem_map.mp hmem
    exact ⟨d, hd, hde.symm, hget⟩

/-- `get_queue_branch` pushes a queue branch that did not exist, on the tip of its destination branch -/
theorem rec_createQ_offers : ∀ (ds : List Dest) (l : Loc), ∀ op ∈ (createQ l ds).2,
    rec_Offers (fun x c => ∃ d, x = .q d ∧ l.refs.get x = none ∧ l.refs.get (.dest d) = some c) op
  | [], _, op, h => by simp [createQ] at h
  | d :: ds, l, op, h => by
    simp only [createQ] at h
    split at h
    · rename_i t hq ht
      rcases List.mem_cons.mp h with rfl | h
      · exact ⟨_, rfl, fun rc hrc => by rw [List.mem_singleton.mp hrc]; exact ⟨d, rfl, hq, ht⟩⟩
      · -- the later pushes are computed on the clone in which `q/d` exists: they concern other queue branches
        refine (rec_createQ_offers ds _ op h).mono ?_
        rintro x c ⟨d', rfl, h1, h2⟩
        have hne : Ref.q d' ≠ .q d := fun e => by rw [e, RefMap.get_set_eq] at h1; cases h1
        rw [RefMap.get_set_ne _ _ hne] at h1
        rw [RefMap.get_set_ne _ _ (by intro e; cases e)] at h2
        exact ⟨d', rfl, h1, h2⟩
    · exact rec_createQ_offers ds l op h

/-- the operations of `add_to_queue` before its final push -/
def close_rec_pre (s : Sys) (pr : PrInfo) (l4 : Loc) : List Op :=
  pushWOps l4 pr ((s.targets pr.dst).drop 1) ++ (createQ l4 (s.targets pr.dst)).2

/-- what they offer: integration branches of the further targets, as the clone has them, and queue branches that
    did not exist, on the tip of their destination branch -/
def rec_PreOffer (s : Sys) (pr : PrInfo) (l4 : Loc) (x : Ref) (c : Commit) : Prop :=
  (∃ d ∈ (s.targets pr.dst).drop 1, x = .w d pr.src ∧ l4.refs.get x = some c) ∨
  (∃ d, x = .q d ∧ s.remote.get x = none ∧ s.remote.get (.dest d) = some c)

variable {s : Sys} {pr : PrInfo} {sc : Commit} {p : Plan} {l4 l8 : Loc}

theorem close_rec_pre_shape (hr : rec_QRun s pr sc p l4 l8) :
    ∀ op ∈ close_rec_pre s pr l4, rec_Offers (rec_PreOffer s pr l4) op := by
  intro op hop
  rcases List.mem_append.mp hop with hop | hop
  · exact (rec_pushWOps_offers _ _ _ op hop).mono (fun _ _ => Or.inl)
  · refine (rec_createQ_offers _ _ op hop).mono ?_
    rintro x c ⟨d, rfl, h1, h2⟩
    refine Or.inr ⟨d, rfl, ?_, ?_⟩
    · rw [← hr.same (.q d) (fun _ _ he => nomatch he)]; exact h1
    · rw [← hr.same (.dest d) (fun _ _ he => nomatch he)]; exact h2

/-- the interrupted remote of `add_to_queue`, at every prefix, whatever is refused in each operation -/
theorem rec_interruptedQ (hr : rec_QRun s pr sc p l4 l8) (rej : Nat → Ref → Bool) (k : Nat) (x : Ref) :
    (observableAt s p rej k).get x = s.remote.get x ∨
    ∃ c, (rec_PreOffer s pr l4 x c ∨ (x ∈ rec_qnames pr (s.targets pr.dst) ∧ l8.refs.get x = some c)) ∧
      (observableAt s p rej k).get x = some c := by
  apply rec_pushes_frame
  intro op hop
  have hop := List.mem_of_mem_take hop
  rw [hr.ops, List.mem_append, List.mem_singleton] at hop
  rcases hop with hop | rfl
  · exact (close_rec_pre_shape hr op hop).mono (fun _ _ => Or.inl)
  · exact ⟨_, rfl, fun rc hrc => Or.inr (tipsOf_get hrc)⟩

theorem rec_interruptedQ_dest (hr : rec_QRun s pr sc p l4 l8) (rej : Nat → Ref → Bool) (k : Nat) (d : Dest) :
    (observableAt s p rej k).get (.dest d) = s.remote.get (.dest d) := by
  rcases rec_interruptedQ hr rej k (.dest d) with h | ⟨_, (⟨_, _, he, _⟩ | ⟨_, he, _⟩) | ⟨hm, _⟩, _⟩
  · exact h
  · cases he
  · cases he
  · simp [rec_qnames] at hm

theorem close_rec_src (hr : rec_QRun s pr sc p l4 l8) (rej : Nat → Ref → Bool) (k : Nat) (n : String) :
    (observableAt s p rej k).get (.other n) = s.remote.get (.other n) := by
  rcases rec_interruptedQ hr rej k (.other n) with h | ⟨_, (⟨_, _, he, _⟩ | ⟨_, he, _⟩) | ⟨hm, _⟩, _⟩
  · exact h
  · cases he
  · cases he
  · simp [rec_qnames] at hm

theorem rec_interruptedQ_w (hr : rec_QRun s pr sc p l4 l8) (rej : Nat → Ref → Bool) (k : Nat) (d : Dest) (n : String) :
    (observableAt s p rej k).get (.w d n) = s.remote.get (.w d n) ∨
    (observableAt s p rej k).get (.w d n) = l4.refs.get (.w d n) := by
  rcases rec_interruptedQ hr rej k (.w d n) with h | ⟨_, (⟨_, _, _, hc⟩ | ⟨_, he, _⟩) | ⟨hm, _⟩, h⟩
  · exact Or.inl h
  · exact Or.inr (h.trans hc.symm)
  · cases he
  · simp [rec_qnames] at hm

theorem close_rec_qw_other (hr : rec_QRun s pr sc p l4 l8) (rej : Nat → Ref → Bool) (k : Nat)
    (i : Nat) (d : Dest) (n : String)
    (hne : ¬ (i = pr.id ∧ n = pr.src ∧ d ∈ s.targets pr.dst)) :
    (observableAt s p rej k).get (.qw i d n) = s.remote.get (.qw i d n) := by
  rcases rec_interruptedQ hr rej k (.qw i d n) with h | ⟨_, (⟨_, _, he, _⟩ | ⟨_, he, _⟩) | ⟨hm, _⟩, _⟩
  · exact h
  · cases he
  · cases he
  · simp only [rec_qnames, List.mem_append, List.mem_map, reduceCtorEq, and_false, exists_false, false_or,
      Ref.qw.injEq] at hm
    obtain ⟨d', hd', h1, h2, h3⟩ := hm
    exact absurd ⟨h1.symm, h3.symm, h2 ▸ hd'⟩ hne

theorem close_rec_pre_state (hr : rec_QRun s pr sc p l4 l8) (g : Graph) (rej : Nat → Ref → Bool) (j : Nat) (x : Ref) :
    (applyOpsAt g rej 0 s.remote ((close_rec_pre s pr l4).take j)).get x = s.remote.get x ∨
    ∃ c, rec_PreOffer s pr l4 x c ∧ (applyOpsAt g rej 0 s.remote ((close_rec_pre s pr l4).take j)).get x = some c :=
  rec_pushes_frame g rej _ 0 s.remote x (fun op hop => close_rec_pre_shape hr op (List.mem_of_mem_take hop))

theorem close_rec_pre_qw (hr : rec_QRun s pr sc p l4 l8) (g : Graph) (rej : Nat → Ref → Bool) (j : Nat)
    (i : Nat) (d : Dest) (n : String) :
    (applyOpsAt g rej 0 s.remote ((close_rec_pre s pr l4).take j)).get (.qw i d n) = s.remote.get (.qw i d n) := by
  rcases close_rec_pre_state hr g rej j (.qw i d n) with h | ⟨_, ⟨_, _, he, _⟩ | ⟨_, he, _⟩, _⟩
  · exact h
  · cases he
  · cases he

theorem close_rec_pre_q (hr : rec_QRun s pr sc p l4 l8) (g : Graph) (rej : Nat → Ref → Bool) (j : Nat) (d : Dest) :
    (applyOpsAt g rej 0 s.remote ((close_rec_pre s pr l4).take j)).get (.q d) = s.remote.get (.q d) ∨
    (s.remote.get (.q d) = none ∧ ∃ t, s.remote.get (.dest d) = some t ∧
      (applyOpsAt g rej 0 s.remote ((close_rec_pre s pr l4).take j)).get (.q d) = some t) := by
  rcases close_rec_pre_state hr g rej j (.q d) with h | ⟨t, ⟨_, _, he, _⟩ | ⟨d', he, h1, h2⟩, h⟩
  · exact Or.inl h
  · cases he
  · cases he
    exact Or.inr ⟨h1, t, h2, h⟩

theorem close_rec_observable (hr : rec_QRun s pr sc p l4 l8) (rej : Nat → Ref → Bool) (k : Nat) :
    (k < p.ops.length ∧
      observableAt s p rej k = applyOpsAt p.g rej 0 s.remote ((close_rec_pre s pr l4).take k)) ∨
    (p.ops.length ≤ k ∧
      observableAt s p rej k = applyOp p.g (rej (p.ops.length - 1))
        (applyOpsAt p.g rej 0 s.remote ((close_rec_pre s pr l4).take (close_rec_pre s pr l4).length))
        (Op.push (tipsOf l8.refs (rec_qnames pr (s.targets pr.dst))))) := by
  have hops : p.ops = close_rec_pre s pr l4 ++ [Op.push (tipsOf l8.refs (rec_qnames pr (s.targets pr.dst)))] := hr.ops
  have hlen : p.ops.length = (close_rec_pre s pr l4).length + 1 := by rw [hops]; simp
  unfold observableAt
  by_cases hk : k < p.ops.length
  · left
    refine ⟨hk, ?_⟩
    rw [hops, List.take_append_of_le_length (by omega)]
  · right
    refine ⟨by omega, ?_⟩
    have hl1 : p.ops.length - 1 = (close_rec_pre s pr l4).length := by omega
    rw [hl1, List.take_of_length_le (by omega), hops, applyOpsAt_append, List.take_length]
    simp only [applyOpsAt, Nat.zero_add]

theorem observableAt_nil (h : p.ops = []) (rej : Nat → Ref → Bool) (k : Nat) :
    observableAt s p rej k = s.remote := by
  rw [observableAt, h, List.take_nil, applyOpsAt]

theorem rec_after_observable (s : Sys) (p : Plan) :
    (s.after p).remote = observableAt s p (fun _ => noRej) p.ops.length := by
  show applyOps _ noRej s.remote _ = _
  unfold observableAt
  rw [List.take_length, applyOpsAt_const]

theorem close_rec_fresh (huq : s.useQueue = true) (hnaq : alreadyQueued s pr = false) :
    ∀ d ∈ s.targets pr.dst, s.remote.get (.qw pr.id d pr.src) = none := by
  intro d hd
  unfold alreadyQueued at hnaq
  rw [huq, Bool.true_and, List.any_eq_false] at hnaq
  have := hnaq d hd
  unfold RefMap.has at this
  cases hg : s.remote.get (.qw pr.id d pr.src) with
  | none => rfl
  | some c => rw [hg] at this; simp at this

theorem close_rec_l8_qw (hr : rec_QRun s pr sc p l4 l8) {d : Dest} (hd : d ∈ s.targets pr.dst) :
    ∃ n, l8.refs.get (.qw pr.id d pr.src) = some n := by
  rw [targets_cons] at hd
  rcases List.mem_cons.mp hd with rfl | hd
  · obtain ⟨n1, h1, _⟩ := hr.first
    exact ⟨n1, h1⟩
  · obtain ⟨pre, post, hsplit⟩ := List.append_of_mem hd
    obtain ⟨n, hn, _⟩ := hr.further pre d post hsplit
    exact ⟨n, hn⟩

/-- which `q/w/` refs of the pull request exist after the interruption, as a function of `k` and `rej` -/
theorem close_rec_qw_exact (hs : s.WF)
    (hr : rec_QRun s pr sc p l4 l8)
    (hfresh : ∀ d ∈ s.targets pr.dst, s.remote.get (.qw pr.id d pr.src) = none)
    (rej : Nat → Ref → Bool) (k : Nat) {d : Dest} (hd : d ∈ s.targets pr.dst) :
    (observableAt s p rej k).get (.qw pr.id d pr.src) =
      if p.ops.length ≤ k ∧ rej (p.ops.length - 1) (.qw pr.id d pr.src) = false
      then l8.refs.get (.qw pr.id d pr.src) else none := by
  rcases close_rec_observable hr rej k with ⟨hk, h⟩ | ⟨hk, h⟩
  · rw [h, close_rec_pre_qw hr, hfresh d hd, if_neg (by omega)]
  · rw [h]
    have hpre := close_rec_pre_qw hr p.g rej (close_rec_pre s pr l4).length pr.id d pr.src
    rw [hfresh d hd] at hpre
    simp only [applyOp]
    by_cases hrj : rej (p.ops.length - 1) (.qw pr.id d pr.src) = true
    · rw [close_rec_push_rejected _ _ _ _ _ hrj, hpre, if_neg (by rw [hrj]; simp)]
    · have hrj' : rej (p.ops.length - 1) (.qw pr.id d pr.src) = false := by simpa using hrj
      rw [if_pos ⟨hk, hrj'⟩]
      obtain ⟨n, hn⟩ := close_rec_l8_qw hr hd
      rw [hn]
      have hnd := pairwise_before_nodup (targets_pairwise hs.sorted pr.dst)
      apply rec_push_fresh p.g _ _ _ _ n (tipsOf_keys_nodup (qnames_nodup pr hnd))
      · exact mem_tipsOf.mpr ⟨mem_qnames.mpr ⟨d, hd, Or.inr rfl⟩, hn⟩
      · exact hpre
      · exact hrj'

theorem rec_after_qw (hs : s.WF)
    (hr : rec_QRun s pr sc p l4 l8)
    (hfresh : ∀ d ∈ s.targets pr.dst, s.remote.get (.qw pr.id d pr.src) = none) {d : Dest}
    (hd : d ∈ s.targets pr.dst) :
    (s.after p).remote.get (.qw pr.id d pr.src) = l8.refs.get (.qw pr.id d pr.src) := by
  rw [rec_after_observable, close_rec_qw_exact hs hr hfresh _ _ hd, if_pos ⟨Nat.le_refl _, rfl⟩]

theorem close_rec_any_and {α : Type} (b : Bool) (f g : α → Bool) : ∀ (l : List α), (∀ d ∈ l, f d = (b && g d)) →
    l.any f = (b && l.any g)
  | [], _ => by simp
  | x :: xs, h => by
    simp only [List.any_cons]
    rw [h x List.mem_cons_self, close_rec_any_and b f g xs (fun d hd => h d (List.mem_cons_of_mem _ hd))]
    cases b <;> simp

/-- `already_in_queue` of the interrupted state, computed -/
theorem close_rec_alreadyQueued (hs : s.WF) (huq : s.useQueue = true)
    (hnaq : alreadyQueued s pr = false) (hr : rec_QRun s pr sc p l4 l8) (rej : Nat → Ref → Bool) (k : Nat) :
    alreadyQueued (interrupted s p rej k) pr =
      (decide (p.ops.length ≤ k) &&
        (s.targets pr.dst).any (fun d => !rej (p.ops.length - 1) (.qw pr.id d pr.src))) := by
  have hfresh := close_rec_fresh huq hnaq
  have key : ∀ d ∈ s.targets pr.dst, (interrupted s p rej k).remote.has (.qw pr.id d pr.src) =
      (decide (p.ops.length ≤ k) && !rej (p.ops.length - 1) (.qw pr.id d pr.src)) := by
    intro d hd
    show ((observableAt s p rej k).get _).isSome = _
    rw [close_rec_qw_exact hs hr hfresh rej k hd]
    obtain ⟨n, hn⟩ := close_rec_l8_qw hr hd
    by_cases hk : p.ops.length ≤ k <;> cases hrj : rej (p.ops.length - 1) (.qw pr.id d pr.src) <;>
      simp [hk, hn]
  have hT : (interrupted s p rej k).targets pr.dst = s.targets pr.dst := rfl
  unfold alreadyQueued
  rw [hT]
  show (s.useQueue && _) = _
  rw [huq, Bool.true_and]
  exact close_rec_any_and _ _ _ _ key

theorem close_rec_executed (hs : s.WF) (huq : s.useQueue = true)
    (hnaq : alreadyQueued s pr = false) (hr : rec_QRun s pr sc p l4 l8) {rej : Nat → Ref → Bool} {k : Nat}
    (h : alreadyQueued (interrupted s p rej k) pr = true) : p.ops.length ≤ k := by
  rw [close_rec_alreadyQueued hs huq hnaq hr rej k, Bool.and_eq_true] at h
  exact of_decide_eq_true h.1

end BertE.Flow
