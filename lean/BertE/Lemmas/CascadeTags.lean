import BertE.Lemmas.CascadeAdd
/- Phases 2 and 3: `update_versions` over the tags and `_update_major_versions` are entry-wise maps of the
   cascade (the keys and the stabilization slots never change); the only failure is a stabilization
   branch that a tag of its line (or the destination hotfix branch) makes obsolete. -/
namespace BertE.Cascade
open Spec

abbrev tagHf (t : Tag) : Int := tagHfrev Cfg.std t

/-- what `update_versions(t)` does to one item -/
def applyTag (t : Tag) (p : Key × BranchSet) : Key × BranchSet :=
  if p.1 = (t.major, some t.minor) then (p.1, tagOnLine t (tagHf t) p.2)
  else if p.1 = (t.major, none) then (p.1, tagOnMajor t p.2)
  else p

/-- the two `raise DeprecatedStabilizationBranch` on the item of the line, for a tag of micro `u` -/
def errAt (s : BranchSet) (u : Nat) : Bool :=
  (match s.hf, s.stb with
   | some h, some st => decide (st.micro = h.micro)
   | _, _ => false) ||
  (match s.stb with
   | some st => decide (st.micro ≤ u)
   | none => false)

def tagErr (c : Cascade) (t : Tag) : Bool :=
  match get? c (t.major, some t.minor) with
  | some s => errAt s t.micro
  | none => false

theorem applyTag_key (t : Tag) (p : Key × BranchSet) : (applyTag t p).1 = p.1 := by
  unfold applyTag; split
  · rfl
  · split <;> rfl

theorem setAt_setAt (c : Cascade) (t : Tag) :
    setAt (setAt c (t.major, some t.minor) (tagOnLine t (tagHf t))) (t.major, none) (tagOnMajor t)
      = c.map (applyTag t) := by
  unfold setAt
  rw [List.map_map]
  apply List.map_congr_left
  intro p _
  simp only [Function.comp, applyTag]
  by_cases h1 : p.1 = (t.major, some t.minor)
  · have : ¬ ((t.major, some t.minor) = ((t.major, none) : Key)) := by simp
    simp [h1]
  · simp only [h1, if_false]

theorem map_applyTag_of_absent {c : Cascade} {t : Tag}
    (h1 : get? c (t.major, some t.minor) = none) (h2 : get? c (t.major, none) = none) :
    c.map (applyTag t) = c := by
  have h1' := get?_none.mp h1
  have h2' := get?_none.mp h2
  conv => rhs; rw [← List.map_id c]
  apply List.map_congr_left
  intro p hp
  simp [applyTag, h1' p hp, h2' p hp]

/-- one `update_versions` -/
theorem updateVersions_eq (c : Cascade) (t : Tag) :
    updateVersions Cfg.std c t =
      if tagErr c t then .error .deprecatedStabilizationBranch else .ok (c.map (applyTag t)) := by
  unfold updateVersions tagErr
  cases h1 : get? c (t.major, some t.minor) with
  | none =>
    cases h2 : get? c (t.major, none) with
    | none => simp [h1, h2, map_applyTag_of_absent h1 h2]
    | some s2 => simp [h1, h2, setAt_setAt]
  | some s =>
    obtain ⟨dev, stb, hf⟩ := s
    simp only [h1, Option.isNone_some, Bool.false_and, Bool.false_eq_true, if_false, Option.bind_some,
      setAt_setAt, errAt]
    cases hf <;> cases stb <;> simp
    rename_i h st
    by_cases e1 : st.micro = h.micro <;> simp [e1]

theorem get?_map {c : Cascade} {F : Key × BranchSet → Key × BranchSet} (hF : ∀ p, (F p).1 = p.1) (k : Key) :
    get? (c.map F) k = (c.find? (fun p => p.1 == k)).map (fun p => (F p).2) := by
  unfold get?
  rw [List.find?_map, Option.map_map,
    show ((fun p : Key × BranchSet => p.1 == k) ∘ F) = fun p => p.1 == k from funext fun p => by simp [hF]]
  rfl

theorem errAt_tagOnLine (t : Tag) (x : Int) (s : BranchSet) (u : Nat) :
    errAt (tagOnLine t x s) u = errAt s u := by
  unfold errAt tagOnLine
  cases s.hf <;> cases s.stb <;> simp
  split <;> rfl

theorem errAt_tagOnMajor (t : Tag) (s : BranchSet) (u : Nat) :
    errAt (tagOnMajor t s) u = errAt s u := by
  unfold errAt tagOnMajor
  rfl

theorem tagErr_map (c : Cascade) (t' t : Tag) : tagErr (c.map (applyTag t')) t = tagErr c t := by
  unfold tagErr
  rw [get?_map (applyTag_key t')]
  unfold get?
  cases c.find? (fun p => p.1 == (t.major, some t.minor)) with
  | none => rfl
  | some p =>
    simp only [Option.map_some]
    unfold applyTag
    split
    · exact errAt_tagOnLine _ _ _ _
    · split
      · exact errAt_tagOnMajor _ _ _
      · rfl

theorem readTags_eq (tags : List Tag) : ∀ c : Cascade,
    readTags Cfg.std c tags =
      if tags.any (tagErr c) then .error .deprecatedStabilizationBranch
      else .ok (c.map fun p => tags.foldl (fun p t => applyTag t p) p) := by
  induction tags with
  | nil => intro c; simp [readTags]
  | cons t ts ih =>
    intro c
    unfold readTags
    rw [updateVersions_eq]
    by_cases h : tagErr c t = true
    · simp [h]
    · simp only [h, Bool.false_eq_true, if_false, List.any_cons, Bool.false_or]
      rw [ih, show tagErr (c.map (applyTag t)) = tagErr c from funext (tagErr_map c t)]
      simp only [List.map_map, List.foldl_cons]
      rfl

def lineMicros (tags : List Tag) (M m : Nat) : List Int :=
  (tags.filter fun t => t.major == M && t.minor == m).map fun t => (t.micro : Int)

def majorMinors (tags : List Tag) (M : Nat) : List Int :=
  (tags.filter fun t => t.major == M).map fun t => (t.minor : Int)

def hfRevs (tags : List Tag) (M m u : Nat) : List Int :=
  (tags.filter fun t => t.major == M && t.minor == m && t.micro == u).map
    fun t => ((t.hfrev.getD 0 : Nat) : Int) + 1

def evolveDev (tags : List Tag) (k : Key) (d : DevB) : DevB :=
  { d with
    micro := match k.2 with
      | some m => maxInts d.micro (lineMicros tags k.1 m)
      | none => d.micro
    latestMinor := match k.2 with
      | some _ => d.latestMinor
      | none => maxInts d.latestMinor (majorMinors tags k.1) }

def evolveHf (tags : List Tag) (k : Key) (h : HfB) : HfB :=
  { h with
    hfrev := match k.2 with
      | some m => maxInts h.hfrev (hfRevs tags k.1 m h.micro)
      | none => h.hfrev }

def evolve (tags : List Tag) (p : Key × BranchSet) : Key × BranchSet :=
  (p.1, ⟨p.2.dev.map (evolveDev tags p.1), p.2.stb, p.2.hf.map (evolveHf tags p.1)⟩)

theorem tagHf_eq (t : Tag) : tagHf t + 1 = ((t.hfrev.getD 0 : Nat) : Int) + 1 := by
  unfold tagHf tagHfrev
  cases t.hfrev <;> simp [Cfg.std]

theorem evolve_nil (p : Key × BranchSet) : evolve [] p = p := by
  obtain ⟨⟨M, mo⟩, dev, stb, hf⟩ := p
  cases mo <;> cases dev <;> cases hf <;>
    simp [evolve, evolveDev, evolveHf, lineMicros, majorMinors, hfRevs, maxInts]

theorem evolve_cons (t : Tag) (ts : List Tag) (p : Key × BranchSet) :
    evolve (t :: ts) p = evolve ts (applyTag t p) := by
  obtain ⟨⟨M, mo⟩, dev, stb, hf⟩ := p
  unfold applyTag
  by_cases h1 : ((M, mo) : Key) = (t.major, some t.minor)
  · simp only [Prod.mk.injEq] at h1
    obtain ⟨rfl, rfl⟩ := h1
    simp only [if_true, evolve, tagOnLine, Option.map_map]
    congr 2
    · cases dev with
      | none => rfl
      | some d =>
        simp [evolveDev, lineMicros, maxInts_cons, Int.max_comm]
    · cases hf with
      | none => rfl
      | some h =>
        simp only [Option.map_some, Option.some.injEq, evolveHf, hfRevs, List.filter_cons, beq_self_eq_true,
          Bool.true_and, Function.comp]
        by_cases hu : h.micro = t.micro
        · simp [hu, maxInts_cons, ← tagHf_eq, Int.max_comm]
        · have : (t.micro == h.micro) = false := by simp; omega
          simp [hu, this]
  · simp only [h1, if_false]
    by_cases h2 : ((M, mo) : Key) = (t.major, none)
    · simp only [Prod.mk.injEq] at h2
      obtain ⟨rfl, rfl⟩ := h2
      simp only [if_true, evolve, tagOnMajor, Option.map_map]
      congr 2
      cases dev with
      | none => rfl
      | some d =>
        simp [evolveDev, majorMinors, maxInts_cons, Int.max_comm]
    · simp only [h2, if_false, evolve]
      have hk : ∀ m, mo = some m → ¬ (t.major = M ∧ t.minor = m) := by
        rintro m rfl ⟨rfl, rfl⟩; exact h1 rfl
      have hk2 : mo = none → t.major ≠ M := by
        rintro rfl rfl; exact h2 rfl
      congr 2
      · cases dev with
        | none => rfl
        | some d =>
          cases mo with
          | none =>
            have := hk2 rfl
            simp [evolveDev, majorMinors, this]
          | some m =>
            have := hk m rfl
            have hb : (t.major == M && t.minor == m) = false :=
              Bool.eq_false_iff.mpr fun h => this (by simpa using h)
            simp [evolveDev, lineMicros, hb]
      · cases hf with
        | none => rfl
        | some h =>
          cases mo with
          | none => simp [evolveHf]
          | some m =>
            have := hk m rfl
            have hb : (t.major == M && t.minor == m && t.micro == h.micro) = false :=
              Bool.eq_false_iff.mpr fun h' => this (by
                simp only [Bool.and_eq_true, beq_iff_eq] at h'
                exact h'.1)
            simp [evolveHf, hfRevs, hb]

theorem foldl_applyTag (tags : List Tag) (p : Key × BranchSet) :
    tags.foldl (fun p t => applyTag t p) p = evolve tags p := by
  induction tags generalizing p with
  | nil => exact (evolve_nil p).symm
  | cons t ts ih => rw [List.foldl_cons, ih, evolve_cons]

theorem readTags_evolve (tags : List Tag) (c : Cascade) :
    readTags Cfg.std c tags =
      if tags.any (tagErr c) then .error .deprecatedStabilizationBranch else .ok (c.map (evolve tags)) := by
  rw [readTags_eq]
  simp only [foldl_applyTag]

def umvEntry (all : Cascade) (p : Key × BranchSet) : Key × BranchSet :=
  match p.1.2 with
  | some _ => p
  | none => (p.1, { p.2 with dev := p.2.dev.map fun d =>
      { d with latestMinor := maxInts d.latestMinor (minorsOf all d.major) } })

theorem umvLoop_eq (all : Cascade) : ∀ c : Cascade, (∀ p ∈ c, p.1.2 = none → p.2.dev.isSome) →
    umvLoop all c = .ok (c.map (umvEntry all)) := by
  intro c
  induction c with
  | nil => intro _; rfl
  | cons p c ih =>
    intro h
    obtain ⟨⟨M, mo⟩, s⟩ := p
    have ih' := ih (fun q hq => h q (List.mem_cons_of_mem _ hq))
    cases mo with
    | some m => simp [umvLoop, ih', umvEntry]
    | none =>
      have := h _ List.mem_cons_self rfl
      cases hd : s.dev with
      | none => simp [hd] at this
      | some d => simp [umvLoop, ih', umvEntry, hd]

end BertE.Cascade
