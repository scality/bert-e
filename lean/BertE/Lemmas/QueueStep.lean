import BertE.Lemmas.EnqueueInv
import BertE.Lemmas.C03
/- The queue merge preserves the invariant (for a selection that is closed downwards). -/
namespace BertE.Flow
open BertE.Git

theorem mergeTargets_other (pr : Nat) (src : String) : ∀ (ts : List Dest) (m : RefMap) (x : Ref),
    (∀ d, x ≠ .dest d) → (mergeTargets pr src m ts).get x = m.get x
  | [], _, _, _ => rfl
  | t :: ts, m, x, hx => by
    simp only [mergeTargets, List.foldl_cons]
    have ih := mergeTargets_other pr src ts
    simp only [mergeTargets] at ih
    rw [ih _ x hx]
    cases m.get (.qw pr t src) with
    | none => rfl
    | some c => exact RefMap.get_set_ne _ _ (hx t)

theorem mergeEntries_other : ∀ (es : List QEntry) (m : RefMap) (x : Ref),
    (∀ d, x ≠ .dest d) → (es.foldl mergeEntry m).get x = m.get x
  | [], _, _, _ => rfl
  | e :: es, m, x, hx => by
    simp only [List.foldl_cons]
    rw [mergeEntries_other es _ x hx]
    exact mergeTargets_other e.pr e.src e.targets m x hx

theorem gone_mem {es : List QEntry} {x : Ref}
    (h : x ∈ es.flatMap (fun e => e.targets.flatMap (fun d => [Ref.qw e.pr d e.src, Ref.w d e.src]))) :
    ∃ e ∈ es, ∃ d ∈ e.targets, x = .qw e.pr d e.src ∨ x = .w d e.src := by
  simp only [List.mem_flatMap, List.mem_cons, List.not_mem_nil, or_false] at h
  obtain ⟨e, he, d, hd, hx⟩ := h
  exact ⟨e, he, d, hd, hx⟩

theorem mergeSelected_inv {s : Sys} (hs : s.WF) (hincl : s.Incl) (hq : QueueInv s) (sel : List Nat) :
    MergeInv s ((s.queue.filter (fun e => sel.contains e.pr)).foldl mergeEntry s.remote) [] := by
  have hmem : ∀ e ∈ s.queue.filter (fun e => sel.contains e.pr), e ∈ s.queue := fun e he => (List.mem_filter.mp he).1
  refine mergeEntries_inv hs hq _ s.remote hmem (hq.horiz.sublist List.filter_sublist)
    ⟨hincl, hs.valid, fun _ _ _ => rfl, fun _ => rfl, ?_⟩
  intro e he d hd t c ht hc
  obtain ⟨c', t', hc', ht', hle⟩ := hq.entry e (hmem e he) d hd
  rw [ht] at ht'; rw [hc] at hc'
  obtain rfl := Option.some.inj ht'; obtain rfl := Option.some.inj hc'
  exact hle

theorem planQueues_valid {s : Sys} (hs : s.WF) (hincl : s.Incl) (hq : QueueInv s) (sel : List Nat) :
    ∀ op ∈ (planQueues s sel).ops, op.Valid (planQueues s sel).g s.remote := by
  unfold planQueues
  simp only
  split
  · exact nil_valid _ _
  · intro op hop
    obtain rfl := List.mem_singleton.mp hop
    have hMI := mergeSelected_inv hs hincl hq sel
    refine ⟨hMI.valid.delRefs _, ?_⟩
    intro d c hc
    rw [get_delRefs] at hc
    split at hc
    · cases hc
    · rw [← hMI.present d, hc]; rfl

theorem planQueues_qinv {s : Sys} (hs : s.WF) (hincl : s.Incl) (hq : QInv s) (sel : List Nat)
    (hdc : DownClosed s sel) : QInv (s.after (planQueues s sel)) := by
  unfold Sys.after planQueues
  simp only
  split
  · exact hq
  · simp only [applyOps, List.foldl_cons, List.foldl_nil, applyOp]
    have hsub : (s.queue.filter (fun e => !sel.contains e.pr)).Sublist s.queue := List.filter_sublist
    split
    · -- the atomic push went through
      simp only [if_true]
      generalize hes : s.queue.filter (fun e => sel.contains e.pr) = es
      have hesq : ∀ e ∈ es, e ∈ s.queue ∧ sel.contains e.pr = true := by
        intro e he; rw [← hes] at he; exact List.mem_filter.mp he
      have hMI := mergeSelected_inv hs hincl hq.base sel
      rw [hes] at hMI
      have hget := mergeEntries_get hq.base es s.remote (fun e he => (hesq e he).1) (fun _ _ _ => rfl)
      generalize hloc1 : es.foldl mergeEntry s.remote = loc1 at hMI hget
      have hother : ∀ x, (∀ d, x ≠ .dest d) → loc1.get x = s.remote.get x := by
        intro x hx; rw [← hloc1]; exact mergeEntries_other es s.remote x hx
      generalize hgone : es.flatMap (fun e => e.targets.flatMap (fun d => [Ref.qw e.pr d e.src, Ref.w d e.src])) = gone
      have hgm : ∀ x ∈ gone, ∃ e ∈ es, ∃ d ∈ e.targets, x = .qw e.pr d e.src ∨ x = .w d e.src := by
        intro x hx; rw [← hgone] at hx; exact gone_mem hx
      have hdest : ∀ d, (delRefs loc1 gone).get (.dest d) = loc1.get (.dest d) := by
        intro d
        rw [get_delRefs, if_neg]
        intro hx
        obtain ⟨_, _, _, _, h | h⟩ := hgm _ hx <;> cases h
      have hqref : ∀ d, (delRefs loc1 gone).get (.q d) = s.remote.get (.q d) := by
        intro d
        rw [get_delRefs, if_neg, hother _ (fun _ he => by cases he)]
        intro hx
        obtain ⟨_, _, _, _, h | h⟩ := hgm _ hx <;> cases h
      have hrem : ∀ e ∈ s.queue.filter (fun e => !sel.contains e.pr), e ∈ s.queue ∧ sel.contains e.pr = false := by
        intro e he
        have := List.mem_filter.mp he
        exact ⟨this.1, by simpa using this.2⟩
      have hqwrem : ∀ e ∈ s.queue.filter (fun e => !sel.contains e.pr), ∀ d,
          qwOf (delRefs loc1 gone) e d = qwOf s.remote e d := by
        intro e he d
        simp only [qwOf]
        rw [get_delRefs, if_neg, hother _ (fun _ he => by cases he)]
        intro hx
        obtain ⟨e', he', _, _, h | h⟩ := hgm _ hx
        · simp only [Ref.qw.injEq] at h
          have := (hesq e' he').2
          rw [← h.1, (hrem e he).2] at this; cases this
        · cases h
      have hpres : ∀ d, ((delRefs loc1 gone).get (.dest d)).isSome = (s.remote.get (.dest d)).isSome := by
        intro d; rw [hdest]; exact hMI.present d
      -- a destination that moved is on the queue commit of a selected entry that is older than every
      -- remaining entry targeting it
      have hbelow : ∀ e ∈ s.queue.filter (fun e => !sel.contains e.pr), ∀ d ∈ e.targets, ∀ t c,
          (delRefs loc1 gone).get (.dest d) = some t → qwOf s.remote e d = some c → s.g.le t c = true := by
        intro e he' d hd t c ht hc
        obtain ⟨he, hns⟩ := hrem e he'
        cases hl : lastTargeting es d with
        | none =>
          rw [hdest, hget d, hl] at ht
          simp only at ht
          obtain ⟨c', t', hc', ht', hle⟩ := hq.base.entry e he d hd
          rw [ht] at ht'; rw [hc] at hc'
          simp only [Option.some.injEq] at ht' hc'; subst ht'; subst hc'
          exact hle
        | some p =>
          rw [hdest, hget d, hl] at ht
          simp only at ht
          obtain ⟨hpes, hpd⟩ := lastTargeting_mem hl
          obtain ⟨hpq, hpsel⟩ := hesq p hpes
          have hne : p ≠ e := by
            intro heq; subst heq; rw [hns] at hpsel; cases hpsel
          have hboth := List.pairwise_and_iff.mpr ⟨hq.base.horiz, hdc⟩
          rcases pairwise_pick hboth hpq he hne with h | h
          · exact h.1 d hpd hd t c ht hc
          · have := h.2 hpsel ⟨d, hd, hpd⟩
            rw [hns] at this; cases this
      refine hq.shrink rfl rfl hsub ?_ (fun d hd => by rw [← hpres]; exact hd) ?_ ?_
        (fun d hd => by rw [hqref] at hd; rw [hpres]; exact hq.qdest d hd)
      · intro x c hx hc
        rw [← hother x hx]
        exact (get_delRefs_eq_some.mp hc).2
      · -- a destination that moved is on a queue commit, which its queue branch contains
        intro d q t hqd htd
        rw [hqref] at hqd
        rw [hdest, hget d] at htd
        cases hl : lastTargeting es d with
        | none => rw [hl] at htd; exact hq.qtip d q t hqd htd
        | some p =>
          rw [hl] at htd
          obtain ⟨hpes, hpd⟩ := lastTargeting_mem hl
          exact hq.qtop p (hesq p hpes).1 d hpd t q htd hqd
      · intro e he d hd
        obtain ⟨_, t, _, ht, _⟩ := hq.base.entry e (hrem e he).1 d hd
        have hsome := hpres d
        rw [ht] at hsome
        obtain ⟨t', ht'⟩ := Option.isSome_iff_exists.mp hsome
        exact ⟨hqref d, hqwrem e he d, t', ht', fun c hc => hbelow e he d hd t' c ht' hc⟩
    · exact hq.restrict rfl rfl hsub (fun _ _ h => h) (fun _ _ _ _ => ⟨rfl, rfl, rfl⟩) hq.qdest

end BertE.Flow
