import BertE.Lemmas.Full2Graph
import BertE.Lemmas.CloseInvQ
/-
The repository part of the invariant of the closed system: `Flow.Inv`, Close's `VX` (so that `Select.Validated` is a
consequence, not a guard) and `QSync`, plus the two facts `Close` takes as hypotheses — monotone commit numbering and
distinct keys of the remote ref map.
-/
namespace BertE.Full2
open BertE.Git BertE.Flow BertE.Close BertE.Select BertE.Admin

structure SysInv (s : Sys) : Prop where
  inv : Inv s
  vx : VX s
  sync : QSync s
  mono : close_Mono s.g
  keys : KeysNodup s.remote

theorem SysInv.invV {s : Sys} (h : SysInv s) : InvV s := ⟨h.inv, h.vx⟩
theorem SysInv.invQ {s : Sys} (h : SysInv s) : InvQ s := ⟨h.invV, h.sync⟩
theorem SysInv.validated {s : Sys} (h : SysInv s) : Validated s := close_validated_of_invV h.invV
theorem SysInv.antisym {s : Sys} (h : SysInv s) : close_Antisym s.g := close_mono_antisym h.mono

theorem full2_step_sysInv {s : Sys} (h : SysInv s) (ev : Event) (hadm : Adm s ev) (hc : AdmC s ev) :
    SysInv (step s ev).1 :=
  ⟨step_inv h.inv ev hadm, close_step_vx h.invV ev hadm hc, close_step_sync h.invV h.sync ev hadm,
    full2_step_mono h.inv h.mono ev hadm, full2_step_keys h.keys ev⟩

theorem full2_sysInv_init (useQueue skipQueue : Bool) : SysInv ⟨Graph.empty, [], [], [], [], useQueue, skipQueue⟩ :=
  ⟨(close_invV_init useQueue skipQueue).inv, (close_invV_init useQueue skipQueue).vx,
    (close_invQ_init useQueue skipQueue).sync, close_mono_empty, List.nodup_nil⟩

/-- admissibility (`Flow.Adm`, `Close.AdmC`) of each event of a history, in the state it is applied to -/
def AdmAllC (s : Sys) : List Event → Prop
  | [] => True
  | ev :: evs => (Adm s ev ∧ AdmC s ev) ∧ AdmAllC (step s ev).1 evs

theorem full2_run_sysInv : ∀ (evs : List Event) {s : Sys}, SysInv s → AdmAllC s evs → SysInv (run s evs)
  | [], _, h, _ => h
  | ev :: evs, _, h, hadm => full2_run_sysInv evs (full2_step_sysInv h ev hadm.1.1 hadm.1.2) hadm.2

theorem full2_exSys_sysInv : SysInv exSys :=
  ⟨close_exSys_invV.inv, close_exSys_invV.vx, close_exSys_invQ.sync, close_exSys_mono, by unfold KeysNodup; decide +kernel⟩

end BertE.Full2
