import BertE.Lemmas.CascadeMain
/- `get_merge_paths` on the final cascade = the declarative merge paths. -/
namespace BertE.Cascade
open Spec

def devsOf (c : Cascade) : List Branch := c.flatMap devBranch

/-- the branches a path starts from on the line `p`: hotfix first, then stabilization -/
def startsOf (p : Key × BranchSet) : List Branch :=
  if p.2.dev.isSome then hfBranch p ++ stbBranch p.2 else []

def pathsFrom : Cascade → List (List Branch)
  | [] => []
  | p :: c => (startsOf p).map (fun s => s :: (devBranch p ++ devsOf c)) ++ pathsFrom c

def pathStep (ret : List (List Branch)) (p : Key × BranchSet) : List (List Branch) :=
  match p.2.dev with
  | none => ret
  | some d =>
    let ret := match p.2.hf with
      | some h => ret ++ [[h.toBranch]]
      | none => ret
    let ret := match p.2.stb with
      | some s => ret ++ [[s.toBranch]]
      | none => ret
    ret.map (· ++ [d.toBranch])

theorem foldl_pathStep (c : Cascade) : ∀ ret : List (List Branch),
    c.foldl pathStep ret = ret.map (· ++ devsOf c) ++ pathsFrom c := by
  induction c with
  | nil => intro ret; simp [devsOf, pathsFrom]
  | cons p c ih =>
    intro ret
    rw [List.foldl_cons, ih]
    obtain ⟨k, dev, stb, hf⟩ := p
    cases dev <;> cases stb <;> cases hf <;>
      simp [pathStep, devsOf, pathsFrom, startsOf, devBranch, hfBranch, stbBranch, List.map_append]

theorem mergePaths_closed (c : Cascade) : mergePaths c = devsOf c :: pathsFrom c := by
  have : mergePaths c = c.foldl pathStep [[]] := rfl
  rw [this, foldl_pathStep]
  simp

def startsAll (c : Cascade) : List Branch := c.flatMap startsOf

theorem pathsFrom_eq {c : Cascade} (hs : Sorted c) (hkd : ∀ p ∈ c, ∀ b ∈ devBranch p, b.key = p.1)
    (hks : ∀ p ∈ c, ∀ b ∈ startsOf p, b.key = p.1) :
    pathsFrom c = (startsAll c).map fun s => s :: (devsOf c).filter fun b => decide (keyLe s.key b.key) := by
  induction c with
  | nil => rfl
  | cons p c ih =>
    rw [Sorted, List.pairwise_cons] at hs
    have ih' := ih hs.2 (fun q hq => hkd q (List.mem_cons_of_mem _ hq))
      (fun q hq => hks q (List.mem_cons_of_mem _ hq))
    simp only [pathsFrom, startsAll, List.flatMap_cons, List.map_append]
    have hcons : devsOf (p :: c) = devBranch p ++ devsOf c := by simp [devsOf]
    have hdc : ∀ b ∈ devsOf c, keyLt p.1 b.key := by
      intro b hb
      obtain ⟨q, hq, hbq⟩ := List.mem_flatMap.mp hb
      rw [hkd q (List.mem_cons_of_mem _ hq) b hbq]
      exact hs.1 q hq
    congr 1
    · apply List.map_congr_left
      intro s hsm
      have hsk := hks p List.mem_cons_self s hsm
      congr 1
      show _ = (devsOf (p :: c)).filter _
      rw [hcons, List.filter_append, hsk]
      congr 1
      · symm; rw [List.filter_eq_self]
        intro b hb
        rw [hkd p List.mem_cons_self b hb]
        simp [keyLe_refl]
      · symm; rw [List.filter_eq_self]
        intro b hb
        simp only [decide_eq_true_eq]
        exact Or.inr (hdc b hb)
    · rw [ih']
      apply List.map_congr_left
      intro s hsm
      obtain ⟨q, hq, hsq⟩ := List.mem_flatMap.mp hsm
      have hsk := hks q (List.mem_cons_of_mem _ hq) s hsq
      congr 1
      rw [hcons, List.filter_append]
      have : (devBranch p).filter (fun b => decide (keyLe s.key b.key)) = [] := by
        rw [List.filter_eq_nil_iff]
        intro b hb
        rw [hkd p List.mem_cons_self b hb, hsk]
        simp only [decide_eq_true_eq]
        exact not_keyLe_iff.mpr (hs.1 q hq)
      rw [this, List.nil_append]

def startLe (a b : Branch) : Bool :=
  decide (keyLt a.key b.key) || (a.key == b.key && (a.isHotfix || !b.isHotfix))

theorem startLe_trans (a b c : Branch) (h1 : startLe a b = true) (h2 : startLe b c = true) : startLe a c = true := by
  simp only [startLe, Bool.or_eq_true, decide_eq_true_eq, Bool.and_eq_true, beq_iff_eq, Bool.not_eq_true'] at *
  rcases h1 with h1 | ⟨e1, h1⟩ <;> rcases h2 with h2 | ⟨e2, h2⟩
  · exact Or.inl (keyLt_trans h1 h2)
  · exact Or.inl (e2 ▸ h1)
  · exact Or.inl (e1 ▸ h2)
  · right
    refine ⟨e1.trans e2, ?_⟩
    rcases h1 with h1 | h1
    · exact Or.inl h1
    · rcases h2 with h2 | h2
      · rw [h1] at h2; cases h2
      · exact Or.inr h2

theorem startLe_total (a b : Branch) : (startLe a b || startLe b a) = true := by
  simp only [startLe, Bool.or_eq_true, decide_eq_true_eq, Bool.and_eq_true, beq_iff_eq, Bool.not_eq_true']
  rcases keyLt_total a.key b.key with h | h | h
  · exact Or.inl (Or.inl h)
  · cases ha : a.isHotfix
    · exact Or.inr (Or.inr ⟨h.symm, Or.inr rfl⟩)
    · exact Or.inl (Or.inr ⟨h, Or.inl rfl⟩)
  · exact Or.inr (Or.inl h)

theorem startLe_of_keyLt {a b : Branch} (h : keyLt a.key b.key) : startLe a b = true := by
  simp [startLe, h]

/-- membership in the list `Spec.pathStarts` sorts -/
theorem mem_startsFilter {bs : List Branch} {d s : Branch} :
    s ∈ bs.filter (fun b => (b.isStab || (b.isHotfix && b == d)) && bs.contains (.dev b.key.1 b.key.2)) ↔
      s ∈ bs ∧ (s.isStab = true ∨ (s.isHotfix = true ∧ s = d)) ∧ Branch.dev s.key.1 s.key.2 ∈ bs := by
  simp only [List.mem_filter, Bool.and_eq_true, Bool.or_eq_true, beq_iff_eq, List.contains_eq_mem,
    decide_eq_true_eq]

/-- on the starts, `startLe` is antisymmetric: one stabilization branch per line, one destination -/
theorem startLe_antisymm {bs : List Branch} {d a b : Branch}
    (hone : ∀ M m u u', Branch.stab M m u ∈ bs → Branch.stab M m u' ∈ bs → u = u')
    (ha : a ∈ bs) (hb : b ∈ bs) (ka : a.isStab = true ∨ (a.isHotfix = true ∧ a = d))
    (kb : b.isStab = true ∨ (b.isHotfix = true ∧ b = d))
    (hab : startLe a b = true) (hba : startLe b a = true) : a = b := by
  simp only [startLe, Bool.or_eq_true, decide_eq_true_eq, Bool.and_eq_true, beq_iff_eq, Bool.not_eq_true'] at hab hba
  have hk : a.key = b.key := by
    rcases hab with h | ⟨h, _⟩
    · rcases hba with h' | ⟨h', _⟩
      · exact (keyLt_asymm h h').elim
      · exact h'.symm
    · exact h
  have hab' := (hab.resolve_left (hk ▸ keyLt_irrefl _)).2
  have hba' := (hba.resolve_left (hk ▸ keyLt_irrefl _)).2
  rcases ka with sa | ⟨fa, rfl⟩ <;> rcases kb with sb | ⟨fb, rfl⟩
  · exact stab_eq_of_key hone ha hb sa sb hk
  · obtain ⟨M, m, u, rfl⟩ := isStab_iff.mp sa
    rw [fb] at hab'
    simp [Branch.isHotfix] at hab'
  · obtain ⟨M, m, u, rfl⟩ := isStab_iff.mp sb
    rw [fa] at hba'
    simp [Branch.isHotfix] at hba'
  · rfl

section
variable {bs : List Branch} {tags : List Tag} {dst : Branch} {c1 : Cascade}

theorem mem_hfBranch {q : Key × BranchSet} (h : Fin3 bs tags dst c1 q) (s : Branch) :
    s ∈ hfBranch q ↔ s = dst ∧ dst.isHotfix = true ∧ dst ∈ bs ∧ dst.key = q.1 := by
  unfold hfBranch
  rw [h.hf]
  cases dst with
  | dev M m => simp [hfSlot, Branch.isHotfix]
  | stab M m u => simp [hfSlot, Branch.isHotfix]
  | hotfix M m u =>
    rw [hfSlot_hotfix]
    by_cases hc : (M, some m) = q.1 ∧ Branch.hotfix M m u ∈ bs
    · simp only [hc, and_self, if_true, Option.map_some, Option.toList_some, List.mem_singleton,
        Branch.isHotfix, Branch.key, and_true]
      constructor
      · rintro rfl; rfl
      · rintro rfl; rfl
    · simp only [hc, if_false, Option.map_none, Option.toList_none, List.not_mem_nil, false_iff, Branch.isHotfix,
        Branch.key, true_and]
      rintro ⟨_, h1, h2⟩
      exact hc ⟨h2, h1⟩

theorem mem_startsOf {q : Key × BranchSet} (h : Fin3 bs tags dst c1 q)
    (hone : ∀ M m u u', Branch.stab M m u ∈ bs → Branch.stab M m u' ∈ bs → u = u') (s : Branch) :
    s ∈ startsOf q ↔ s.key = q.1 ∧ s ∈ bs ∧ (s.isStab = true ∨ (s.isHotfix = true ∧ s = dst)) ∧
      Branch.dev s.key.1 s.key.2 ∈ bs := by
  have hdev := h.dev_isSome
  unfold startsOf
  constructor
  · intro hs
    split at hs
    · rename_i hd
      rcases List.mem_append.mp hs with hs | hs
      · obtain ⟨rfl, h1, h2, hk⟩ := (mem_hfBranch h s).mp hs
        exact ⟨hk, h2, Or.inr ⟨h1, rfl⟩, by rw [hk]; exact hdev.mp hd⟩
      · obtain ⟨h1, h2, hk⟩ := (mem_stbBranch h hone s).mp hs
        exact ⟨hk, h2, Or.inl h1, by rw [hk]; exact hdev.mp hd⟩
    · cases hs
  · rintro ⟨hk, hb, hkind, hd⟩
    rw [hk] at hd
    rw [if_pos (hdev.mpr hd)]
    rcases hkind with h1 | ⟨h1, rfl⟩
    · exact List.mem_append.mpr (Or.inr ((mem_stbBranch h hone s).mpr ⟨h1, hb, hk⟩))
    · exact List.mem_append.mpr (Or.inl ((mem_hfBranch h s).mpr ⟨rfl, h1, hb, hk⟩))

end

theorem startsOf_pairwise {bs : List Branch} {tags : List Tag} {dst : Branch} {c1 : Cascade} {q : Key × BranchSet}
    (h : Fin3 bs tags dst c1 q) : (startsOf q).Pairwise (fun a b => startLe a b = true ∧ a ≠ b) := by
  unfold startsOf
  split
  · rw [List.pairwise_append]
    refine ⟨pairwise_toList _ _, pairwise_toList _ _, ?_⟩
    intro a ha b hb
    obtain ⟨rfl, hH, _, hk⟩ := (mem_hfBranch h a).mp ha
    have hs := stbBranch_isStab q.2 b hb
    have hkb := stbBranch_key h b hb
    constructor
    · simp [startLe, hk, hkb, hH]
    · rintro rfl
      obtain ⟨M, m, u, rfl⟩ := isStab_iff.mp hs
      cases hH
  · exact List.Pairwise.nil

theorem mem_startsAll {bs : List Branch} {dst : Branch} {c0 : Cascade} (r : Rep bs dst c0) (tags : List Tag)
    (s : Branch) : s ∈ startsAll (c3of tags c0) ↔
      s ∈ bs ∧ (s.isStab = true ∨ (s.isHotfix = true ∧ s = dst)) ∧ Branch.dev s.key.1 s.key.2 ∈ bs := by
  have hF := c3_entries r tags
  unfold startsAll
  rw [List.mem_flatMap]
  constructor
  · rintro ⟨q, hq, hsq⟩
    exact ((mem_startsOf (hF q hq) r.oneStab s).mp hsq).2
  · rintro ⟨h2, h3, h4⟩
    have hsk : hotfixSkipped dst s = false := by
      rcases h3 with h3 | ⟨_, rfl⟩
      · exact hotfixSkipped_nonhotfix dst (not_isHotfix_iff.mpr (Or.inr h3))
      · exact hotfixSkipped_self_or _
    obtain ⟨q, hq, hqk⟩ := c3_keys r tags s h2 hsk
    exact ⟨q, hq, (mem_startsOf (hF q hq) r.oneStab s).mpr ⟨hqk.symm, h2, h3, h4⟩⟩

theorem startsAll_eq {bs : List Branch} {dst : Branch} {c0 : Cascade} (r : Rep bs dst c0) (hnd : bs.Nodup)
    (tags : List Tag) : startsAll (c3of tags c0) = pathStarts bs dst := by
  have hF := c3_entries r tags
  have hpw := pairwise_flatMap_gen (c3_sorted r tags) startsOf (fun p hp b hb => ((mem_startsOf (hF p hp) r.oneStab b).mp hb).1)
    (fun p hp => startsOf_pairwise (hF p hp))
    (fun a b h => ⟨startLe_of_keyLt h, by rintro rfl; exact keyLt_irrefl _ h⟩)
  refine eq_mergeSort startLe_trans startLe_total (hpw.imp And.left) ?_ ?_
  · refine (List.perm_ext_iff_of_nodup (hpw.imp And.right) (hnd.sublist List.filter_sublist)).mpr ?_
    intro s
    rw [mem_startsFilter]
    exact mem_startsAll r tags s
  · intro a b ha hb
    obtain ⟨ha1, ha2, _⟩ := mem_startsFilter.mp ha
    obtain ⟨hb1, hb2, _⟩ := mem_startsFilter.mp hb
    exact startLe_antisymm r.oneStab ha1 hb1 ha2 hb2

theorem mergePaths_spec {bs : List Branch} {dst : Branch} {c0 : Cascade} (r : Rep bs dst c0) (hnd : bs.Nodup)
    (tags : List Tag) : mergePaths (c3of tags c0) = Spec.mergePaths bs dst := by
  have hs := c3_sorted r tags
  have hF := c3_entries r tags
  have hdevs : devsOf (c3of tags c0) = allDevs bs := by
    unfold devsOf allDevs
    have := flatMap_dev_eq_sort hnd (c3of tags c0) hs hF (fun _ => true)
      (fun b hb hd _ => c3_keys r tags b hb (by cases b <;> simp_all [hotfixSkipped, Branch.isDev]))
      (fun _ _ => rfl)
    rw [this]
    congr 1
    apply List.filter_congr
    intro b _
    simp
  rw [mergePaths_closed, pathsFrom_eq hs (fun p hp => devBranch_key (hF p hp)) (fun p hp b hb => ((mem_startsOf (hF p hp) r.oneStab b).mp hb).1),
    startsAll_eq r hnd tags, hdevs]
  rfl

end BertE.Cascade
