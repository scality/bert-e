import BertE.Lemmas.PlanValid
/- What `add_to_queue` computes in the clone and what the remote looks like after its pushes. -/
namespace BertE.Flow
open BertE.Git

/-- the clone after the queue merges of `add_to_queue` on the targets `ds` -/
structure Queued (pr : PrInfo) (ds : List Dest) (l l' : Loc) : Prop where
  ok : l'.OK
  ext : Extends l.g l'.g
  frame : ∀ x, (∀ d ∈ ds, x ≠ .q d ∧ x ≠ .qw pr.id d pr.src) → l'.refs.get x = l.refs.get x
  grow : ∀ d ∈ ds, ∃ o n, l.refs.get (.q d) = some o ∧ l'.refs.get (.q d) = some n ∧
      l'.refs.get (.qw pr.id d pr.src) = some n ∧ l'.g.le o n = true
  chain : ds.Pairwise (fun a b => ∀ na nb, l'.refs.get (.q a) = some na → l'.refs.get (.q b) = some nb →
      l'.g.le na nb = true)

theorem Queued.tip_before {pr : PrInfo} {d : Dest} {ds : List Dest} {l1 l' : Loc} {n : Commit} (hd : d ∉ ds)
    (hn : l1.refs.get (.q d) = some n)
    (hrest : Queued pr ds { l1 with refs := l1.refs.set (.qw pr.id d pr.src) n } l') :
    l'.refs.get (.q d) = some n := by
  rw [hrest.frame _ (fun d' hd' => ⟨fun he => hd (by cases he; exact hd'), by intro he; cases he⟩)]
  exact (RefMap.get_set_ne _ _ (by intro he; cases he)).trans hn

theorem Queued.cons {pr : PrInfo} {d : Dest} {ds : List Dest} {l l1 l' : Loc} {o n : Commit}
    (hnd : (d :: ds).Nodup) (hl1 : l1.OK) (hext1 : Extends l.g l1.g)
    (hsame1 : ∀ x, x ≠ .q d → l1.refs.get x = l.refs.get x)
    (ho : l.refs.get (.q d) = some o) (hn : l1.refs.get (.q d) = some n) (hon : l1.g.le o n = true)
    (hrest : Queued pr ds { l1 with refs := l1.refs.set (.qw pr.id d pr.src) n } l')
    (habove : ∀ b ∈ ds, ∀ nb, l'.refs.get (.q b) = some nb → l'.g.le n nb = true) :
    Queued pr (d :: ds) l l' := by
  rw [List.nodup_cons] at hnd
  have hqne : ∀ d' ∈ ds, Ref.q d' ≠ .q d := fun d' hd' he => hnd.1 (by cases he; exact hd')
  have hqd := Queued.tip_before hnd.1 hn hrest
  have hqwd : l'.refs.get (.qw pr.id d pr.src) = some n := by
    rw [hrest.frame _ (fun d' hd' => ⟨(by intro he; cases he), fun he => hnd.1 (by cases he; exact hd')⟩)]
    exact RefMap.get_set_eq _ _ _
  refine ⟨hrest.ok, hext1.trans hrest.ext, ?_, ?_, List.pairwise_cons.mpr ⟨?_, hrest.chain⟩⟩
  · intro x hx
    rw [hrest.frame x (fun d' hd' => hx d' (List.mem_cons_of_mem _ hd'))]
    exact (RefMap.get_set_ne _ _ (hx d List.mem_cons_self).2).trans (hsame1 x (hx d List.mem_cons_self).1)
  · intro d' hd'
    rcases List.mem_cons.mp hd' with rfl | hd''
    · exact ⟨o, n, ho, hqd, hqwd, hrest.ext.le (hl1.valid _ _ hn) hon⟩
    · obtain ⟨o', n', ho', hrest'⟩ := hrest.grow d' hd''
      refine ⟨o', n', ?_, hrest'⟩
      rw [← hsame1 _ (hqne d' hd'')]
      exact (RefMap.get_set_ne _ _ (by intro he; cases he)).symm.trans ho'
  · intro b hb na nb hna hnb
    rw [hqd] at hna; obtain rfl := Option.some.inj hna
    exact habove b hb nb hnb

theorem queueRest_queued {pr : PrInfo} : ∀ (ds : List Dest) {l l' : Loc} {prevQ : Commit}, l.OK →
    prevQ < l.g.size → ds.Nodup → queueRest l pr prevQ ds = some l' →
    Queued pr ds l l' ∧ ∀ d ∈ ds, ∀ n, l'.refs.get (.q d) = some n → l'.g.le prevQ n = true
  | [], l, l', prevQ, hl, _, _, hm => by
    obtain rfl := Option.some.inj hm
    exact ⟨⟨hl, Extends.refl _, fun _ _ => rfl, fun _ hd => (nomatch hd), List.Pairwise.nil⟩, fun _ hd => (nomatch hd)⟩
  | d :: ds, l, l', prevQ, hl, hp, hnd, hm => by
    rw [queueRest] at hm
    split at hm
    · cases hm
    · next wc hw =>
      split at hm
      · cases hm
      · next l1 hm1 =>
        obtain ⟨hl1, hext1, hsame1, o, n, ho, hn, hon, hsn⟩ :=
          Loc.mergeN_spec hl (forall_mem_pair.mpr ⟨hl.valid _ _ hw, hp⟩) hm1
        rw [hn] at hm
        simp only at hm
        have hnlt : n < l1.g.size := hl1.valid _ _ hn
        obtain ⟨hrest, habove⟩ := queueRest_queued ds (hl1.set _ hnlt) hnlt (List.nodup_cons.mp hnd).2 hm
        have hq := Queued.cons hnd hl1 hext1 hsame1 ho hn hon hrest habove
        have hpn : l'.g.le prevQ n = true :=
          hrest.ext.le hnlt (forall_mem_pair.mp hsn).2
        refine ⟨hq, fun d' hd' n' hn' => ?_⟩
        rcases List.mem_cons.mp hd' with rfl | hd''
        · rw [Queued.tip_before (List.nodup_cons.mp hnd).1 hn hrest] at hn'
          obtain rfl := Option.some.inj hn'
          exact hpn
        · exact le_trans hrest.ok.wf hpn (habove d' hd'' n' hn')

/-- post-condition of `queueRest` (the loop of `add_to_queue` after the first target) -/
theorem queueRest_spec {pr : PrInfo} : ∀ (ds : List Dest) {l l' : Loc} {prevQ : Commit}, l.OK →
    prevQ < l.g.size → ds.Nodup → queueRest l pr prevQ ds = some l' →
    l'.OK ∧ Extends l.g l'.g ∧
    (∀ x, (∀ d ∈ ds, x ≠ .q d ∧ x ≠ .qw pr.id d pr.src) → l'.refs.get x = l.refs.get x) ∧
    (∀ d ∈ ds, ∃ o n, l.refs.get (.q d) = some o ∧ l'.refs.get (.q d) = some n ∧
        l'.refs.get (.qw pr.id d pr.src) = some n ∧ l'.g.le o n = true ∧ l'.g.le prevQ n = true) ∧
    ds.Pairwise (fun a b => ∀ na nb, l'.refs.get (.q a) = some na → l'.refs.get (.q b) = some nb →
        l'.g.le na nb = true) := by
  intro ds l l' prevQ hl hp hnd hm
  obtain ⟨h, habove⟩ := queueRest_queued ds hl hp hnd hm
  refine ⟨h.ok, h.ext, h.frame, fun d hd => ?_, h.chain⟩
  obtain ⟨o, n, ho, hn, hqw, hon⟩ := h.grow d hd
  exact ⟨o, n, ho, hn, hqw, hon, habove d hd n hn⟩

theorem tipsOf_keys_sublist (refs : RefMap) : ∀ rs : List Ref, ((tipsOf refs rs).map (·.1)).Sublist rs
  | [] => .slnil
  | r :: rs => by
    have ih := tipsOf_keys_sublist refs rs
    unfold tipsOf at ih ⊢
    simp only [List.filterMap_cons]
    cases refs.get r with
    | none => exact ih.cons r
    | some c => exact ih.cons_cons r

theorem tipsOf_keys_nodup {refs : RefMap} {rs : List Ref} (hnd : rs.Nodup) : ((tipsOf refs rs).map (·.1)).Nodup :=
  hnd.sublist (tipsOf_keys_sublist refs rs)

theorem push_tips_sync (g : Graph) (refs : RefMap) : ∀ (rs : List Ref) (m : RefMap), rs.Nodup →
    (∀ r ∈ rs, ∀ c, refs.get r = some c → accepts g m r c = true) → ∀ (x : Ref),
    (applyOp g noRej m (.push (tipsOf refs rs))).get x =
      if x ∈ rs then (match refs.get x with | some c => some c | none => m.get x) else m.get x
  | [], m, _, _, x => by simp [tipsOf, applyOp]
  | r :: rs, m, hnd, hacc, x => by
    rw [List.nodup_cons] at hnd
    -- the other refs are pushed to a remote that differs at most on `r`
    have hrest : ∀ m' : RefMap, (∀ y, y ≠ r → m'.get y = m.get y) →
        (applyOp g noRej m' (.push (tipsOf refs rs))).get x =
          if x ∈ rs then (match refs.get x with | some c => some c | none => m'.get x) else m'.get x := by
      intro m' hm'
      refine push_tips_sync g refs rs m' hnd.2 (fun r' hr' c hc => ?_) x
      have := hacc r' (List.mem_cons_of_mem _ hr') c hc
      unfold accepts at this ⊢
      rwa [hm' r' (fun he => hnd.1 (he ▸ hr'))]
    cases hr : refs.get r with
    | none =>
      have ht : tipsOf refs (r :: rs) = tipsOf refs rs := by simp [tipsOf, hr]
      rw [ht, hrest m (fun _ _ => rfl)]
      by_cases hx : x = r
      · subst hx; simp [hnd.1, hr]
      · simp [hx]
    | some c =>
      have ht : tipsOf refs (r :: rs) = (r, c) :: tipsOf refs rs := by simp [tipsOf, hr]
      have h1 : applyOp g noRej m (.push ((r, c) :: tipsOf refs rs)) =
          applyOp g noRej (m.set r c) (.push (tipsOf refs rs)) := by
        simp [applyOp, hacc r List.mem_cons_self c hr, noRej]
      rw [ht, h1, hrest (m.set r c) (fun y hy => RefMap.get_set_ne _ _ hy)]
      by_cases hx : x = r
      · subst hx; simp [hnd.1, hr, RefMap.get_set_eq]
      · simp [hx, RefMap.get_set_ne _ _ hx]

theorem push_fold_other (g : Graph) (rej : Ref → Bool) (ups : List (Ref × Commit)) (m : RefMap) (x : Ref)
    (h : ∀ rc ∈ ups, rc.1 ≠ x) :
    (ups.foldl (fun m rc => if accepts g m rc.1 rc.2 && !rej rc.1 then m.set rc.1 rc.2 else m) m).get x = m.get x :=
  applyOp_push_get_of_not_mem g rej h m

theorem pushWOps_other (g : Graph) (rej : Ref → Bool) (l : Loc) (pr : PrInfo) (rest : List Dest) (m : RefMap)
    (x : Ref) (hx : ∀ d src, x ≠ .w d src) : (applyOps g rej m (pushWOps l pr rest)).get x = m.get x := by
  unfold pushWOps
  split
  · rfl
  · refine applyOp_push_get_of_not_mem g rej (fun rc hrc he => ?_) m
    obtain ⟨d, _, hd⟩ := List.mem_map.mp (tipsOf_mem hrc)
    exact hx d pr.src (he ▸ hd.symm)

theorem createQ_apply (g : Graph) : ∀ (ds : List Dest) (l : Loc) (m : RefMap),
    (∀ d, m.get (.q d) = l.refs.get (.q d)) →
    (∀ d, (applyOps g noRej m (createQ l ds).2).get (.q d) = (createQ l ds).1.refs.get (.q d)) ∧
    (∀ x, (∀ d, x ≠ .q d) → (applyOps g noRej m (createQ l ds).2).get x = m.get x ∧
        (createQ l ds).1.refs.get x = l.refs.get x) ∧
    (∀ d, (createQ l ds).1.refs.get (.q d) = l.refs.get (.q d) ∨
          (d ∈ ds ∧ l.refs.get (.q d) = none ∧ (createQ l ds).1.refs.get (.q d) = l.refs.get (.dest d))) ∧
    (∀ d ∈ ds, (l.refs.get (.dest d)).isSome = true → ((createQ l ds).1.refs.get (.q d)).isSome = true)
  | [], l, m, h => ⟨h, fun _ _ => ⟨rfl, rfl⟩, fun _ => Or.inl rfl, fun _ hd => nomatch hd⟩
  | d :: ds, l, m, h => by
    by_cases hnew : l.refs.get (.q d) = none ∧ ∃ t, l.refs.get (.dest d) = some t
    · obtain ⟨hq, t, ht⟩ := hnew
      have hc : createQ l (d :: ds) =
          ((createQ { l with refs := l.refs.set (.q d) t } ds).1,
           Op.push [(.q d, t)] :: (createQ { l with refs := l.refs.set (.q d) t } ds).2) := by
        simp only [createQ, hq, ht]
      rw [hc]
      have hacc : accepts g m (.q d) t = true := accepts_none ((h d).trans hq) t
      have happ : ∀ ops, applyOps g noRej m (Op.push [(.q d, t)] :: ops) = applyOps g noRej (m.set (.q d) t) ops := by
        intro ops; simp [applyOps, applyOp, hacc, noRej]
      simp only [happ]
      have h' : ∀ d', (m.set (.q d) t).get (.q d') = (l.refs.set (.q d) t).get (.q d') := by
        intro d'
        rw [RefMap.get_set, RefMap.get_set, h d']
      obtain ⟨h1, h2, h3, h4⟩ := createQ_apply g ds { l with refs := l.refs.set (.q d) t } (m.set (.q d) t) h'
      have hset : ∀ x, x ≠ .q d → (l.refs.set (.q d) t).get x = l.refs.get x := fun x hx => RefMap.get_set_ne _ _ hx
      have hkeep : (createQ { l with refs := l.refs.set (.q d) t } ds).1.refs.get (.q d) = some t := by
        rcases h3 d with h | ⟨_, hn, _⟩
        · rw [h]; exact RefMap.get_set_eq _ _ _
        · cases (RefMap.get_set_eq l.refs (.q d) t).symm.trans hn
      refine ⟨h1, ?_, ?_, ?_⟩
      · intro x hx
        obtain ⟨ha, hb⟩ := h2 x hx
        exact ⟨ha.trans (RefMap.get_set_ne _ _ (hx d)), hb.trans (hset x (hx d))⟩
      · intro d'
        by_cases hdd : d' = d
        · subst hdd
          exact Or.inr ⟨List.mem_cons_self, hq, hkeep.trans ht.symm⟩
        · have hne : Ref.q d' ≠ Ref.q d := fun he => hdd (Ref.q.inj he)
          rcases h3 d' with h | ⟨hm, hn, hv⟩
          · exact Or.inl (h.trans (hset _ hne))
          · exact Or.inr ⟨List.mem_cons_of_mem _ hm, (hset _ hne).symm.trans hn,
              hv.trans (hset _ (by intro he; cases he))⟩
      · intro d' hd' hs
        rcases List.mem_cons.mp hd' with rfl | hd''
        · rw [hkeep]; rfl
        · exact h4 d' hd'' (by rw [← hset (.dest d') (by intro he; cases he)] at hs; exact hs)
    · -- the queue branch exists already, or there is no destination to create it from
      have hc : createQ l (d :: ds) = createQ l ds := by
        simp only [createQ]
        split
        · rename_i t hq ht; exact absurd ⟨hq, t, ht⟩ hnew
        · rfl
      rw [hc]
      obtain ⟨h1, h2, h3, h4⟩ := createQ_apply g ds l m h
      refine ⟨h1, h2, fun d' => (h3 d').imp id (fun ⟨hm, r⟩ => ⟨List.mem_cons_of_mem _ hm, r⟩), ?_⟩
      intro d' hd' hs
      rcases List.mem_cons.mp hd' with rfl | hd''
      · cases hq : l.refs.get (.q d') with
        | some q0 =>
          rcases h3 d' with h | ⟨_, hn, _⟩
          · rw [h, hq]; rfl
          · rw [hq] at hn; cases hn
        | none =>
          obtain ⟨t, ht⟩ := Option.isSome_iff_exists.mp hs
          exact absurd ⟨hq, t, ht⟩ hnew
      · exact h4 d' hd'' hs

end BertE.Flow
