-- Root of the library: every property file (and through them the model, lemmas and generated tables).
import BertE.Props.C01
import BertE.Props.C02
import BertE.Props.C03
import BertE.Props.C04
import BertE.Props.C05
import BertE.Props.C06
import BertE.Props.C07
import BertE.Props.C08
import BertE.Props.C09
import BertE.Props.C10
import BertE.Props.C11
import BertE.Props.C12
import BertE.Props.C13
import BertE.Props.C14
import BertE.Props.C15
import BertE.Props.C16
import BertE.Props.C17
import BertE.Props.C18
import BertE.Props.C19
import BertE.Props.C20
import BertE.Drv.Git
import BertE.Drv.Eval
import BertE.Model.QValidate
import BertE.Drv.QValidate
import BertE.Lemmas.QValidate
import BertE.Lemmas.QValidateEval
import BertE.Drv.Select
import BertE.Drv.Full
import BertE.Props.Full
import BertE.Drv.Conv
